import PytezosModel.Core.HashSha2
import PytezosModel.Core.HashBlake2b
/-! The concrete hash functions of pytezos, built from the executable `Core.Hash` implementations:

* `RealHash.cks v` — the Base58Check checksum, first four bytes of `SHA-256 (SHA-256 v)` (`base58.b58encode_check`);
* `RealHash.blake v` — `blake2b(v, digest_size=32).digest()` (`_hash_tuple`, `blake2b_32`, `get_key_hash`, …).

The property theorems stay stated for an ARBITRARY checksum / hash function; these instances are what the drivers run
(so that the model itself produces the `tz1…` / `expr…` / `Lo…` / `vh…` text the real code returns) and what the
`…_concrete` corollaries and the kernel-evaluated known-answer examples in the Props files are about.  Only the shape
facts the abstract theorems ask for are proved here (digest length, byte range); that the functions ARE SHA-256 /
BLAKE2b is tied to `hashlib` by the correspondence runs and to published vectors by the known-answer examples. -/
namespace RealHash
open Core.Hash

/-- first four bytes of double SHA-256 -/
def cks (v : List Nat) : List Nat := (sha256 (sha256 v)).take 4

/-- BLAKE2b with a 32-byte digest -/
def blake (v : List Nat) : List Nat := blake2b32 v

/-! ### shape of the digests -/

theorem beBytes_length (w n : Nat) : (beBytes w n).length = w := by simp [beBytes]

theorem beBytes_lt (w n : Nat) : ∀ b ∈ beBytes w n, b < 256 := by
  intro b hb
  simp only [beBytes, List.mem_map, List.mem_range] at hb
  obtain ⟨i, _, rfl⟩ := hb
  omega

theorem leBytes_length (w n : Nat) : (leBytes w n).length = w := by simp [leBytes]

theorem leBytes_lt (w n : Nat) : ∀ b ∈ leBytes w n, b < 256 := by
  intro b hb
  simp only [leBytes, List.mem_map, List.mem_range] at hb
  obtain ⟨i, _, rfl⟩ := hb
  omega

theorem flatMap_const_length {α} (f : α → List Nat) (w : Nat) (hf : ∀ x, (f x).length = w) (l : List α) :
    (l.flatMap f).length = w * l.length := by
  induction l with
  | nil => simp
  | cons a l ih => simp only [List.flatMap_cons, List.length_append, hf, ih, List.length_cons]; rw [Nat.mul_succ]; omega

theorem sha256Block_size (h : Array UInt32) (b : ByteArray) (off : Nat) : (sha256Block h b off).size = 8 := by
  unfold sha256Block
  simp only [Id.run, bind, pure, forIn]
  rfl

theorem foldl_size {α γ} (f : Array α → γ → Array α) (n : Nat) (hf : ∀ a x, (f a x).size = n) (l : List γ)
    (a : Array α) (ha : a.size = n) : (l.foldl f a).size = n := by
  induction l generalizing a with
  | nil => exact ha
  | cons x l ih => exact ih _ (hf _ _)

/-- `sha256` is the big-endian rendering of eight 32-bit words -/
theorem sha256_words (msg : List Nat) :
    ∃ h : Array UInt32, h.size = 8 ∧ sha256 msg = h.toList.flatMap fun x => beBytes 4 x.toNat := by
  unfold sha256
  simp only [Id.run, Std.Legacy.Range.forIn_eq_forIn_range', Std.Legacy.Range.size, Nat.sub_zero,
    Nat.add_one_sub_one, Nat.div_one, List.forIn_pure_yield_eq_foldl, bind_pure_comp, map_pure]
  exact ⟨_, foldl_size _ 8 (fun _ _ => sha256Block_size ..) _ _ rfl, rfl⟩

theorem sha256_length (msg : List Nat) : (sha256 msg).length = 32 := by
  obtain ⟨h, hs, e⟩ := sha256_words msg
  rw [e, flatMap_const_length _ 4 (fun x => beBytes_length 4 _), Array.length_toList, hs]

theorem sha256_bytes (msg : List Nat) : ∀ b ∈ sha256 msg, b < 256 := by
  obtain ⟨h, _, e⟩ := sha256_words msg
  rw [e]
  intro b hb
  obtain ⟨x, _, hx⟩ := List.mem_flatMap.mp hb
  exact beBytes_lt 4 _ b hx

theorem cks_length (v : List Nat) : (cks v).length = 4 := by
  simp [cks, List.length_take, sha256_length]

theorem cks_bytes (v : List Nat) : ∀ b ∈ cks v, b < 256 :=
  fun b hb => sha256_bytes _ b (List.mem_of_mem_take hb)

theorem forIn_push_size {α} (g : Nat → α) (n : Nat) (a : Array α) :
    (Id.run (forIn [0:n] a fun i acc => pure (ForInStep.yield (acc.push (g i))))).size = a.size + n := by
  simp [Std.Legacy.Range.forIn_eq_forIn_range', Std.Legacy.Range.size]

/-- Whatever the rounds computed, the value returned is that of the last loop, which pushes eight words onto an empty
array; `exact` sees this by unfolding the `do` block, without touching the rounds. -/
theorem blake2bCompress_size (h : Array UInt64) (blk : ByteArray) (off t : Nat) (last : Bool) :
    (blake2bCompress h blk off t last).size = 8 := by
  unfold blake2bCompress
  cases last <;> exact forIn_push_size _ 8 _

/-- `blake` is the first 32 bytes of the little-endian rendering of eight 64-bit words -/
theorem blake_words (msg : List Nat) :
    ∃ h : Array UInt64, h.size = 8 ∧ blake msg = (h.toList.flatMap fun x => leBytes 8 x.toNat).take 32 := by
  unfold blake blake2b32 blake2b
  simp only [Id.run, Std.Legacy.Range.forIn_eq_forIn_range', Std.Legacy.Range.size, Nat.sub_zero,
    Nat.add_one_sub_one, Nat.div_one, List.forIn_pure_yield_eq_foldl, bind_pure_comp, map_pure]
  refine ⟨_, foldl_size _ 8 (fun _ _ => blake2bCompress_size ..) _ _ ?_, rfl⟩
  simp [blake2bIV]

theorem blake_length (msg : List Nat) : (blake msg).length = 32 := by
  obtain ⟨h, hs, e⟩ := blake_words msg
  rw [e, List.length_take, flatMap_const_length _ 8 (fun x => leBytes_length 8 _), Array.length_toList, hs]
  rfl

theorem blake_bytes (msg : List Nat) : ∀ b ∈ blake msg, b < 256 := by
  obtain ⟨h, _, e⟩ := blake_words msg
  rw [e]
  intro b hb
  obtain ⟨x, _, hx⟩ := List.mem_flatMap.mp (List.mem_of_mem_take hb)
  exact leBytes_lt 8 _ b hx

end RealHash
