import PytezosModel.Proofs.C20TySimple
/-! C20 — type preservation for every instruction: induction on the fuel, mutually over instructions, sequences, the ITER
loop and the MAP loop.  A successful run of a checked program ends in a state whose active stack has the computed
types, whose protected prefix is untouched, and in which no ill-typed store happened (`typedStores` still true). -/
namespace Impl.Tickets

/-- the run ended normally, so the checker did not say "always fails", and the final state has the computed types -/
def ResOk (pre : List Val) (r : TyRes) (s' : State) : Prop := ∃ Γ' act', r = some Γ' ∧ Shape pre act' s' ∧ STy act' Γ'

def TypedAs (t : Ty) (xs : List Val) : Prop := ∀ x ∈ xs, x.typeOf = t ∧ x.wt = true

theorem tyInstr_simple {c : Cfg} {s s' : State} {i : Instr} {Γ : List Ty} (h : simple c s i = some (.ok s')) :
    tyInstr c i Γ = (tySimple c i Γ).map some := by
  unfold tyInstr
  split
  -- the last clause of `tyInstr` is the statement; the others are instructions `simple` does not answer `ok` on
  case h_13 => rfl
  all_goals cases h

theorem duplicate_eq {c : Cfg} {v r : Val} (h : duplicate c v = .ok r) : r = v := by
  unfold duplicate at h
  split at h <;> split at h <;> cases h <;> rfl

/-- two branches that agree: whichever ended normally has the types computed for the conditional -/
theorem ResOk.join {pre : List Val} {r1 r2 r : TyRes} {s' : State} (hj : joinRes r1 r2 = some r) :
    (ResOk pre r1 s' → ResOk pre r s') ∧ (ResOk pre r2 s' → ResOk pre r s') := by
  cases r1 with
  | none => cases hj; exact ⟨fun ⟨_, _, e, _⟩ => (nomatch e), id⟩
  | some a =>
    cases r2 with
    | none => cases hj; exact ⟨id, fun ⟨_, _, e, _⟩ => nomatch e⟩
    | some b =>
      obtain ⟨hab, rfl⟩ := guard_some hj
      cases eq_of_beq hab
      exact ⟨id, id⟩

theorem zip_pairs_typed {k v : Ty} : ∀ (keys : List Atom) (vals : List Val), (∀ a ∈ keys, a.ty = k) →
    (∀ x ∈ vals, x.typeOf = v ∧ x.wt = true) → TypedAs (.pair k v) ((keys.zip vals).map fun (a, x) => Val.pair (.atom a) x)
  | [], _, _, _ | _ :: _, [], _, _ => fun _ hx => nomatch hx
  | a :: as, x :: xs, hk, hv => by
    obtain ⟨hka, hk⟩ := List.forall_mem_cons.mp hk
    obtain ⟨⟨h1, h2⟩, hv⟩ := List.forall_mem_cons.mp hv
    exact List.forall_mem_cons.mpr ⟨⟨congr (congrArg _ hka) h1, h2⟩, zip_pairs_typed as xs hk hv⟩

theorem take_length_of_le {α : Type} {n : Nat} {l : List α} (h : n ≤ l.length) : (l.take n).length = n := by
  rw [List.length_take]; omega

theorem cons_checked {α : Type} {l : List Ty} {k : Ty → List Ty → Option α} {y : α}
    (h : (match l with | t :: rest => k t rest | [] => none) = some y) : ∃ t rest, l = t :: rest ∧ k t rest = some y := by
  cases l with
  | nil => cases h
  | cons t rest => exact ⟨t, rest, rfl, h⟩

theorem loop_checked {o : Option TyRes} {Γ Γ' : List Ty} {r : TyRes}
    (h : (match o with | some r => if loopOk r Γ then some (some Γ') else none | none => none) = some r) :
    ∃ rb, o = some rb ∧ loopOk rb Γ = true ∧ r = some Γ' := by
  cases o with
  | none => cases h
  | some rb => obtain ⟨hl, rfl⟩ := guard_some h; exact ⟨rb, rfl, hl, rfl⟩

theorem branches_checked {o1 o2 : Option TyRes} {r : TyRes}
    (h : (match o1, o2 with | some r1, some r2 => joinRes r1 r2 | _, _ => none) = some r) :
    ∃ r1 r2, o1 = some r1 ∧ o2 = some r2 ∧ joinRes r1 r2 = some r := by
  cases o1 <;> cases o2 <;> first | cases h | exact ⟨_, _, rfl, rfl, h⟩

theorem dip_checked {o : Option TyRes} {g : List Ty → List Ty} {r : TyRes}
    (h : (match o with | some (some Δ') => some (some (g Δ')) | r => r) = some r) :
    ∃ rb, o = some rb ∧ ∀ Δ', rb = some Δ' → r = some (g Δ') := by
  cases o with
  | none => cases h
  | some rb =>
    cases rb with
    | none => exact ⟨_, rfl, fun _ e => nomatch e⟩
    | some Δ' => exact ⟨_, rfl, fun _ e => by cases e; exact (Option.some.inj h).symm⟩

mutual
  theorem exec_typed {c : Cfg} (ok2 : CfgOk2 c) : ∀ (f : Nat) (i : Instr) (pre act : List Val) (s s' : State) (Γ : List Ty)
      (r : TyRes), tyInstr c i Γ = some r → Shape pre act s → STy act Γ → exec c f i s = .ok s' → ResOk pre r s'
    | 0, _, _, _, _, _, _, _, _, _, _, h => nomatch h
    | f + 1, i, pre, act, s, s', Γ, r, ht, hs, hty, h => by
      cases hsi : simple c s i with
      | some r0 =>
        obtain rfl : r0 = .ok s' := (exec_simple hsi).symm.trans h
        rw [tyInstr_simple hsi] at ht
        obtain ⟨Γ', hts, rfl⟩ := Option.map_eq_some_iff.mp ht
        obtain ⟨act', h1, h2⟩ := simple_typed ok2 i hts hs hty hsi
        exact ⟨Γ', act', rfl, h1, h2⟩
      | none =>
      cases i with
      | dup =>
        obtain ⟨a, Δ, rfl, ht⟩ := cons_checked ht
        obtain ⟨_, rfl⟩ := guard_some ht
        obtain ⟨top, hpk, h⟩ := bind_ok h
        obtain ⟨d, hd, h⟩ := bind_ok h
        cases h
        obtain rfl := duplicate_eq hd
        obtain ⟨rest, rfl⟩ := hs.of_peek hpk
        obtain ⟨_, e, hw, hrest⟩ := hty.uncons
        cases e
        exact ⟨_, _, rfl, hs.push _, STy.cons hw rfl (STy.cons hw rfl hrest)⟩
      | dupN n =>
        obtain ⟨_, ht⟩ := guard_none ht
        obtain ⟨a, tl, hdrop, ht⟩ := cons_checked ht
        obtain ⟨_, rfl⟩ := guard_some ht
        obtain ⟨_, h⟩ := guard_ok h
        have hlen : n - 1 ≤ act.length := by
          rw [hty.length]; have := congrArg List.length hdrop
          simp only [List.length_drop, List.length_cons] at this; omega
        obtain ⟨s1, hp, hs1, _, _⟩ := hs.protect (n - 1) hlen
        have h := bind_eq hp h
        obtain ⟨top, hpk, h⟩ := bind_ok h
        obtain ⟨d, hd, h⟩ := bind_ok h
        obtain ⟨rest, hx⟩ := hs1.of_peek hpk
        have hd' := hty.drop (n - 1)
        rw [hx, hdrop] at hd'
        obtain ⟨_, e, hw, _⟩ := hd'.uncons
        obtain ⟨s2, hr, hs2, _, _⟩ := hs1.restore
        rw [take_length_of_le hlen] at hr
        have h := bind_eq hr h
        cases h
        rw [List.take_append_drop] at hs2
        rw [duplicate_eq hd]
        exact ⟨_, _, rfl, hs2.push _, STy.cons hw (List.cons.inj e).1.symm hty⟩
      | dig n =>
        obtain ⟨Γ', ht1, rfl⟩ := Option.map_eq_some_iff.mp ht
        obtain ⟨t, tl, hdrop, ht2⟩ := cons_checked ht1
        cases ht2
        have hlen : n ≤ act.length := by
          rw [hty.length]; have := congrArg List.length hdrop
          simp only [List.length_drop, List.length_cons] at this; omega
        obtain ⟨s1, hp, hs1, _, _⟩ := hs.protect n hlen
        have h := bind_eq hp h
        obtain ⟨⟨x, s2⟩, hpop, h⟩ := bind_ok h
        obtain ⟨rest, Δ, e, hx, hs2, hrest⟩ := typed_pop1 hs1 (hty.drop n) hpop
        rw [hdrop] at e
        cases e
        obtain ⟨s3, hr, hs3, _, _⟩ := hs2.restore
        rw [take_length_of_le hlen] at hr
        have h := bind_eq hr h
        cases h
        exact ⟨_, _, rfl, hs3.push _, STy.cons hx rfl ((hty.take n).append hrest)⟩
      | dug n =>
        obtain ⟨Γ', ht1, rfl⟩ := Option.map_eq_some_iff.mp ht
        obtain ⟨t, tl, rfl, ht2⟩ := cons_checked ht1
        obtain ⟨hn, ht3⟩ := guard_some ht2
        cases ht3
        obtain ⟨⟨x, s1⟩, hpop, h⟩ := bind_ok h
        obtain ⟨rest, Δ, e, hx, hs1, hrest⟩ := typed_pop1 hs hty hpop
        cases e
        have hlen : n ≤ rest.length := hrest.length ▸ hn
        obtain ⟨s2, hp, hs2, _, _⟩ := hs1.protect n hlen
        have h := bind_eq hp h
        obtain ⟨s3, hr, hs3, _, _⟩ := (hs2.push x).restore
        rw [take_length_of_le hlen] at hr
        obtain rfl : s3 = s' := Except.ok.inj (hr.symm.trans h)
        exact ⟨_, _, rfl, hs3, (hrest.take n).append (STy.cons hx rfl (hrest.drop n))⟩
      | dip body =>
        obtain ⟨a, Δ, rfl, ht⟩ := cons_checked ht
        obtain ⟨rb, hts, hrb⟩ := dip_checked ht
        obtain ⟨x, rest, rfl, hx1, hx2, hrest⟩ := hty.cons_inv
        obtain ⟨s1, hp, hs1, _, _⟩ := hs.protect 1 (Nat.succ_le_succ (Nat.zero_le _))
        have h := bind_eq hp h
        obtain ⟨s2, hb, h⟩ := bind_ok h
        obtain ⟨Δ', act2, rfl, hs2, hty2⟩ := execSeq_typed ok2 f body (pre ++ [x]) rest s1 s2 Δ rb hts hs1 hrest hb
        obtain rfl := hrb _ rfl
        obtain ⟨s3, hr, hs3, _, _⟩ := hs2.restore
        obtain rfl : s3 = s' := Except.ok.inj (hr.symm.trans h)
        exact ⟨_, _, rfl, hs3, STy.cons hx1 hx2 hty2⟩
      | dipN n body =>
        obtain ⟨hn, ht⟩ := guard_none ht
        obtain ⟨rb, hts, hrb⟩ := dip_checked ht
        have hlen : n ≤ act.length := by rw [hty.length]; omega
        obtain ⟨s1, hp, hs1, _, _⟩ := hs.protect n hlen
        have h := bind_eq hp h
        obtain ⟨s2, hb, h⟩ := bind_ok h
        obtain ⟨Δ', act2, rfl, hs2, hty2⟩ := execSeq_typed ok2 f body _ _ s1 s2 _ rb hts hs1 (hty.drop n) hb
        obtain rfl := hrb _ rfl
        obtain ⟨s3, hr, hs3, _, _⟩ := hs2.restore
        rw [take_length_of_le hlen] at hr
        obtain rfl : s3 = s' := Except.ok.inj (hr.symm.trans h)
        exact ⟨_, _, rfl, hs3, (hty.take n).append hty2⟩
      | seq body => exact execSeq_typed ok2 f body pre act s s' Γ r ht hs hty h
      | ifNone bt bf =>
        obtain ⟨⟨o, s1⟩, hpop, h⟩ := bind_ok h
        obtain ⟨rest, Δ, rfl, hw, hs1, hrest⟩ := typed_pop1 hs hty hpop
        cases o with
        | none t =>
          obtain ⟨r1, r2, h1, _, hj⟩ := branches_checked ht
          exact (ResOk.join hj).1 (execSeq_typed ok2 f bt pre rest s1 s' Δ r1 h1 hs1 hrest h)
        | some v =>
          obtain ⟨r1, r2, _, h2, hj⟩ := branches_checked ht
          exact (ResOk.join hj).2
            (execSeq_typed ok2 f bf pre _ _ s' (v.typeOf :: Δ) r2 h2 (hs1.push v) (STy.cons hw rfl hrest) h)
        | _ => cases h
      | ifLeft bt bf =>
        obtain ⟨⟨o, s1⟩, hpop, h⟩ := bind_ok h
        obtain ⟨rest, Δ, rfl, hw, hs1, hrest⟩ := typed_pop1 hs hty hpop
        cases o with
        | left v rt =>
          obtain ⟨r1, r2, h1, _, hj⟩ := branches_checked ht
          exact (ResOk.join hj).1
            (execSeq_typed ok2 f bt pre _ _ s' (v.typeOf :: Δ) r1 h1 (hs1.push v) (STy.cons hw rfl hrest) h)
        | right lt v =>
          obtain ⟨r1, r2, _, h2, hj⟩ := branches_checked ht
          exact (ResOk.join hj).2
            (execSeq_typed ok2 f bf pre _ _ s' (v.typeOf :: Δ) r2 h2 (hs1.push v) (STy.cons hw rfl hrest) h)
        | _ => cases h
      | iter body =>
        obtain ⟨⟨src, s1⟩, hpop, h⟩ := bind_ok h
        obtain ⟨rest, Δ, rfl, hw, hs1, hrest⟩ := typed_pop1 hs hty hpop
        obtain ⟨els, he, h⟩ := bind_ok h
        -- the checker's rules for `list a`, `set a` and `map k v` are one rule at the element type
        have fin : ∀ a, TypedAs a els → tyInstr c (.iter body) (.list a :: Δ) = some r → ResOk pre r s' := by
          intro a hel ht
          obtain ⟨rb, hts, hl, rfl⟩ := loop_checked ht
          obtain ⟨act', h1, h2⟩ := iterLoop_typed ok2 f body els pre rest s1 s' a Δ rb hts hl hel hs1 hrest h
          exact ⟨_, _, rfl, h1, h2⟩
        cases src with
        | list t xs => cases he; exact fin t ((wtList_iff t _).mp hw) ht
        | set t xs =>
          cases he
          simp only [Val.wt, Bool.and_eq_true, List.all_eq_true, beq_iff_eq] at hw
          exact fin t (List.forall_mem_map.mpr fun a ha => ⟨hw.2 a ha, rfl⟩) ht
        | map big kt vt keys vals removed =>
          cases big with
          | true => cases ht
          | false =>
            cases he
            have wf := mapWT_iff.mp hw
            exact fin (.pair kt vt) (zip_pairs_typed keys vals wf.ktys wf.vtys) ht
        | pair l r => cases ht
        | _ => cases he
      | map body =>
        obtain ⟨⟨src, s1⟩, hpop, h⟩ := bind_ok h
        obtain ⟨rest, Δ, rfl, hw, hs1, hrest⟩ := typed_pop1 hs hty hpop
        cases src with
        | list t xs =>
          obtain ⟨rb, hts, hl, rfl⟩ := loop_checked ht
          obtain ⟨⟨ys, s2⟩, hm, h⟩ := bind_ok h
          obtain ⟨act2, hs2, hty2, hys⟩ := mapLoop_typed ok2 f body xs [] pre rest s1 ys s2 t t Δ rb hts hl
            ((wtList_iff t _).mp hw) (fun _ hy => nomatch hy) hs1 hrest hm
          cases ys with
          | nil => cases h; exact ⟨_, _, rfl, hs2.push _, STy.cons hw rfl hty2⟩
          | cons y ys' =>
            obtain ⟨_, h⟩ := guard_ok' h
            cases h
            have hy := (hys y List.mem_cons_self).1
            refine ⟨_, _, rfl, hs2.push _, STy.cons ?_ (congrArg _ hy) hty2⟩
            rw [hy]; exact (wtList_iff _ _).mpr hys
        | map big kt vt keys vals removed =>
          cases big with
          | true => cases ht
          | false =>
            obtain ⟨rb, hts, hl, rfl⟩ := loop_checked ht
            obtain ⟨els, he, h⟩ := bind_ok h
            cases he
            obtain ⟨⟨ys, s2⟩, hm, h⟩ := bind_ok h
            have wf := mapWT_iff.mp hw
            obtain ⟨act2, hs2, hty2, hys⟩ := mapLoop_typed ok2 f body _ [] pre rest s1 ys s2 (.pair kt vt) vt Δ rb hts hl
              (zip_pairs_typed keys vals wf.ktys wf.vtys) (fun _ hy => nomatch hy) hs1 hrest hm
            cases ys with
            | nil => cases h; exact ⟨_, _, rfl, hs2.push _, STy.cons hw rfl hty2⟩
            | cons y ys' =>
              obtain ⟨hcond, h⟩ := guard_ok' h
              cases h
              simp only [Bool.and_eq_true, beq_iff_eq] at hcond
              have hy := (hys y List.mem_cons_self).1
              refine ⟨_, _, rfl, hs2.push _, STy.cons ?_ (congrArg _ hy) hty2⟩
              rw [hy]; exact mapWT_iff.mpr ⟨hcond.1.symm, wf.nodup, wf.ktys, hys⟩
        | set t xs => cases ht
        | _ => cases h
      | exec => cases ht          -- the checker rejects EXEC
      | _ => cases hsi
  theorem execSeq_typed {c : Cfg} (ok2 : CfgOk2 c) : ∀ (f : Nat) (is : List Instr) (pre act : List Val) (s s' : State)
      (Γ : List Ty) (r : TyRes), tySeq c is Γ = some r → Shape pre act s → STy act Γ → execSeq c f is s = .ok s' → ResOk pre r s'
    | 0, _, _, _, _, _, _, _, _, _, _, h => nomatch h
    | f + 1, [], pre, act, s, s', Γ, r, ht, hs, hty, h => by
      cases h; cases ht
      exact ⟨_, _, rfl, hs, hty⟩
    | f + 1, i :: is, pre, act, s, s', Γ, r, ht, hs, hty, h => by
      obtain ⟨s1, h1, h⟩ := bind_ok h
      -- `tySeq` goes on only after a result that is not "always fails"; a failing head does not end normally
      cases hti : tyInstr c i Γ with
      | none => rw [tySeq, hti] at ht; cases ht
      | some ri =>
        obtain ⟨Γ1, act1, rfl, hs1, hty1⟩ := exec_typed ok2 f i pre act s s1 Γ ri hti hs hty h1
        rw [tySeq, hti] at ht
        exact execSeq_typed ok2 f is pre act1 s1 s' Γ1 r ht hs1 hty1 h
  theorem iterLoop_typed {c : Cfg} (ok2 : CfgOk2 c) : ∀ (f : Nat) (body : List Instr) (xs : List Val) (pre act : List Val)
      (s s' : State) (a : Ty) (Δ : List Ty) (rb : TyRes), tySeq c body (a :: Δ) = some rb → loopOk rb Δ = true → TypedAs a xs →
      Shape pre act s → STy act Δ → iterLoop c f body xs s = .ok s' → ∃ act', Shape pre act' s' ∧ STy act' Δ
    | 0, _, _, _, _, _, _, _, _, _, _, _, _, _, _, h => nomatch h
    | f + 1, _, [], pre, act, s, s', a, Δ, rb, _, _, _, hs, hty, h => by cases h; exact ⟨_, hs, hty⟩
    | f + 1, body, x :: xs, pre, act, s, s', a, Δ, rb, hts, hl, hxs, hs, hty, h => by
      obtain ⟨sb, hb, h⟩ := bind_ok h
      obtain ⟨⟨hx1, hx2⟩, hxs⟩ := List.forall_mem_cons.mp hxs
      obtain ⟨Γ1, act1, rfl, hs1, hty1⟩ :=
        execSeq_typed ok2 f body pre _ _ sb (a :: Δ) rb hts (hs.push x) (STy.cons hx2 hx1 hty) hb
      obtain rfl : Γ1 = Δ := eq_of_beq hl
      exact iterLoop_typed ok2 f body xs pre act1 sb s' a Γ1 _ hts hl hxs hs1 hty1 h
  theorem mapLoop_typed {c : Cfg} (ok2 : CfgOk2 c) : ∀ (f : Nat) (body : List Instr) (xs acc : List Val) (pre act : List Val)
      (s : State) (ys : List Val) (s' : State) (a b : Ty) (Δ : List Ty) (rb : TyRes), tySeq c body (a :: Δ) = some rb →
      loopOk rb (b :: Δ) = true → TypedAs a xs → TypedAs b acc → Shape pre act s → STy act Δ →
      mapLoop c f body xs acc s = .ok (ys, s') → ∃ act', Shape pre act' s' ∧ STy act' Δ ∧ TypedAs b ys
    | 0, _, _, _, _, _, _, _, _, _, _, _, _, _, _, _, _, _, _, h => nomatch h
    | f + 1, _, [], acc, pre, act, s, ys, s', a, b, Δ, rb, _, _, _, hacc, hs, hty, h => by
      cases h
      exact ⟨_, hs, hty, fun y hy => hacc y (List.mem_reverse.mp hy)⟩
    | f + 1, body, x :: xs, acc, pre, act, s, ys, s', a, b, Δ, rb, hts, hl, hxs, hacc, hs, hty, h => by
      obtain ⟨sb, hb, h⟩ := bind_ok h
      obtain ⟨⟨y, sc⟩, hpop, h⟩ := bind_ok h
      obtain ⟨⟨hx1, hx2⟩, hxs⟩ := List.forall_mem_cons.mp hxs
      obtain ⟨Γ1, act1, rfl, hs1, hty1⟩ :=
        execSeq_typed ok2 f body pre _ _ sb (a :: Δ) rb hts (hs.push x) (STy.cons hx2 hx1 hty) hb
      obtain rfl : Γ1 = b :: Δ := eq_of_beq hl
      obtain ⟨rest, Δ', e, hy, hs2, hrest⟩ := typed_pop1 hs1 hty1 hpop
      cases e
      exact mapLoop_typed ok2 f body xs (y :: acc) pre rest sc ys s' a _ _ _ hts hl hxs
        (List.forall_mem_cons.mpr ⟨⟨rfl, hy⟩, hacc⟩) hs2 hrest h
end

/-- a checked program run on a well typed start stack: the final stack has the types the checker computed.  That the
start stack is consistent (`LC items`) is given back as well, for the conservation theorem of `Props/C20` -/
theorem run_typed {c : Cfg} (ok2 : CfgOk2 c) {fuel : Nat} {prog : List Instr} {items : List Val} {self : String} {s' : State}
    (hw : wellTyped c prog items = true) (h : run c fuel prog (State.start items self) = .ok s') :
    LC items ∧ ∃ Γ', tySeq c prog (items.map Val.typeOf) = some (some Γ') ∧ Shape [] s'.items s' ∧ STy s'.items Γ' := by
  obtain ⟨hwt, hts⟩ := (Bool.and_eq_true _ _).mp hw
  have hty : STy items (items.map Val.typeOf) := ⟨fun v hv => List.all_eq_true.mp hwt v hv, rfl⟩
  obtain ⟨r, hr⟩ := Option.isSome_iff_exists.mp hts
  obtain ⟨_, h⟩ := guard_ok' h
  obtain ⟨Γ', act', rfl, hs, ha⟩ := execSeq_typed ok2 fuel prog [] items _ s' _ r hr ⟨rfl, rfl, rfl⟩ hty h
  obtain rfl : s'.items = act' := hs.2.1
  exact ⟨hty.lc, Γ', hr, hs, ha⟩

end Impl.Tickets
