import PytezosModel.Crypto.RealHash
/-! SHA-256 once more, over plain `Nat` words and lists: `Core.Hash.sha256Nat`, with the proof that it is the
`Core.Hash.sha256` of the model on every message (`sha256_eq_nat`).

The model is written to be compiled (`UInt32`, arrays, `for` loops); evaluating it inside the kernel is slow.  The
version here uses only what the kernel computes well: `Nat` arithmetic on literals (done by GMP), structural
recursion, structures read by projection, and lists that are built by consing and read from the front.  (A list
grown by `++ [x]` is a tower of suspended appends that every later lookup walks through again; a lookup far into a
list, or a match many patterns deep, costs more than the arithmetic of a round.)  A known-answer test rewrites with
`sha256_eq_nat` (or `RealHash.cks_eq_nat`) and then evaluates.

The proof is a simulation: an array `a` of the model stands for the list `words32 a` of its values; each `for` loop is
a `List.foldl` over `List.range'`, and goes to the matching recursion by induction on the number of iterations. -/
namespace Core.Hash

/-- rotation to the right within `bits` bits, for `x < 2 ^ bits` and `0 < n < bits` -/
def rotrNat (bits x n : Nat) : Nat := x >>> n ||| x <<< (bits - n) % 2 ^ bits

/-- bytes are reduced mod 256, as `toBytes` does -/
def be32 (a b c d : Nat) : Nat := (a % 256) <<< 24 ||| (b % 256) <<< 16 ||| (c % 256) <<< 8 ||| d % 256

/-- past the end of `p` the bytes are 0, as with `get!` -/
def be32Words : Nat → List Nat → List Nat
  | 0, _ => []
  | n + 1, a :: b :: c :: d :: p => be32 a b c d :: be32Words n p
  | n + 1, p => be32 (p.getD 0 0) (p.getD 1 0) (p.getD 2 0) (p.getD 3 0) :: be32Words n (p.drop 4)

/-- the sixteen latest words of the message schedule, `w1` the latest -/
structure Sha256Window where (w1 w2 w3 w4 w5 w6 w7 w8 w9 w10 w11 w12 w13 w14 w15 w16 : Nat)

def sha256SchedFrom : Nat → Sha256Window → List Nat
  | 0, _ => []
  | n + 1, s =>
    let s0 := rotrNat 32 s.w15 7 ^^^ rotrNat 32 s.w15 18 ^^^ s.w15 >>> 3
    let s1 := rotrNat 32 s.w2 17 ^^^ rotrNat 32 s.w2 19 ^^^ s.w2 >>> 10
    let w := (s1 + s.w7 + s0 + s.w16) % 2 ^ 32
    w :: sha256SchedFrom n
      ⟨w, s.w1, s.w2, s.w3, s.w4, s.w5, s.w6, s.w7, s.w8, s.w9, s.w10, s.w11, s.w12, s.w13, s.w14, s.w15⟩

def sha256WordsNat (p : List Nat) : List Nat :=
  match be32Words 16 p with
  | [a0, a1, a2, a3, a4, a5, a6, a7, a8, a9, a10, a11, a12, a13, a14, a15] =>
    [a0, a1, a2, a3, a4, a5, a6, a7, a8, a9, a10, a11, a12, a13, a14, a15] ++
      sha256SchedFrom 48 ⟨a15, a14, a13, a12, a11, a10, a9, a8, a7, a6, a5, a4, a3, a2, a1, a0⟩
  | w => w

/-- the working variables `a … h` of FIPS 180-4 §6.2.2 -/
structure Sha256Vars where (a b c d e f g h : Nat)

def sha256RoundNat (s : Sha256Vars) (k w : Nat) : Sha256Vars :=
  let S1 := rotrNat 32 s.e 6 ^^^ rotrNat 32 s.e 11 ^^^ rotrNat 32 s.e 25
  let ch := s.e &&& s.f ^^^ (2 ^ 32 - 1 - s.e) &&& s.g
  let t1 := (s.h + S1 + ch + k + w) % 2 ^ 32
  let S0 := rotrNat 32 s.a 2 ^^^ rotrNat 32 s.a 13 ^^^ rotrNat 32 s.a 22
  let maj := s.a &&& s.b ^^^ s.a &&& s.c ^^^ s.b &&& s.c
  let t2 := (S0 + maj) % 2 ^ 32
  ⟨(t1 + t2) % 2 ^ 32, s.a, s.b, s.c, (s.d + t1) % 2 ^ 32, s.e, s.f, s.g⟩

def sha256RoundsNat : Nat → Sha256Vars → List UInt32 → List Nat → Sha256Vars
  | 0, s, _, _ => s
  | n + 1, s, ks, ws => sha256RoundsNat n (sha256RoundNat s (ks.headD 0).toNat (ws.headD 0)) ks.tail ws.tail

def sha256BlockNat (h : List Nat) (p : List Nat) : List Nat :=
  let w := sha256WordsNat p
  let i : Sha256Vars := ⟨h.getD 0 0, h.getD 1 0, h.getD 2 0, h.getD 3 0, h.getD 4 0, h.getD 5 0, h.getD 6 0, h.getD 7 0⟩
  let s := sha256RoundsNat 64 i sha256K.toList w
  [(i.a + s.a) % 2 ^ 32, (i.b + s.b) % 2 ^ 32, (i.c + s.c) % 2 ^ 32, (i.d + s.d) % 2 ^ 32,
   (i.e + s.e) % 2 ^ 32, (i.f + s.f) % 2 ^ 32, (i.g + s.g) % 2 ^ 32, (i.h + s.h) % 2 ^ 32]

def sha256Nat (msg : List Nat) : List Nat :=
  let p := mdPad 64 8 msg
  let h := (List.range' 0 (p.length / 64)).foldl (fun h i => sha256BlockNat h (p.drop (64 * i)))
    (sha256H0.toList.map (·.toNat))
  h.flatMap (beBytes 4)

theorem get!_toBytes (p : List Nat) (i : Nat) : ((toBytes p).get! i).toNat = p.getD i 0 % 256 := by
  rw [toBytes, ByteArray.get!, getElem!_def, Array.getElem?_map, List.getElem?_toArray, List.getD_eq_getElem?_getD]
  cases p[i]? <;> rfl

theorem size_toBytes (p : List Nat) : (toBytes p).size = p.length := by
  rw [toBytes, ByteArray.size, Array.size_map, List.size_toArray]

theorem getD_drop (p : List Nat) (k j : Nat) : (p.drop k).getD j 0 = p.getD (k + j) 0 := by
  rw [List.getD_eq_getElem?_getD, List.getElem?_drop, List.getD_eq_getElem?_getD]

theorem be32Words_succ (n : Nat) (p : List Nat) :
    be32Words (n + 1) p = be32 (p.getD 0 0) (p.getD 1 0) (p.getD 2 0) (p.getD 3 0) :: be32Words n (p.drop 4) := by
  match p with
  | _ :: _ :: _ :: _ :: _ => rfl
  | [] | [_] | [_, _] | [_, _, _] => rfl

theorem length_be32Words (n : Nat) (p : List Nat) : (be32Words n p).length = n := by
  induction n generalizing p with
  | zero => rfl
  | succ n ih => rw [be32Words_succ, List.length_cons, ih]

theorem exists_of_length_16 {α} (l : List α) (h : l.length = 16) :
    ∃ a0 a1 a2 a3 a4 a5 a6 a7 a8 a9 a10 a11 a12 a13 a14 a15,
      l = [a0, a1, a2, a3, a4, a5, a6, a7, a8, a9, a10, a11, a12, a13, a14, a15] :=
  match l, h with
  | [a0, a1, a2, a3, a4, a5, a6, a7, a8, a9, a10, a11, a12, a13, a14, a15], _ =>
    ⟨a0, a1, a2, a3, a4, a5, a6, a7, a8, a9, a10, a11, a12, a13, a14, a15, rfl⟩

theorem getD_reverse (l : List Nat) (j k : Nat) (h : j + k + 1 = l.length) : l.reverse.getD j 0 = l.getD k 0 := by
  rw [List.getD_eq_getElem?_getD, List.getD_eq_getElem?_getD, List.getElem?_reverse (by omega)]
  congr 2; omega

def words32 (a : Array UInt32) : List Nat := a.toList.map (·.toNat)

/-- holds beyond the end of the array too: `get!` gives the default `0` there -/
theorem getElem!_words32 (a : Array UInt32) (i : Nat) : a[i]!.toNat = (words32 a).getD i 0 := by
  rw [words32, List.getD_eq_getElem?_getD, List.getElem?_map, Array.getElem?_toList, getElem!_def]
  cases a[i]? <;> rfl

theorem getElem!_toList (a : Array UInt32) (i : Nat) : a[i]! = a.toList.getD i 0 := by
  rw [List.getD_eq_getElem?_getD, Array.getElem?_toList, getElem!_def]
  cases a[i]? <;> rfl

theorem words32_push (a : Array UInt32) (x : UInt32) : words32 (a.push x) = words32 a ++ [x.toNat] := by
  simp only [words32, Array.toList_push, List.map_append, List.map_cons, List.map_nil]

theorem rotr32_toNat (x n : UInt32) (h0 : 0 < n.toNat) (h : n.toNat < 32) :
    (rotr32 x n).toNat = rotrNat 32 x.toNat n.toNat := by
  have e : (32 - n).toNat = 32 - n.toNat := UInt32.toNat_sub_of_le _ _ (UInt32.le_iff_toNat_le.mpr (Nat.le_of_lt h))
  rw [rotr32, rotrNat, UInt32.toNat_or, UInt32.toNat_shiftRight, UInt32.toNat_shiftLeft, e,
    Nat.mod_eq_of_lt h, Nat.mod_eq_of_lt (Nat.sub_lt (by decide) h0)]

theorem byte_shiftLeft_lt (b k n : Nat) (hb : b < 2 ^ 8) (h : 8 + k ≤ n) : b <<< k < 2 ^ n :=
  calc b <<< k = b * 2 ^ k := Nat.shiftLeft_eq ..
    _ < 2 ^ 8 * 2 ^ k := Nat.mul_lt_mul_of_pos_right hb (Nat.two_pow_pos k)
    _ = 2 ^ (8 + k) := (Nat.pow_add ..).symm
    _ ≤ 2 ^ n := Nat.pow_le_pow_right (by decide) h

theorem toNat_byte_shiftLeft32 (b : UInt8) (k : UInt32) (h : k.toNat ≤ 24) :
    (b.toUInt32 <<< k).toNat = b.toNat <<< k.toNat := by
  rw [UInt32.toNat_shiftLeft, UInt8.toNat_toUInt32, Nat.mod_eq_of_lt (Nat.lt_of_le_of_lt h (by decide)),
    Nat.mod_eq_of_lt (byte_shiftLeft_lt _ _ 32 b.toNat_lt (by omega))]

theorem words32_load (p : List Nat) (off n t : Nat) (w : Array UInt32) :
    words32 ((List.range' t n).foldl (fun w t => w.push
        (((toBytes p).get! (off + 4 * t)).toUInt32 <<< 24 ||| ((toBytes p).get! (off + 4 * t + 1)).toUInt32 <<< 16 |||
          ((toBytes p).get! (off + 4 * t + 2)).toUInt32 <<< 8 ||| ((toBytes p).get! (off + 4 * t + 3)).toUInt32)) w)
      = words32 w ++ be32Words n (p.drop (off + 4 * t)) := by
  induction n generalizing t w with
  | zero => rw [List.range'_zero, List.foldl_nil, be32Words, List.append_nil]
  | succ n ih =>
    rw [List.range'_succ, List.foldl_cons, ih, words32_push, be32Words_succ, List.append_assoc, List.drop_drop]
    simp (disch := decide) only [UInt32.toNat_or, toNat_byte_shiftLeft32, UInt8.toNat_toUInt32, UInt32.reduceToNat,
      be32, get!_toBytes, getD_drop, Nat.add_zero, Nat.mul_add, Nat.add_assoc]
    rfl

def Sha256Window.ofList (r : List Nat) : Sha256Window :=
  ⟨r.getD 0 0, r.getD 1 0, r.getD 2 0, r.getD 3 0, r.getD 4 0, r.getD 5 0, r.getD 6 0, r.getD 7 0, r.getD 8 0,
    r.getD 9 0, r.getD 10 0, r.getD 11 0, r.getD 12 0, r.getD 13 0, r.getD 14 0, r.getD 15 0⟩

theorem sha256WordsNat_eq (p : List Nat) :
    sha256WordsNat p = be32Words 16 p ++ sha256SchedFrom 48 (.ofList (be32Words 16 p).reverse) := by
  obtain ⟨a0, a1, a2, a3, a4, a5, a6, a7, a8, a9, a10, a11, a12, a13, a14, a15, e⟩ :=
    exists_of_length_16 _ (length_be32Words 16 p)
  rw [sha256WordsNat, e]
  rfl

/-- The array has `t` entries when the loop reaches `t`, so its entry `t - j` is entry `j - 1` from the end, which is
where the window keeps it. -/
theorem words32_sched (n t : Nat) (w : Array UInt32) (hs : (words32 w).length = t) (ht : 16 ≤ t) :
    words32 ((List.range' t n).foldl (fun w t => w.push
        ((rotr32 w[t - 2]! 17 ^^^ rotr32 w[t - 2]! 19 ^^^ w[t - 2]! >>> 10) + w[t - 7]! +
          (rotr32 w[t - 15]! 7 ^^^ rotr32 w[t - 15]! 18 ^^^ w[t - 15]! >>> 3) + w[t - 16]!)) w)
      = words32 w ++ sha256SchedFrom n (.ofList (words32 w).reverse) := by
  induction n generalizing t w with
  | zero => rw [List.range'_zero, List.foldl_nil, sha256SchedFrom, List.append_nil]
  | succ n ih =>
    rw [List.range'_succ, List.foldl_cons,
      ih (t + 1) _ (by rw [words32_push, List.length_append, hs, List.length_singleton]) (by omega),
      words32_push, List.reverse_append, List.append_assoc]
    simp (disch := decide) only [UInt32.toNat_add, UInt32.toNat_xor, UInt32.toNat_shiftRight, rotr32_toNat,
      getElem!_words32, UInt32.reduceToNat, Nat.reduceMod, Nat.mod_add_mod]
    rw [← getD_reverse _ 1 (t - 2) (by omega), ← getD_reverse _ 6 (t - 7) (by omega),
      ← getD_reverse _ 14 (t - 15) (by omega), ← getD_reverse _ 15 (t - 16) (by omega)]
    rfl

/-- the state `σ` of the model's loop is the tuple `vars32` reads -/
theorem foldl_sha256Rounds {σ} (φ : σ → Sha256Vars) (f : σ → Nat → σ) (ks : List UInt32) (ws : List Nat)
    (H : ∀ s t, φ (f s t) = sha256RoundNat (φ s) (ks.getD t 0).toNat (ws.getD t 0)) (n t : Nat) (s : σ) :
    φ ((List.range' t n).foldl f s) = sha256RoundsNat n (φ s) (ks.drop t) (ws.drop t) := by
  induction n generalizing t s with
  | zero => rfl
  | succ n ih =>
    rw [List.range'_succ, List.foldl_cons, ih, H, sha256RoundsNat, List.tail_drop, List.tail_drop]
    simp only [List.headD_eq_head?_getD, List.head?_drop, List.getD_eq_getElem?_getD]

/-- the state of the round loop of `sha256Block` — the `do` notation packs the eight `let mut` variables into the
nested pair `(a, bb, c, d, e, f, g, hh)` — as `Sha256Vars` -/
def vars32 (s : UInt32 × UInt32 × UInt32 × UInt32 × UInt32 × UInt32 × UInt32 × UInt32) : Sha256Vars :=
  ⟨s.1.toNat, s.2.1.toNat, s.2.2.1.toNat, s.2.2.2.1.toNat, s.2.2.2.2.1.toNat, s.2.2.2.2.2.1.toNat,
    s.2.2.2.2.2.2.1.toNat, s.2.2.2.2.2.2.2.toNat⟩

theorem sha256Block_toNat (h : Array UInt32) (p : List Nat) (off : Nat) :
    words32 (sha256Block h (toBytes p) off) = sha256BlockNat (words32 h) (p.drop off) := by
  unfold sha256Block
  simp only [Id.run, Std.Legacy.Range.forIn_eq_forIn_range', Std.Legacy.Range.size, Nat.sub_zero,
    Nat.add_one_sub_one, Nat.div_one, List.forIn_pure_yield_eq_foldl, bind_pure_comp, map_pure]
  generalize hw0 : List.foldl _ (Array.mkEmpty 64) (List.range' 0 16) = w0
  generalize hw : List.foldl _ w0 (List.range' 16 (64 - 16)) = w
  generalize hs : List.foldl _ _ (List.range' 0 64) = s
  have e0 : words32 w0 = be32Words 16 (p.drop off) := by
    rw [← hw0, words32_load]; rfl
  have ew : words32 w = words32 w0 ++ sha256SchedFrom 48 (.ofList (words32 w0).reverse) := by
    rw [← hw]
    exact words32_sched 48 16 w0 (by rw [e0, length_be32Words]) (Nat.le_refl 16)
  have es : vars32 s = sha256RoundsNat 64 (vars32 (h[0]!, h[1]!, h[2]!, h[3]!, h[4]!, h[5]!, h[6]!, h[7]!))
      sha256K.toList (words32 w) := by
    rw [← hs]
    refine foldl_sha256Rounds vars32 _ _ _ (fun s t => ?_) 64 0 _
    simp (disch := decide) only [vars32, sha256RoundNat, UInt32.toNat_add, UInt32.toNat_xor, UInt32.toNat_and,
      UInt32.toNat_not, rotr32_toNat, getElem!_toList sha256K, getElem!_words32, UInt32.reduceToNat, Nat.mod_add_mod,
      Nat.add_mod_mod]
    rfl
  rw [sha256BlockNat, sha256WordsNat_eq, ← e0, ← ew]
  simp only [← getElem!_words32]
  simp only [vars32] at es
  rw [← es]
  simp only [words32, pure, List.map_cons, List.map_nil, UInt32.toNat_add]

theorem sha256_eq_nat (msg : List Nat) : sha256 msg = sha256Nat msg := by
  unfold sha256 sha256Nat
  simp only [Id.run, Std.Legacy.Range.forIn_eq_forIn_range', Std.Legacy.Range.size, Nat.sub_zero,
    Nat.add_one_sub_one, Nat.div_one, List.forIn_pure_yield_eq_foldl, bind_pure_comp, map_pure]
  rw [size_toBytes, ← List.flatMap_map]
  refine congrArg (List.flatMap (beBytes 4)) (List.foldl_hom words32 ?_).symm
  exact fun h i => (sha256Block_toNat h _ _).symm

end Core.Hash

theorem RealHash.cks_eq_nat : RealHash.cks = fun v => (Core.Hash.sha256Nat (Core.Hash.sha256Nat v)).take 4 := by
  funext v
  rw [RealHash.cks, Core.Hash.sha256_eq_nat, Core.Hash.sha256_eq_nat]
