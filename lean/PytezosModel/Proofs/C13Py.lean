import PytezosModel.Michelson.EntrypointsPy
import PytezosModel.Proofs.C13
/-! C13, sections 4–6 of `Props/C13`: `from_python_object` of a call against `from_parameters`
(`fromPythonObject_root`, `_branch`), and `Micheline.match` on type expressions as written (`matchTy_spec`; `parse_name`
and with it `matchTy` up to the order of the annotations, `SameUpToAnnotOrder`). -/
namespace Impl.Entrypoints
open Spec.Entrypoints

theorem nodeAt_erase (q : QTy) (path : Path) : nodeAt q.erase path = (nodeAtQ q path).map QTy.erase := by
  induction path generalizing q with
  | nil => cases q <;> simp [nodeAt, nodeAtQ]
  | cons b path ih =>
    cases q with
    | leaf f t p ty => simp [nodeAt, nodeAtQ, QTy.erase]
    | or f t l r => cases b <;> simp [nodeAt, nodeAtQ, QTy.erase, ih]

theorem descend_eq (q : QTy) (path : Path) (k : QTy → Except Err PVal) :
    descend q path k = match nodeAtQ q path with
      | some qn => (k qn).map fun a => inject a path
      | none => .error .badValue := by
  induction path generalizing q with
  | nil => cases hk : k q <;> simp [descend, nodeAtQ, hk, Except.map, inject]
  | cons b path ih =>
    cases q with
    | leaf f t p ty => simp [descend, nodeAtQ]
    | or f t l r =>
      cases b <;>
      · simp only [descend, nodeAtQ, ih]
        cases nodeAtQ _ path with
        | none => rfl
        | some qn => dsimp only; generalize k qn = res; cases res <;> rfl

theorem descend_hasTy {q : QTy} {path : Path} {k : QTy → Except Err PVal} {a : PVal}
    (hk : ∀ qn b, k qn = .ok b → hasTy b qn.erase = true) (h : descend q path k = .ok a) : hasTy a q.erase = true := by
  rw [descend_eq] at h
  cases hn : nodeAtQ q path with
  | none => rw [hn] at h; cases h
  | some qn =>
    simp only [hn] at h
    cases hb : k qn with
    | error e => rw [hb] at h; cases h
    | ok b =>
      rw [hb] at h; cases h
      show hasTy (inject b path) q.erase = true
      rw [← wrapParameters_eq_inject]
      exact hasTy_wrap (by rw [nodeAt_erase, hn]; rfl) (hk qn b hb)

theorem fromPyUnit_hasTy {q : QTy} {a : PVal} (h : fromPyUnit q = .ok a) : hasTy a q.erase = true := by
  cases q with
  | leaf f t p ty =>
    simp only [fromPyUnit] at h
    split at h
    · cases h; simp [hasTy, QTy.erase]
    · cases h
  | or f t l r => simp [fromPyUnit] at h

/-- `from_python_object` returns values of the type -/
theorem fromPy_hasTy {q : QTy} {o : PyObj} {a : PVal} (h : fromPy q o = .ok a) : hasTy a q.erase = true := by
  fun_induction fromPy q o generalizing a
  case case7 => exact descend_hasTy (fun qn b hb => fromPyUnit_hasTy hb) h    -- `'name'` of an enum, found
  case case10 ih => exact descend_hasTy (fun qn b hb => ih qn hb) h            -- `{name: obj}`, found
  all_goals cases h
  all_goals simp [hasTy, QTy.erase]

/-- the root entrypoint: the object is read by the whole parameter type -/
theorem fromPythonObject_root (c : Cfg) {q : QTy} (h : WellFormed q.erase) (o : PyObj) :
    fromPythonObject c q (.dict1 (Spec.Entrypoints.rootName c.dflt c.root q.erase) o)
      = (fromPy q o).bind (fun a => fromParameters c q.erase (Spec.Entrypoints.rootName c.dflt c.root q.erase) a) := by
  unfold fromPythonObject fromParameters
  rw [rootName_wf c h]
  simp only [bind, Except.bind, if_true]
  cases hf : fromPy q o with
  | error e => rfl
  | ok a => simp [decode_of_hasTy (fromPy_hasTy hf)]

/-- a branch entrypoint: the name is resolved among the entrypoint names (never the display names), the object is read
by the type of that branch -/
theorem fromPythonObject_branch (c : Cfg) {q : QTy} (h : WellFormed q.erase) {path : Path} {arg : PTy}
    (hq : (path, arg) ∈ iterTypeArgs q.erase) (hne : keyOf arg ≠ Spec.Entrypoints.rootName c.dflt c.root q.erase) :
    ∃ qn, nodeAtQ q path = some qn ∧ qn.erase = arg ∧
      ∀ o, fromPythonObject c q (.dict1 (keyOf arg) o)
        = (fromPy qn o).bind (fun a => fromParameters c q.erase (keyOf arg) a) := by
  obtain ⟨hq0, hnode, _⟩ := iterTypeArgs_mem hq
  rw [nodeAt_erase] at hnode
  obtain ⟨qn, hqn, hqe⟩ := Option.map_eq_some_iff.mp hnode
  refine ⟨qn, hqn, hqe, fun o => ?_⟩
  have hor' : q.isOr = true := by
    cases q with
    | leaf _ _ _ _ => simp [QTy.erase, iterTypeArgs] at hq
    | or _ _ _ _ => rfl
  have hk2p := dget_keyToPath h (dget_flatKeys hq)
  have hne' : ((flatKeys (iterTypeArgs q.erase)).map (fun e => (e.2, e.1))).isEmpty = false := by
    cases hl : (flatKeys (iterTypeArgs q.erase)).map (fun e => (e.2, e.1)) with
    | nil => rw [hl] at hk2p; simp [dget] at hk2p
    | cons _ _ => rfl
  unfold fromPythonObject
  rw [rootName_wf c h]
  simp only [bind, Except.bind, if_neg hne, hor', Bool.not_true, Bool.false_eq_true, if_false, keyToPath_wf h,
    hne', hk2p]
  simp only [descend_eq, hqn]
  cases hf : fromPy qn o with
  | error e => rfl
  | ok a =>
    have hty : hasTy a arg = true := by rw [← hqe]; exact fromPy_hasTy hf
    show _ = fromParameters c q.erase (keyOf arg) a
    rw [(fromParameters_branch c h hq hne hty).1, wrapParameters_eq_inject]
    rfl

theorem parseName_ok_iff (as : List String) (pfx : Char) :
    parseName as pfx = .ok (((as.filter (hasPrefix pfx)).map dropFirst).head?)
      ∨ (parseName as pfx = .error .rejectedType ∧ ¬ ((as.filter (hasPrefix pfx)).map dropFirst).length ≤ 1) := by
  unfold parseName
  by_cases h : ((as.filter (hasPrefix pfx)).map dropFirst).length ≤ 1
  · left; simp only [h, if_true]
  · right; simp only [h, if_false]; exact ⟨trivial, fun hh => hh⟩

/-- `parse_name` does not depend on the order of the annotations, nor on annotations with another prefix -/
theorem parseName_perm {as bs : List String} (h : as.Perm bs) (pfx : Char) : parseName as pfx = parseName bs pfx := by
  have hp : ((as.filter (hasPrefix pfx)).map dropFirst).Perm ((bs.filter (hasPrefix pfx)).map dropFirst) :=
    (h.filter _).map _
  unfold parseName
  simp only [hp.length_eq]
  split
  · rename_i hl
    congr 1
    generalize hx : (bs.filter (hasPrefix pfx)).map dropFirst = ys at hp hl
    generalize (as.filter (hasPrefix pfx)).map dropFirst = xs at hp
    match ys, hl with
    | [], _ => rw [List.perm_nil.mp hp]
    | [y], _ => rw [List.perm_singleton.mp hp]
  · rfl

theorem parseName_noise (as : List String) (pfx : Char) (n : String) (hn : hasPrefix pfx n = false) (pre : List String) :
    parseName (pre ++ n :: as) pfx = parseName (pre ++ as) pfx := by
  unfold parseName
  simp [List.filter_append, hn]

/-- the annotations `parse_name` can see -/
def relevant (as : List String) : List String := as.filter (fun a => hasPrefix '%' a || hasPrefix ':' a)

theorem parseName_relevant (as : List String) (pfx : Char) (hp : pfx = '%' ∨ pfx = ':') :
    parseName (relevant as) pfx = parseName as pfx := by
  unfold parseName relevant
  rw [List.filter_filter]
  have : (fun a => hasPrefix pfx a && (hasPrefix '%' a || hasPrefix ':' a)) = hasPrefix pfx := by
    funext a
    rcases hp with rfl | rfl <;> cases hasPrefix _ a <;> simp
  rw [this]

theorem parseName_equiv {as bs : List String} (h : (relevant as).Perm (relevant bs)) (pfx : Char)
    (hp : pfx = '%' ∨ pfx = ':') : parseName as pfx = parseName bs pfx := by
  rw [← parseName_relevant as pfx hp, ← parseName_relevant bs pfx hp]
  exact parseName_perm h pfx

/-- two type expressions that differ only in the order of the annotations on a node and in annotations that are neither
`%field` nor `:type` (`@var` …) -/
inductive SameUpToAnnotOrder : RTy → RTy → Prop
  | prim {as bs p ty} : (relevant as).Perm (relevant bs) → SameUpToAnnotOrder (.prim as p ty) (.prim bs p ty)
  | or {as bs l l' r r'} : (relevant as).Perm (relevant bs) → SameUpToAnnotOrder l l' → SameUpToAnnotOrder r r' →
      SameUpToAnnotOrder (.or as l r) (.or bs l' r')
  | pair {as bs ty l l' r r'} : (relevant as).Perm (relevant bs) → SameUpToAnnotOrder l l' → SameUpToAnnotOrder r r' →
      SameUpToAnnotOrder (.pair as ty l r) (.pair bs ty l' r')
  | option {as bs ty a a'} : (relevant as).Perm (relevant bs) → SameUpToAnnotOrder a a' →
      SameUpToAnnotOrder (.option as ty a) (.option bs ty a')
  | list {as bs ty a a'} : (relevant as).Perm (relevant bs) → SameUpToAnnotOrder a a' →
      SameUpToAnnotOrder (.list as ty a) (.list bs ty a')

theorem matchTy_sameUpToAnnotOrder {r r' : RTy} (h : SameUpToAnnotOrder r r') : matchTy r = matchTy r' := by
  induction h with
  | prim hp => simp only [matchTy, parseName_equiv hp '%' (Or.inl rfl), parseName_equiv hp ':' (Or.inr rfl)]
  | or hp _ _ ihl ihr | pair hp _ _ ihl ihr =>
    simp only [matchTy, ihl, ihr, parseName_equiv hp '%' (Or.inl rfl), parseName_equiv hp ':' (Or.inr rfl)]
  | option hp _ ih | list hp _ ih =>
    simp only [matchTy, ih, parseName_equiv hp '%' (Or.inl rfl), parseName_equiv hp ':' (Or.inr rfl)]

theorem parseName_field (as : List String) :
    parseName as '%' = if (fieldAnnots as).length ≤ 1 then .ok (fieldAnnots as).head? else .error .rejectedType := rfl

theorem parseName_type (as : List String) :
    parseName as ':' = if (typeAnnots as).length ≤ 1 then .ok (typeAnnots as).head? else .error .rejectedType := rfl

/-- the result of `Micheline.match` in one statement: accepted exactly when `RawOk`; then the entrypoint rules see
`view r`, and the node's `field_name` is its `%` annotation -/
def MatchSpec (r : RTy) : Except Err QTy → Prop
  | .ok q => RawOk r = true ∧ q.erase = view r ∧ q.fname = (fieldAnnots (RTy.annots r)).head?
  | .error e => RawOk r = false ∧ e = .rejectedType

theorem annots_prim (as p ty) : RTy.annots (.prim as p ty) = as := rfl
theorem annots_or (as l r) : RTy.annots (.or as l r) = as := rfl
theorem annots_pair (as ty l r) : RTy.annots (.pair as ty l r) = as := rfl
theorem annots_option (as ty a) : RTy.annots (.option as ty a) = as := rfl
theorem annots_list (as ty a) : RTy.annots (.list as ty a) = as := rfl

theorem head?_isSome_iff_not_isEmpty {α} (xs : List α) : xs.head?.isSome = !xs.isEmpty := by cases xs <;> rfl

/-- the last step of `Micheline.match` on every node (`reject`: what `create_type` has found wrong with the arguments):
the `%` and the `:` name are parsed, the node is built -/
theorem names_spec (r : RTy) (reject : Bool) (mk : Option String → Option String → QTy)
    (hraw : RawOk r
      = (!reject && decide ((fieldAnnots (RTy.annots r)).length ≤ 1) && decide ((typeAnnots (RTy.annots r)).length ≤ 1)))
    (hmk : ∀ t, (mk (fieldAnnots (RTy.annots r)).head? t).erase = view r
      ∧ (mk (fieldAnnots (RTy.annots r)).head? t).fname = (fieldAnnots (RTy.annots r)).head?) :
    MatchSpec r (if reject then .error .rejectedType else do
      let f ← parseName (RTy.annots r) '%'
      let t ← parseName (RTy.annots r) ':'
      Except.ok (mk f t)) := by
  cases reject with
  | true => exact ⟨by rw [hraw]; rfl, rfl⟩
  | false =>
    simp only [Bool.false_eq_true, if_false, parseName_field, parseName_type, bind, Except.bind]
    by_cases h1 : (fieldAnnots (RTy.annots r)).length ≤ 1 <;> by_cases h2 : (typeAnnots (RTy.annots r)).length ≤ 1 <;>
      simp [h1, h2, MatchSpec, hraw, hmk]

theorem matchTy_spec (r : RTy) : MatchSpec r (matchTy r) := by
  induction r with
  | prim as p ty => exact names_spec (.prim as p ty) false (fun f t => .leaf f t p ty) rfl fun _ => ⟨rfl, rfl⟩
  | or as l r ihl ihr | pair as ty l r ihl ihr =>
    rw [matchTy]
    cases hl : matchTy l with
    | error e => rw [hl] at ihl; exact ⟨by simp [RawOk, ihl.1], ihl.2⟩
    | ok l' =>
      cases hr : matchTy r with
      | error e => rw [hr] at ihr; exact ⟨by simp [RawOk, ihr.1], ihr.2⟩
      | ok r' =>
        rw [hl] at ihl; rw [hr] at ihr
        exact names_spec _ false _ (by rw [RawOk, ihl.1, ihr.1]; rfl)
          fun _ => ⟨by simp [QTy.erase, view, annots_or, annots_pair, ihl.2.1, ihr.2.1], rfl⟩
  | option as ty a ih | list as ty a ih =>
    rw [matchTy]
    cases ha : matchTy a with
    | error e => rw [ha] at ih; exact ⟨by simp [RawOk, ih.1], ih.2⟩
    | ok a' =>
      rw [ha] at ih
      exact names_spec _ a'.fname.isSome _
        (by rw [RawOk, ih.1, ih.2.2, head?_isSome_iff_not_isEmpty, Bool.not_not]; rfl) fun _ => ⟨rfl, rfl⟩

end Impl.Entrypoints
