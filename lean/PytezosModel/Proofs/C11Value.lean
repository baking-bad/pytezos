import PytezosModel.Michelson.ValueCodec
/-! C11 — facts read off the handler tables, list plumbing of the renderer / parser, little-endian bytes, the reader of a
pair on each layout the renderer gives it (`pairNode_read`), the typing rules as an inductive relation (`Typed`: induction
on it is the shape every proof about `hasTy env τ v = true` shares). -/
namespace Impl.Value
open VC Core

-- facts read off the regenerated tables: they fail to close when the source changes shape

/-- the constructors the model renders are in `parse_micheline_value`'s handler tables -/
theorem acc_ok : accepts "unit" "Unit" 0 = true ∧ accepts "bool" "True" 0 = true ∧ accepts "bool" "False" 0 = true ∧
    accepts "option" "Some" 1 = true ∧ accepts "option" "None" 0 = true ∧ accepts "or" "Left" 1 = true ∧
    accepts "or" "Right" 1 = true ∧ accepts "map" "Elt" 2 = true := by
  decide +kernel

/-- … and the literal kinds in `parse_micheline_literal`'s -/
theorem lit_ok : litOk "int" "int" = true ∧ litOk "nat" "int" = true ∧ litOk "timestamp" "int" = true ∧
    litOk "timestamp" "string" = true ∧ litOk "string" "string" = true ∧ litOk "bytes" "bytes" = true ∧
    litOk "bls12_381_fr" "int" = true ∧ litOk "bls12_381_fr" "bytes" = true ∧ litOk "big_map" "int" = true ∧
    litOk "sapling_state" "int" = true := by
  decide +kernel

theorem lit_dom (k : DomKind) : litOk k.prim "bytes" = true ∧ litOk k.prim "string" = true := by
  cases k <;> decide +kernel

/-- the guard of the (repaired) `TimestampType.to_micheline_value` is the range where `format_timestamp` /
`optimize_timestamp` work -/
theorem inGuard_iff (t : Int) : inGuard t = true ↔ rfcLo ≤ t ∧ t ≤ rfcHi := by
  simp only [inGuard, Generated.C11.tsGuard, Bool.and_eq_true, decide_eq_true_eq, rfcLo, rfcHi]

theorem source_ok : sourceOk = true := by decide

/-- the reader matches on what the translator read; the proofs never need the figures -/
theorem gen_mutezBits : Generated.C11.mutezBits = some mutezBits := rfl
theorem gen_frModulus : Generated.C11.frModulus = some frModulus := rfl

theorem renderL_eq_map (env : Env) (mode : Mode) (lz : Option Bool) (xs : List Val) :
    renderL env mode lz xs = xs.map (fun x => (render env mode lz x).1) := by
  induction xs with
  | nil => simp [renderL]
  | cons x xs ih => simp [renderL, ih]

theorem mapMich_render (f : Mich → Except Err Val) (g : Val → Mich) (xs : List Val)
    (h : ∀ x ∈ xs, f (g x) = .ok x) : mapMich f (xs.map g) = .ok xs := by
  induction xs with
  | nil => simp [mapMich]
  | cons x xs ih =>
    have hx := h x (by simp)
    have hxs := ih (fun y hy => h y (by simp [hy]))
    simp [mapMich, hx, hxs]

theorem renderE_eq_map (env : Env) (mode : Mode) (lz : Option Bool) (kvs : List (Val × Val)) :
    renderE env mode lz kvs =
      kvs.map (fun kv => .prim "Elt" [(render env mode lz kv.1).1, (render env mode lz kv.2).1] []) := by
  induction kvs with
  | nil => simp [renderE]
  | cons kv kvs ih => obtain ⟨k, v⟩ := kv; simp [renderE, ih]

theorem mapElts_render (fk fv : Mich → Except Err Val) (g : Val → Mich) (kvs : List (Val × Val))
    (h : ∀ kv ∈ kvs, fk (g kv.1) = .ok kv.1 ∧ fv (g kv.2) = .ok kv.2) :
    mapElts fk fv (kvs.map fun kv => .prim "Elt" [g kv.1, g kv.2] []) = .ok kvs := by
  induction kvs with
  | nil => simp [mapElts]
  | cons kv kvs ih =>
    have hx := h kv (by simp)
    have hxs := ih (fun y hy => h y (by simp [hy]))
    simp only [List.map_cons, mapElts, List.isEmpty_nil, Bool.not_true, Bool.false_eq_true, if_false, acc_ok, if_true,
      hx.1, hx.2, hxs]

theorem natToLE_length (n v : Nat) : (natToLE n v).length = n := by
  induction n generalizing v with
  | zero => simp [natToLE]
  | succ n ih => simp [natToLE, ih]

theorem leToNat_natToLE (n v : Nat) : leToNat (natToLE n v) = v % 256 ^ n := by
  induction n generalizing v with
  | zero => simp [natToLE, leToNat, Nat.mod_one]
  | succ n ih =>
    simp only [natToLE, leToNat, ih]
    rw [Nat.pow_succ, Nat.mul_comm (256 ^ n) 256, Nat.mod_mul]

/-- the reader of a pair does not tell `Pair x1 … xn` without annotations from `{x1; …; xn}`: what follows is said of
the sequence -/
theorem pairOfMich_pairOf (n rp : Bool) (f g : Mich → Except Err Val) (args : List Mich) :
    pairOfMich n rp f g (pairOf args) = pairOfMich n rp f g (.seq args) := by
  simp [pairOfMich, pairOf]

theorem pairOfMich_two (n rp : Bool) (f g : Mich → Except Err Val) (a b : Mich) (x y : Val)
    (hf : f a = .ok x) (hg : g b = .ok y) : pairOfMich n rp f g (.seq [a, b]) = .ok (.pair n x y) := by
  simp [pairOfMich, hf, hg]

theorem pairOfMich_many (n : Bool) (f g : Mich → Except Err Val) (a b c : Mich) (rest : List Mich) (x y : Val)
    (hf : f a = .ok x) (hg : g (.seq (b :: c :: rest)) = .ok y) :
    pairOfMich n true f g (.seq (a :: b :: c :: rest)) = .ok (.pair n x y) := by
  simp [pairOfMich, hf, hg]

/-- three or more arguments over a non-pair class are rejected (1138dca: before, a list / set / map on the right took
the rest as its elements) -/
theorem pairOfMich_many_nonpair (n : Bool) (f g : Mich → Except Err Val) (a b c : Mich) (rest : List Mich) :
    pairOfMich n false f g (.seq (a :: b :: c :: rest)) = .error .shape := by
  simp [pairOfMich]

/-- **a pair node is read back**, whatever the two readers: `its` is what the renderer splices in for the right component —
the component alone, or at least two items whose sequence and whose `Pair` the right reader takes for the component (then
the right class is a pair class).  Each layout of `pairNode`, and the sequence of all the items, gives the pair. -/
theorem pairNode_read (mode : Mode) (n rp : Bool) (f g : Mich → Except Err Val) (ma mb : Mich) (its : List Mich) (x y : Val)
    (hf : f ma = .ok x) (hb : g mb = .ok y)
    (hits : its = [mb] ∨ rp = true ∧ 2 ≤ its.length ∧ g (.seq its) = .ok y ∧ g (pairOf its) = .ok y) :
    pairOfMich n rp f g (pairNode mode ma mb (ma :: its)) = .ok (.pair n x y) ∧
      pairOfMich n rp f g (.seq (ma :: its)) = .ok (.pair n x y) ∧ 2 ≤ (ma :: its).length := by
  rcases hits with rfl | ⟨rfl, hlen, hs, hp⟩
  · have h2 := pairOfMich_two n rp f g ma mb x y hf hb
    have hn : pairNode mode ma mb [ma, mb] = pairOf [ma, mb] := by cases mode <;> rfl
    rw [hn, pairOfMich_pairOf]
    exact ⟨h2, h2, Nat.le_refl 2⟩
  · match its, hlen with
    | p :: q :: rest, _ =>
      have hm := pairOfMich_many n f g ma p q rest x y hf hs
      refine ⟨?_, hm, by simp⟩
      cases mode with
      | readable => exact (pairOfMich_pairOf ..).trans hm
      | legacyOptimized => exact (pairOfMich_pairOf ..).trans (pairOfMich_two n true f g ma mb x y hf hb)
      | optimized =>
        cases rest with
        | nil => exact (pairOfMich_pairOf ..).trans (pairOfMich_two n true f g ma _ x y hf hp)
        | cons z rest => exact hm

/-- an annotated `Pair` node is not a value (3f5c1d7) -/
theorem pairOfMich_annotated (n rp : Bool) (f g : Mich → Except Err Val) (args : List Mich) (an : String) (ans : List String) :
    pairOfMich n rp f g (.prim "Pair" args (an :: ans)) = .error .shape := by
  simp [pairOfMich]

theorem all_and {α : Type} (p q : α → Bool) (xs : List α) (h : xs.all (fun x => p x && q x) = true) :
    ∀ x ∈ xs, p x = true ∧ q x = true := by
  intro x hx
  have := List.all_eq_true.mp h x hx
  simpa using this

/-- the typing rules of `hasTy`, one constructor each: a proof about typed values goes by induction on `Typed`, and so
neither inverts `hasTy` nor visits the ill-typed combinations of a type and a value -/
inductive Typed (env : Env) : Ty → Val → Prop
  | unit {a} : Typed env (.leaf .unit a) .unit
  | bool {a} b : Typed env (.leaf .bool a) (.bool b)
  | int {a} n : Typed env (.leaf .int a) (.int n)
  | nat {a} n : 0 ≤ n → Typed env (.leaf .nat a) (.int n)
  | mutez {a} n : 0 ≤ n → n < 2 ^ mutezBits → Typed env (.leaf .mutez a) (.int n)
  | timestamp {a} t : Typed env (.leaf .timestamp a) (.timestamp t)
  | string {a} s : asciiOnly s = true → Typed env (.leaf .string a) (.str s)
  | bytes {l a} b : l = .bytes ∨ l = .blsG1 ∨ l = .blsG2 ∨ l = .chest ∨ l = .chestKey → Typed env (.leaf l a) (.bytes b)
  | blsFr {a} n : 0 ≤ n → n < (frModulus : Int) → frModulus ≤ 2 ^ 256 → Typed env (.leaf .blsFr a) (.blsFr n)
  | dom {k a} d : env.valid k d = true → Typed env (.leaf (.dom k) a) (.dom k d)
  | none {t a} : Typed env (.option t a) .none
  | some {t a x} : Typed env t x → Typed env (.option t a) (.some x)
  | left {l r a x} : Typed env l x → Typed env (.or l r a) (.left x)
  | right {l r a x} : Typed env r x → Typed env (.or l r a) (.right x)
  | pair {l r a x y} : Typed env l x → Typed env r y → Typed env (.pair l r a) (.pair a.named x y)
  | list {t a xs} : (∀ x ∈ xs, Typed env t x) → Typed env (.list t a) (.list xs)
  | set {t a xs} : env.keysOk t xs = true → (∀ x ∈ xs, Typed env t x) → Typed env (.set t a) (.set xs)
  | map {k v a kvs} : env.keysOk k (kvs.map (·.1)) = true → (∀ kv ∈ kvs, Typed env k kv.1) →
      (∀ kv ∈ kvs, Typed env v kv.2) → Typed env (.map k v a) (.map kvs)
  | bigMap {k v a kvs} ptr : env.keysOk k (kvs.map (·.1)) = true → (∀ kv ∈ kvs, Typed env k kv.1) →
      (∀ kv ∈ kvs, Typed env v kv.2) → Typed env (.bigMap k v a) (.bigMap ptr kvs)
  | lambda {x y a} code : env.lambdaOk code = true → Typed env (.lambda x y a) (.lambda code)
  | contract {p a} d : env.valid .contract d = true → Typed env (.contract p a) (.dom .contract d)
  | ticket {t a item} d n : env.valid .address d = true → 0 ≤ n → Typed env t item →
      Typed env (.ticket t a) (.ticket d item n)
  | sapling {m a} ptr : Typed env (.saplingState m a) (.sapling ptr)

theorem typed_of_hasTy {env : Env} : ∀ τ v, hasTy env τ v = true → Typed env τ v
  | τ, v => by
    -- by the clauses of `hasTy`, not the combinations of a type and a value: `caseN` is the N-th clause (1–14 the leaf
    -- types, 28 the catch-all); a recursive call of `hasTy` is answered by one of the theorem
    fun_cases hasTy env τ v <;> try simp only [Bool.and_eq_true, decide_eq_true_eq, beq_iff_eq]
    case case1 => exact fun _ => .unit
    case case2 => exact fun _ => .bool _
    case case3 => exact fun _ => .int _
    case case4 => exact .nat _
    case case5 => exact fun h => .mutez _ h.1 h.2
    case case6 => exact fun _ => .timestamp _
    case case7 => exact .string _
    case case8 => exact fun _ => .bytes _ (.inl rfl)
    case case9 => exact fun _ => .bytes _ (.inr (.inl rfl))
    case case10 => exact fun _ => .bytes _ (.inr (.inr (.inl rfl)))
    case case11 => exact fun _ => .bytes _ (.inr (.inr (.inr (.inl rfl))))
    case case12 => exact fun _ => .bytes _ (.inr (.inr (.inr (.inr rfl))))
    case case13 => exact fun h => .blsFr _ h.1.1 h.1.2 h.2
    case case14 => rintro ⟨rfl, h⟩; exact .dom _ h
    case case15 => rintro ⟨rfl, h⟩; exact .contract _ h
    case case16 => exact fun _ => .none
    case case17 => exact fun h => .some (typed_of_hasTy _ _ h)
    case case18 => exact fun h => .left (typed_of_hasTy _ _ h)
    case case19 => exact fun h => .right (typed_of_hasTy _ _ h)
    case case20 => rintro ⟨⟨rfl, hx⟩, hy⟩; exact .pair (typed_of_hasTy _ _ hx) (typed_of_hasTy _ _ hy)
    case case21 => exact fun h => .list fun x hx => typed_of_hasTy _ x (List.all_eq_true.mp h x hx)
    case case22 => exact fun h => .set h.2 fun x hx => typed_of_hasTy _ x (List.all_eq_true.mp h.1 x hx)
    case case23 =>
      intro h
      have h1 := all_and _ _ _ h.1
      exact .map h.2 (fun kv hkv => typed_of_hasTy _ _ (h1 kv hkv).1) fun kv hkv => typed_of_hasTy _ _ (h1 kv hkv).2
    case case24 =>
      intro h
      have h1 := all_and _ _ _ h.1
      exact .bigMap _ h.2 (fun kv hkv => typed_of_hasTy _ _ (h1 kv hkv).1) fun kv hkv => typed_of_hasTy _ _ (h1 kv hkv).2
    case case25 => exact .lambda _
    case case26 => exact fun h => .ticket _ _ h.1.1 h.2 (typed_of_hasTy _ _ h.1.2)
    case case27 => exact fun _ => .sapling _
    case case28 => exact nofun
termination_by τ => τ
decreasing_by
  -- the type of a component is a part of the type
  all_goals
    subst_vars
    simp +arith

/-- only a pair class has pair values: the n-ary forms the renderer produces (it splices the right component in only
when that is a pair *value*) are always over a pair class on the right -/
theorem isPair_of_hasTy_pair (env : Env) (τ : Ty) (n : Bool) (a b : Val) (h : hasTy env τ (.pair n a b) = true) :
    τ.isPair = true := by
  cases typed_of_hasTy τ _ h; rfl

/-- the source is of the mirrored shape, so the two calls are the reader and (where it does not raise) the renderer proper -/
theorem ofMich_eq (env : Env) (τ : Ty) (m : Mich) : ofMich env τ m = ofMichCore env τ m := by
  simp only [ofMich, source_ok, Bool.not_true, Bool.false_eq_true, if_false]

theorem toMich_of_not_raises {env : Env} {mode : Mode} {lz : Option Bool} {v : Val} (h : raises mode lz v = false) :
    toMich env mode lz v = .ok (render env mode lz v).1 := by
  simp only [toMich, source_ok, h, Bool.not_true, Bool.false_eq_true, if_false]

theorem binNorm_ne (k : DomKind) (d : DomVal) (h : k ≠ .signature) : binNorm k d = d := by
  simp [binNorm, h]

end Impl.Value
