import PytezosModel.Micheline.Binary
import PytezosModel.Proofs.Zarith
import PytezosModel.Proofs.Bytes
/-! Round trip `unforge (forge e) = e` for the binary Micheline mirror. -/
namespace BMich
theorem size_pos (e : BMich) : 0 < e.size := by cases e <;> simp [size] <;> omega
end BMich

namespace Impl.Forge
open Core BMich

/-- the annotation array that ends an application -/
def annotStep (mk : Option Bytes → BMich) : Reader BMich := fun r =>
  (unforgeArray 4 r).map fun p => (mk (optAnnot p.1), p.2)

/-- the arguments of an application, by the number `n` its tag announces: none, one node, two nodes, or (3) any number of
them as a length-prefixed sequence -/
def argsStep (N : Reader BMich) (S : Reader (List BMich)) (n : Nat) : Reader (List BMich) := fun d =>
  if n = 0 then some ([], d)
  else if n = 1 then (N d).map fun p => ([p.1], p.2)
  else if n = 2 then (N d).bind fun p => (N p.2).map fun q => ([p.1, q.1], q.2)
  else S d

/-- an application after its tag, as `unforge_prim_expr(args_len, annots)` reads it: the primitive, which has to be known, `n`
arguments, and annotations if `ann` -/
def appStep (known : Nat → Bool) (N : Reader BMich) (S : Reader (List BMich)) (n : Nat) (ann : Bool) : Reader BMich
  | [] => none
  | pt :: d =>
    if known pt then
      (argsStep N S n d).bind fun p => if ann then annotStep (.prim pt p.1) p.2 else some (.prim pt p.1 none, p.2)
    else none

/-- how a node is read after its tag, given the integer reader `I`, the reader `N` of its argument nodes and the reader `S`
of a length-prefixed sequence of nodes: tags 0, 1, 10 are the literals, 2 a sequence, 3–9 an application (tag − 3 = twice the
number of arguments, 3 standing for "any number, as a sequence", plus one if annotations follow; tag 9 always has them) -/
def bodyStep (known : Nat → Bool) (I : Reader Int) (N : Reader BMich) (S : Reader (List BMich)) (tag : Nat) : Reader BMich :=
  fun d =>
  if tag = 0 then (I d).map fun p => (.int p.1, p.2)
  else if tag = 1 then (unforgeArray 4 d).map fun p => (.str p.1, p.2)
  else if tag = 2 then (S d).map fun p => (.seq p.1, p.2)
  else if tag < 10 then appStep known N S ((tag - 3) / 2) (decide ((tag - 3) % 2 = 1) || decide ((tag - 3) / 2 = 3)) d
  else if tag = 10 then (unforgeArray 4 d).map fun p => (.bytes p.1, p.2)
  else none

def nodeStep (known : Nat → Bool) (I : Reader Int) (N : Reader BMich) (S : Reader (List BMich)) : Reader BMich
  | [] => none
  | tag :: d => bodyStep known I N S tag d

theorem unforgeNode_succ (known : Nat → Bool) (strict : Bool) (f : Nat) (d : Bytes) :
    unforgeNode known strict (f + 1) d
      = nodeStep known (unforgeInt strict) (unforgeNode known strict f) (unforgeSeq known strict f) d := by
  rcases d with _ | ⟨tag, d1⟩
  · simp [unforgeNode, nodeStep]
  simp only [unforgeNode, nodeStep, bodyStep]
  -- the two sides differ in the branch of the applications only, and there by `match` against `Option.bind`
  refine ite_congr rfl (fun _ => rfl) fun _ => ite_congr rfl (fun _ => rfl) fun _ => ite_congr rfl (fun _ => rfl) fun _ =>
    ite_congr rfl (fun _ => ?_) fun _ => rfl
  rcases d1 with _ | ⟨pt, d2⟩
  · rfl
  simp only [appStep, argsStep, annotStep]
  cases known pt
  · rfl
  rcases (tag - 3) / 2 with _ | _ | _ | n <;> simp
  · cases unforgeNode known strict f d2 <;> rfl
  · rcases unforgeNode known strict f d2 with _ | ⟨a, r⟩
    · rfl
    · simp only [Option.bind_some]
      cases unforgeNode known strict f r <;> rfl
  · cases unforgeSeq known strict f d2 <;> rfl

mutual
  theorem forge_size : ∀ (e : BMich) (bs : Bytes), forge e = some bs → e.size ≤ bs.length
    | .int _, bs, h => by
      cases h
      simp [BMich.size]
    | .str _, bs, h | .bytes _, bs, h => by
      obtain ⟨a, _, rfl⟩ := Option.map_eq_some_iff.mp h
      simp [BMich.size]
    | .seq xs, bs, h => by
      simp only [forge, bind, Option.bind_eq_some_iff, pure, Option.some.injEq] at h
      obtain ⟨body, h1, arr, h2, rfl⟩ := h
      have := forgeList_size xs body h1
      have := forgeArray_length 4 body arr h2
      simp [BMich.size]; omega
    | .prim t as an, bs, h => by
      simp only [forge, bind, Option.bind_eq_some_iff, pure, Option.some.injEq] at h
      obtain ⟨a, h1, argB, h2, annB, h3, rfl⟩ := h
      have hs := forgeList_size as a h1
      have : sizeList as ≤ argB.length := by
        by_cases h0 : as.length = 0
        · have : as = [] := List.length_eq_zero_iff.mp h0
          subst this; simp [BMich.sizeList]
        · by_cases h3 : as.length < 3
          · simp [h0, h3] at h2; subst h2; exact hs
          · simp [h0, h3] at h2
            have := forgeArray_length 4 a argB h2; omega
      simp [BMich.size]; omega
  theorem forgeList_size : ∀ (xs : List BMich) (body : Bytes), forgeList xs = some body → sizeList xs ≤ body.length
    | [], body, h => by simp [BMich.sizeList]
    | x :: xs, body, h => by
      simp only [forgeList, bind, Option.bind_eq_some_iff, pure, Option.some.injEq] at h
      obtain ⟨a, ha, b, hb, rfl⟩ := h
      have := forge_size x a ha
      have := forgeList_size xs b hb
      simp [BMich.sizeList]; omega
end

theorem forge_ne_nil (e : BMich) (bs : Bytes) (h : forge e = some bs) : 0 < bs.length :=
  Nat.lt_of_lt_of_le e.size_pos (forge_size e bs h)

theorem getTag_ge3 (n : Nat) (h : 3 ≤ n) (b : Bool) : getTag n b = 9 := by
  cases b <;> simp [getTag] <;> omega

theorem bodyStep_getTag (known : Nat → Bool) (I : Reader Int) (N : Reader BMich) (S : Reader (List BMich)) (n : Nat) (b : Bool)
    (d : Bytes) :
    bodyStep known I N S (getTag n b) d = appStep known N S (min n 3) (b || decide (3 ≤ n)) d := by
  rcases n with _ | _ | _ | n
  iterate 3 cases b <;> rfl
  rw [getTag_ge3 _ (by omega), show min (n + 1 + 1 + 1) 3 = 3 by omega, show (b || decide (3 ≤ n + 1 + 1 + 1)) = true by simp]
  rfl

theorem annot_back (an : Option Bytes) (n : Nat) (annB rest : Bytes)
    (h : (match an with
      | some a => forgeArray 4 a
      | none => if n ≥ 3 then some [0, 0, 0, 0] else some []) = some annB) (hne : (an != some []) = true)
    (mk : Option Bytes → BMich) :
    (if (an.isSome || decide (3 ≤ n)) = true then annotStep mk (annB ++ rest) else some (mk none, annB ++ rest))
      = some (mk an, rest) := by
  cases an with
  | none =>
    by_cases h3 : 3 ≤ n
    · simp only [ge_iff_le, h3, if_true, Option.some.injEq] at h
      subst h
      simp only [Option.isSome_none, Bool.false_or, h3, decide_true, if_true]
      rw [annotStep, unforgeArray_zero4]
      rfl
    · simp only [ge_iff_le, h3, if_false, Option.some.injEq] at h
      subst h
      simp [h3]
  | some a =>
    have : 0 < a.length := List.length_pos_iff.mpr (by intro h'; subst h'; simp at hne)
    simp [annotStep, unforgeArray_forgeArray 4 a annB rest h, optAnnot, this]

/-- one turn of the loop of `unforge_sequence`: a node read from the non-empty bytes `c` leaves `n` of the `c.length + n`
announced bytes to read -/
theorem seqLoop_cons (known : Nat → Bool) (strict : Bool) (f : Nat) (x : BMich) (c t : Bytes) (hc : 0 < c.length)
    (hx : unforgeNode known strict f (c ++ t) = some (x, t)) (n : Nat) :
    seqLoop known strict (f + 1) (c.length + n) (c ++ t) = (seqLoop known strict f n t).map fun p => (x :: p.1, p.2) := by
  have hne : ¬ (c.length + n = 0) := by omega
  have hu : ¬ ((c ++ t).length - t.length > c.length + n) := by simp only [List.length_append]; omega
  have hr : c.length + n - ((c ++ t).length - t.length) = n := by simp only [List.length_append]; omega
  rw [seqLoop]
  simp only [hne, if_false, hx, hu, hr]

theorem fuel_pos {e : BMich} {fuel : Nat} (hf : 2 * e.size ≤ fuel) : ∃ f, fuel = f + 1 :=
  ⟨fuel - 1, by have := e.size_pos; omega⟩

mutual
  theorem rt_node (known : Nat → Bool) (strict : Bool) :
      ∀ (e : BMich), WF known e = true → ∀ bs, forge e = some bs → ∀ fuel, 2 * e.size ≤ fuel →
        ∀ rest, unforgeNode known strict fuel (bs ++ rest) = some (e, rest)
    | .int v, _, bs, h, fuel, hf, rest => by
      obtain ⟨f, rfl⟩ := fuel_pos hf
      obtain rfl := Option.some.inj h
      simp [unforgeNode_succ, nodeStep, bodyStep, unforgeInt_forgeInt]
    | .str s, _, bs, h, fuel, hf, rest | .bytes s, _, bs, h, fuel, hf, rest => by
      obtain ⟨f, rfl⟩ := fuel_pos hf
      simp only [forge, Option.map_eq_some_iff] at h
      obtain ⟨a, ha, rfl⟩ := h
      simp [unforgeNode_succ, nodeStep, bodyStep, unforgeArray_forgeArray 4 s a rest ha]
    | .seq xs, hw, bs, h, fuel, hf, rest => by
      obtain ⟨f, rfl⟩ := fuel_pos hf
      simp only [forge, bind, Option.bind_eq_some_iff, pure, Option.some.injEq] at h
      obtain ⟨body, h1, arr, h2, rfl⟩ := h
      simp only [BMich.size] at hf
      simp only [WF] at hw
      have hl := rt_list known strict xs hw body h1 f (by omega) rest
      simp [unforgeNode_succ, nodeStep, bodyStep, unforgeSeq, unforgeArray_forgeArray 4 body arr rest h2,
        forgeArray_drop 4 body arr rest h2, hl]
    | .prim t as an, hw, bs, h, fuel, hf, rest => by
      obtain ⟨f, rfl⟩ := fuel_pos hf
      simp only [forge, bind, Option.bind_eq_some_iff, pure, Option.some.injEq] at h
      obtain ⟨a, h1, argB, h2, annB, h3, rfl⟩ := h
      simp only [BMich.size] at hf
      simp only [WF, Bool.and_eq_true] at hw
      obtain ⟨⟨hk, hne⟩, hwl⟩ := hw
      have hargs : ∀ r, argsStep (unforgeNode known strict f) (unforgeSeq known strict f) (min as.length 3) (argB ++ r)
          = some (as, r) := by
        intro r
        match as, h1, h2, hwl, hf with
        | [], h1, h2, hwl, hf =>
          obtain rfl := Option.some.inj h2
          rfl
        | [x], h1, h2, hwl, hf =>
          simp only [forgeList, bind, Option.bind_eq_some_iff, pure, Option.some.injEq] at h1
          obtain ⟨ax, hx, _, rfl, rfl⟩ := h1
          obtain rfl := Option.some.inj h2
          simp only [WFList, Bool.and_eq_true] at hwl
          simp only [BMich.sizeList] at hf
          simp [argsStep, rt_node known strict x hwl.1 ax hx f (by omega)]
        | [x, y], h1, h2, hwl, hf =>
          simp only [forgeList, bind, Option.bind_eq_some_iff, pure, Option.some.injEq] at h1
          obtain ⟨ax, hx, _, ⟨ay, hy, _, rfl, rfl⟩, rfl⟩ := h1
          obtain rfl := Option.some.inj h2
          simp only [WFList, Bool.and_eq_true] at hwl
          simp only [BMich.sizeList] at hf
          simp [argsStep, rt_node known strict x hwl.1 ax hx f (by omega), rt_node known strict y hwl.2.1 ay hy f (by omega)]
        | x :: y :: z :: more, h1, h2, hwl, hf =>
          simp only [show ¬ (x :: y :: z :: more).length = 0 by simp, show ¬ (x :: y :: z :: more).length < 3 by simp,
            if_false] at h2
          have hl := rt_list known strict (x :: y :: z :: more) hwl a h1 f (by omega)
          simp [argsStep, unforgeSeq, unforgeArray_forgeArray 4 a argB _ h2, forgeArray_drop 4 a argB _ h2, hl]
      simp only [unforgeNode_succ, List.cons_append, nodeStep, bodyStep_getTag, appStep, hk, if_true, List.append_assoc, hargs,
        Option.bind_some]
      exact annot_back an as.length annB rest h3 hne (.prim t as)
  theorem rt_list (known : Nat → Bool) (strict : Bool) :
      ∀ (xs : List BMich), WFList known xs = true → ∀ body, forgeList xs = some body →
        ∀ fuel, 2 * sizeList xs + 1 ≤ fuel →
        ∀ rest, seqLoop known strict fuel body.length (body ++ rest) = some (xs, rest)
    | [], _, body, h, fuel, _, rest => by
      simp only [forgeList, Option.some.injEq] at h
      subst h
      unfold seqLoop
      simp
    | x :: xs, hw, body, h, fuel, hf, rest => by
      simp only [forgeList, bind, Option.bind_eq_some_iff, pure, Option.some.injEq] at h
      obtain ⟨a, ha, b, hb, rfl⟩ := h
      simp only [WFList, Bool.and_eq_true] at hw
      simp only [BMich.sizeList] at hf
      obtain ⟨f, rfl⟩ : ∃ f, fuel = f + 1 := ⟨fuel - 1, by omega⟩
      have hsz := BMich.size_pos x
      rw [List.length_append, List.append_assoc, seqLoop_cons known strict f x a (b ++ rest) (forge_ne_nil x a ha)
        (rt_node known strict x hw.1 a ha f (by omega) (b ++ rest)), rt_list known strict xs hw.2 b hb f (by omega) rest]
      rfl
end

/-- **round trip**: whatever `forge` produces decodes back to the same expression, with nothing left over -/
theorem unforge_forge (known : Nat → Bool) (strict : Bool) (e : BMich) (hw : WF known e = true)
    (bs : Bytes) (h : forge e = some bs) : unforge known strict bs = some e := by
  have hs := forge_size e bs h
  have := rt_node known strict e hw bs h (2 * bs.length + 2) (by omega) []
  simp only [List.append_nil] at this
  simp [unforge, this]

/-- well-formed expressions with the same bytes are the same: both are what the bytes decode to -/
theorem forge_injective (known : Nat → Bool) (e₁ e₂ : BMich) (h₁ : WF known e₁ = true) (h₂ : WF known e₂ = true)
    (bs : Bytes) (f₁ : forge e₁ = some bs) (f₂ : forge e₂ = some bs) : e₁ = e₂ :=
  Option.some.inj ((unforge_forge known true e₁ h₁ bs f₁).symm.trans (unforge_forge known true e₂ h₂ bs f₂))

end Impl.Forge
