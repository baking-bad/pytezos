import PytezosModel.Michelson.Comb
/-! C17, right combs.  With the annotation test off (`chk = false`) the helpers distinguish only
"a pair" from "not a pair", so every induction runs along the right spine of a value (`CVal.comb_induction`).
Three parts: each helper, then each comb instruction on a stack (`step` against `Spec.Comb.step`), against the Michelson
reference after `strip`; each helper, `step` and `exec` commuting with `erase`, which `blind_of_erase` turns into
independence of the annotations; the optimized layout `toMich` against Octez' `unparse_pair`. -/
namespace Impl.Comb
open Spec.Comb

theorem descend_false (r : CVal) : descend false r = r.isPair := by
  cases r <;> rfl

theorem isPair_strip (v : CVal) : isPair (strip v) = v.isPair := by
  cases v <;> rfl

theorem isPair_erase (v : CVal) : (erase v).isPair = v.isPair := by
  cases v <;> rfl

theorem isPair_of_strip {v : CVal} (h : isPair (strip v) = true) : v.isPair = true := by
  rw [isPair_strip] at h; exact h

theorem not_isPair_strip {v : CVal} (h : v.isPair = false) : isPair (strip v) = false := by
  rw [isPair_strip]; exact h

theorem isPair_elim {v : SVal} (h : isPair v = true) : ∃ l r, v = .pair l r := by
  cases v with
  | pair l r => exact ⟨l, r, rfl⟩
  | _ => cases h

theorem CVal.comb_induction {P : CVal → Prop} (leaf : ∀ v, v.isPair = false → P v)
    (pair : ∀ a l r, P r → P (.pair a l r)) : ∀ v, P v
  | .pair a l r => pair a l r (comb_induction leaf pair r)
  | .atom .. => leaf _ rfl
  | .none .. => leaf _ rfl
  | .some .. => leaf _ rfl
  | .left .. => leaf _ rfl
  | .right .. => leaf _ rfl
  | .list .. => leaf _ rfl

theorem SVal.comb_induction {P : SVal → Prop} (leaf : ∀ v, isPair v = false → P v)
    (pair : ∀ l r, P r → P (.pair l r)) : ∀ v, P v
  | .pair l r => pair l r (comb_induction leaf pair r)
  | .atom .. => leaf _ rfl
  | .none => leaf _ rfl
  | .some .. => leaf _ rfl
  | .left .. => leaf _ rfl
  | .right .. => leaf _ rfl
  | .list .. => leaf _ rfl

theorem stripList_eq (xs : List CVal) : stripList xs = xs.map strip := by
  induction xs with
  | nil => rfl
  | cons x xs ih => rw [stripList, ih, List.map_cons]

theorem embedList_eq (xs : List SVal) : embedList xs = xs.map embed := by
  induction xs with
  | nil => rfl
  | cons x xs ih => rw [embedList, ih, List.map_cons]

mutual
  theorem strip_embed : ∀ v : SVal, strip (embed v) = v
    | .atom _ => rfl
    | .pair l r => by rw [embed, strip, strip_embed l, strip_embed r]
    | .none => rfl
    | .some v => by rw [embed, strip, strip_embed v]
    | .left v => by rw [embed, strip, strip_embed v]
    | .right v => by rw [embed, strip, strip_embed v]
    | .list xs => by rw [embed, strip, stripList_embedList xs]
  theorem stripList_embedList : ∀ xs : List SVal, stripList (embedList xs) = xs
    | [] => rfl
    | x :: xs => by rw [embedList, stripList, strip_embed x, stripList_embedList xs]
end

theorem strip_erase (v : CVal) : strip (erase v) = strip v := strip_embed _

theorem erase_congr {v v' : CVal} (h : strip v = strip v') : erase v = erase v' := congrArg embed h

theorem erase_pair (a : Annot) (l r : CVal) : erase (.pair a l r) = .pair .blank (erase l) (erase r) := rfl

theorem map_strip_erase (xs : List CVal) : (xs.map erase).map strip = xs.map strip := by
  rw [List.map_map]; exact List.map_congr_left fun v _ => strip_erase v

theorem erase_list_congr {xs ys : List CVal} (h : xs.map strip = ys.map strip) : xs.map erase = ys.map erase := by
  have := congrArg (List.map embed) h
  rwa [List.map_map, List.map_map] at this

/-- a result is annotation-free as soon as the function commutes with erasing the annotations
(`E`, `S`: `erase`, `strip` on the result type; `g`: `erase` on the argument type) -/
theorem blind_of_erase {α β γ : Type} (f : α → β) (g : α → α) (E : β → β) (S : β → γ) (hS : ∀ b, S (E b) = S b)
    (hf : ∀ x, E (f x) = f (g x)) {x y : α} (hxy : g x = g y) : S (f x) = S (f y) := by
  rw [← hS (f x), ← hS (f y), hf, hf, hxy]

theorem optMap_strip_erase (o : Option CVal) : (o.map erase).map strip = o.map strip := by
  cases o with
  | none => rfl
  | some v => exact congrArg some (strip_erase v)

theorem optMapList_strip_erase (o : Option (List CVal)) : (o.map (List.map erase)).map (List.map strip) = o.map (List.map strip) := by
  cases o with
  | none => rfl
  | some xs => exact congrArg some (map_strip_erase xs)

theorem replaceAt_map {α β : Type} (f : α → β) (idx : Nat) (e : α) (i : Nat) (xs : List α) :
    (replaceAt idx e i xs).map f = replaceAt idx (f e) i (xs.map f) := by
  induction xs generalizing i with
  | nil => rfl
  | cons x xs ih => simp only [replaceAt, List.map_cons, ih, apply_ite f]

theorem keepBelow_map {α β : Type} (f : α → β) (idx : Nat) (i : Nat) (xs : List α) :
    (keepBelow idx i xs).map f = keepBelow idx i (xs.map f) := by
  induction xs generalizing i with
  | nil => rfl
  | cons x xs ih => simp only [keepBelow, List.map_cons, apply_ite (List.map f), ih]

theorem replaceAt_shift {α : Type} (idx : Nat) (e : α) (i : Nat) (xs : List α) :
    replaceAt (idx + 2) e (i + 1) xs = replaceAt idx e i xs := by
  induction xs generalizing i with
  | nil => rfl
  | cons x xs ih =>
    have : (2 * (i + 1) + 1 == idx + 2) = (2 * i + 1 == idx) := by
      rw [Bool.eq_iff_iff, beq_iff_eq, beq_iff_eq]; omega
    simp only [replaceAt, ih, this]

theorem keepBelow_shift {α : Type} (idx : Nat) (i : Nat) (xs : List α) :
    keepBelow (idx + 2) (i + 1) xs = keepBelow idx i xs := by
  induction xs generalizing i with
  | nil => rfl
  | cons x xs ih =>
    have : (2 * (i + 1) + 1 < idx + 2) = (2 * i + 1 < idx) := propext (by omega)
    simp only [keepBelow, ih, this]

theorem replaceAt_past {α : Type} (idx : Nat) (e : α) (i : Nat) (xs : List α) (h : idx < 2 * i + 1) :
    replaceAt idx e i xs = xs := by
  induction xs generalizing i with
  | nil => rfl
  | cons x xs ih =>
    have : (2 * i + 1 == idx) = false := beq_eq_false_iff_ne.2 (by omega)
    rw [replaceAt, this, ih (i + 1) (by omega)]; rfl

theorem keepBelow_zero {α : Type} (i : Nat) (xs : List α) : keepBelow 0 i xs = [] := by
  induction xs generalizing i with
  | nil => rfl
  | cons x xs ih => rw [keepBelow, if_neg (Nat.not_lt_zero _), ih]

theorem flatten_not_pair {v : SVal} (h : isPair v = false) : flatten v = [v] := by
  cases v with
  | pair => cases h
  | _ => rfl

theorem pairn_cons {a : SVal} {xs : List SVal} {t : SVal} (h : pairn xs = some t) :
    pairn (a :: xs) = some (.pair a t) := by
  match xs, h with
  | b :: c :: rest, h => exact congrArg (Option.map (SVal.pair a)) h

theorem pairn_cons_flatten (r : SVal) : ∀ a : SVal, pairn (a :: flatten r) = some (.pair a r) := by
  induction r using SVal.comb_induction with
  | leaf v h => intro a; rw [flatten_not_pair h]; rfl
  | pair l r ih => intro a; exact pairn_cons (ih l)

/-- what `update_comb(n, e)` does to the list of leaves: leaf `(n - 1) / 2` replaced for odd `n`, the first `n / 2` leaves
followed by the leaves of `e` for even `n` -/
def updLeaves (e : SVal) (n : Nat) (xs : List SVal) : List SVal :=
  if n % 2 == 1 then replaceAt n e 0 xs else keepBelow n 0 xs ++ flatten e

theorem updLeaves_zero (e : SVal) (xs : List SVal) : updLeaves e 0 xs = flatten e := by
  rw [updLeaves, keepBelow_zero]; rfl

theorem updLeaves_one (e x : SVal) (xs : List SVal) : updLeaves e 1 (x :: xs) = e :: xs :=
  congrArg (e :: ·) (replaceAt_past 1 e 1 xs (by omega))

theorem updLeaves_add_two (e x : SVal) (n : Nat) (xs : List SVal) :
    updLeaves e (n + 2) (x :: xs) = x :: updLeaves e n xs := by
  have h1 : (2 * 0 + 1 == n + 2) = false := beq_eq_false_iff_ne.2 (by omega)
  have h2 : 2 * 0 + 1 < n + 2 := by omega
  simp only [updLeaves, Nat.add_mod_right, replaceAt, keepBelow, h1, h2, if_true, replaceAt_shift, keepBelow_shift]
  split <;> rfl

/-- `UPDATE n` below one more leaf `a` (so that the list has its two leaves also for `n = 0`) -/
theorem updaten_leaves (e : SVal) (n : Nat) (sv r : SVal) (h : updaten n e sv = some r) (a : SVal) :
    pairn (a :: updLeaves e n (flatten sv)) = some (.pair a r) := by
  fun_induction updaten n e sv generalizing r a with
  | case1 e => cases h; rw [updLeaves_zero]; exact pairn_cons_flatten e a
  | case2 e l r0 => cases h; rw [flatten, updLeaves_one]; exact pairn_cons (pairn_cons_flatten r0 e)
  | case3 n e l r0 ih =>
    obtain ⟨r1, h1, rfl⟩ := Option.map_eq_some_iff.1 h
    rw [flatten, updLeaves_add_two]
    exact pairn_cons (ih r1 h1 l)
  | case4 => cases h

theorem iterComb_pair (nd : Bool) (a : Annot) (l r : CVal) :
    iterComb false nd (.pair a l r)
      = (if nd then [CVal.pair a l r] else []) ++ l :: (if r.isPair then iterComb false nd r else [r]) := by
  rw [iterComb, descend_false]

/-- leaves of any value: `iter_comb()` for a pair, the value itself otherwise (`update_comb`'s treatment of the element) -/
theorem leaves_strip (e : CVal) :
    (if e.isPair then iterComb false false e else [e]).map strip = flatten (strip e) := by
  induction e using CVal.comb_induction with
  | leaf v h => rw [h, flatten_not_pair (not_isPair_strip h)]; rfl
  | pair a l r ih => rw [CVal.isPair, if_pos rfl, iterComb_pair]; exact congrArg (strip l :: ·) ih

theorem iterComb_strip (v : CVal) (hv : v.isPair = true) : (iterComb false false v).map strip = flatten (strip v) := by
  rw [← leaves_strip, if_pos hv]

theorem getn_succ_not_pair {sv : SVal} (h : isPair sv = false) (m : Nat) : getn (m + 1) sv = none := by
  cases sv with
  | pair => cases h
  | _ => cases m <;> rfl

/-- `iter_comb(include_nodes=True)` enumerates the sub-combs and leaves in the numbering of `GET n` -/
theorem nodes_getn (v : CVal) : ∀ n, ((if v.isPair then iterComb false true v else [v])[n]?).map strip = getn n (strip v) := by
  induction v using CVal.comb_induction with
  | leaf v h =>
    intro n
    rw [h]
    cases n with
    | zero => rfl
    | succ m => rw [getn_succ_not_pair (not_isPair_strip h)]; rfl
  | pair a l r ih =>
    intro n
    rw [CVal.isPair, if_pos rfl, iterComb_pair]
    match n with
    | 0 => rfl
    | 1 => rfl
    | n + 2 => exact ih n

theorem accessComb_getn (v : CVal) (n : Nat) (hv : v.isPair = true) : (accessComb false v n).map strip = getn n (strip v) := by
  rw [← nodes_getn, if_pos hv]; rfl

theorem fromComb_strip : ∀ xs : List CVal, (fromComb xs).map strip = pairn (xs.map strip)
  | [] => rfl
  | [_] => rfl
  | [_, _] => rfl
  | a :: b :: c :: rest => by
    have ih : _ = pairn (strip b :: strip c :: rest.map strip) := fromComb_strip (b :: c :: rest)
    show ((fromComb (b :: c :: rest)).map (.pair .blank a)).map strip = (pairn (strip b :: strip c :: rest.map strip)).map (.pair (strip a))
    rw [← ih]
    cases fromComb (b :: c :: rest) <;> rfl

theorem unpairn_not_pair {sv : SVal} (h : isPair sv = false) (n : Nat) : unpairn n sv = none := by
  unfold unpairn
  split
  · cases h
  · cases h
  · rfl

theorem unpairnComb_zero (a : Annot) (l r : CVal) : unpairnComb false 0 (.pair a l r) = [l, r] := by
  rw [unpairnComb, show decide (0 > 0) = false from rfl, Bool.and_false]; rfl

theorem unpairnComb_succ (n : Nat) (a : Annot) (l r : CVal) :
    unpairnComb false (n + 1) (.pair a l r) = l :: (if r.isPair then unpairnComb false n r else [r]) := by
  rw [unpairnComb, descend_false, show decide (n + 1 > 0) = true from decide_eq_true (Nat.succ_pos n), Bool.and_true]; rfl

theorem unpairnComb_spec (n : Nat) (v : CVal) (rs : List SVal) (h : unpairn (n + 2) (strip v) = some rs) :
    (unpairnComb false n v).map strip = rs := by
  induction v using CVal.comb_induction generalizing n rs with
  | leaf v hv => rw [unpairn_not_pair (not_isPair_strip hv)] at h; cases h
  | pair a l r ih =>
    cases n with
    | zero => cases h; rw [unpairnComb_zero]; rfl
    | succ n =>
      obtain ⟨rs', h1, rfl⟩ := Option.map_eq_some_iff.1 (show (unpairn (n + 2) (strip r)).map (strip l :: ·) = some rs from h)
      rw [unpairnComb_succ]
      cases hr : r.isPair with
      | false => rw [unpairn_not_pair (not_isPair_strip hr)] at h1; cases h1
      | true => exact congrArg (strip l :: ·) (ih n rs' h1)

theorem updateComb_strip (v e : CVal) (n : Nat) (hv : v.isPair = true) :
    (updateComb false v n e).map strip = pairn (updLeaves (strip e) n (flatten (strip v))) := by
  unfold updateComb updLeaves
  split
  · rw [fromComb_strip, replaceAt_map, iterComb_strip v hv]
  · rw [fromComb_strip, List.map_append, keepBelow_map, iterComb_strip v hv, leaves_strip]

/-- `update_comb`: wherever the reference is defined the helper agrees (`update_comb(0, e)` rebuilds `e` through `from_comb`, which
wants ≥ 2 leaves, hence the side condition for n = 0 — the instruction UPDATE n does not call the helper with 0) -/
theorem updateComb_spec (v e : CVal) (n : Nat) (r : SVal) (hv : v.isPair = true) (h0 : n = 0 → e.isPair = true)
    (h : updaten n (strip e) (strip v) = some r) : (updateComb false v n e).map strip = some r := by
  rw [updateComb_strip v e n hv]
  cases v with
  | pair a l r0 =>
    match n, h with
    | 0, h =>
      obtain ⟨l', r', he⟩ := isPair_elim (isPair_strip e ▸ h0 rfl)
      cases h
      rw [updLeaves_zero, he]
      exact pairn_cons_flatten r' l'
    | 1, h => cases h; rw [strip, flatten, updLeaves_one]; exact pairn_cons_flatten _ _
    | n + 2, h =>
      obtain ⟨r1, h1, rfl⟩ := Option.map_eq_some_iff.1 (show (updaten n (strip e) (strip r0)).map (.pair (strip l)) = some r from h)
      rw [strip, flatten, updLeaves_add_two]
      exact updaten_leaves _ n _ r1 h1 _
  | _ => cases hv

theorem map_push {α β : Type} (f : α → β) (o : Option α) (st : List α) :
    (o.map (· :: st)).map (List.map f) = (o.map f).map (· :: st.map f) := by
  cases o <;> rfl

theorem step_getN (ci cu zg zu : Bool) (n : Nat) (v : CVal) (st : List CVal) :
    step ci cu zg zu (.getN n) (v :: st)
      = if zg && n == 0 then some (v :: st) else if v.isPair then (accessComb ci v n).map (· :: st) else none := rfl

theorem step_updateN (ci cu zg zu : Bool) (n : Nat) (e v : CVal) (st : List CVal) :
    step ci cu zg zu (.updateN n) (e :: v :: st)
      = if zu && n == 0 then some (e :: st) else if v.isPair then (updateComb ci v n e).map (· :: st) else none := rfl

theorem step_pairN (ci cu zg zu : Bool) (n : Nat) (st : List CVal) :
    step ci cu zg zu (.pairN n) st
      = if n ≥ 2 ∧ st.length ≥ n then (fromComb (st.take n)).map (· :: st.drop n) else none := rfl

theorem step_unpairN (ci cu zg zu : Bool) (n : Nat) (v : CVal) (st : List CVal) :
    step ci cu zg zu (.unpairN n) (v :: st)
      = if n ≥ 2 ∧ v.isPair then some (unpairnComb cu (n - 2) v ++ st) else none := rfl

theorem updaten_succ_not_pair {sv : SVal} (h : isPair sv = false) (e : SVal) (m : Nat) : updaten (m + 1) e sv = none := by
  cases sv with
  | pair => cases h
  | _ => cases m <;> rfl

/-- the reference fails on every non-pair, so a value on which it succeeds is a pair -/
theorem isPair_of_some {α : Type} {f : SVal → Option α} {v : CVal} {x : α} (h : f (strip v) = some x)
    (hf : ∀ sv, isPair sv = false → f sv = none) : v.isPair = true := by
  cases hv : v.isPair with
  | true => rfl
  | false => rw [hf _ (not_isPair_strip hv)] at h; cases h

/-- GET n on a stack, repaired shape: the reference `GET n` for EVERY value and EVERY n — same result, same failures -/
theorem step_getN_eq (zu : Bool) (n : Nat) (v : CVal) (st : List CVal) :
    (step false false true zu (.getN n) (v :: st)).map (List.map strip)
      = (getn n (strip v)).map (· :: st.map strip) := by
  cases n with
  | zero => rfl
  | succ m =>
    show Option.map _ (if v.isPair then (accessComb false v (m + 1)).map (· :: st) else none) = _
    cases hv : v.isPair with
    | false => rw [getn_succ_not_pair (not_isPair_strip hv)]; rfl
    | true => rw [if_pos rfl, map_push, accessComb_getn v (m + 1) hv]

theorem step_getN_spec (zu : Bool) (n : Nat) (v : CVal) (st : List CVal) (x : SVal)
    (h : getn n (strip v) = some x) :
    (step false false true zu (.getN n) (v :: st)).map (List.map strip) = some (x :: st.map strip) := by
  rw [step_getN_eq, h]; rfl

theorem step_updateN_spec (zg : Bool) (n : Nat) (e v : CVal) (st : List CVal) (x : SVal)
    (h : updaten n (strip e) (strip v) = some x) :
    (step false false zg true (.updateN n) (e :: v :: st)).map (List.map strip) = some (x :: st.map strip) := by
  cases n with
  | zero => cases h; rfl
  | succ m =>
    have hv : v.isPair = true := isPair_of_some h fun sv hp => updaten_succ_not_pair hp _ m
    show Option.map _ (if v.isPair then (updateComb false v (m + 1) e).map (· :: st) else none) = _
    rw [if_pos hv, map_push, updateComb_spec v e (m + 1) x hv (fun h0 => by cases h0) h]; rfl

theorem step_pairN_eq (zg zu : Bool) (n : Nat) (st : List CVal) :
    (step false false zg zu (.pairN n) st).map (List.map strip) = Spec.Comb.step (.pairN n) (st.map strip) := by
  rw [step_pairN, Spec.Comb.step, List.length_map, ← List.map_take, ← List.map_drop, ← fromComb_strip, ← map_push]
  split <;> rfl

theorem step_pairN_spec (zg zu : Bool) (n : Nat) (st : List CVal) (x : SVal) (hn : 2 ≤ n ∧ n ≤ st.length)
    (h : pairn ((st.map strip).take n) = some x) :
    (step false false zg zu (.pairN n) st).map (List.map strip) = some (x :: (st.map strip).drop n) := by
  rw [step_pairN_eq, Spec.Comb.step, List.length_map, if_pos hn, h]; rfl

theorem step_unpairN_spec (zg zu : Bool) (n : Nat) (v : CVal) (st : List CVal) (rs : List SVal)
    (h : unpairn n (strip v) = some rs) :
    (step false false zg zu (.unpairN n) (v :: st)).map (List.map strip) = some (rs ++ st.map strip) := by
  have hv : v.isPair = true := isPair_of_some h fun sv hp => unpairn_not_pair hp n
  match n, h with
  | n + 2, h =>
    rw [step_unpairN, if_pos ⟨Nat.le_add_left 2 n, hv⟩, Nat.add_sub_cancel]
    exact congrArg some ((List.map_append).trans (congrArg (· ++ st.map strip) (unpairnComb_spec n v rs h)))

theorem iterComb_leaf (chk nd : Bool) {v : CVal} (h : v.isPair = false) : iterComb chk nd v = [] := by
  cases v with
  | pair => cases h
  | _ => rfl

theorem unpairnComb_leaf (chk : Bool) (n : Nat) {v : CVal} (h : v.isPair = false) : unpairnComb chk n v = [] := by
  cases v with
  | pair => cases h
  | _ => rfl

theorem iterComb_erase (nd : Bool) (v : CVal) : (iterComb false nd v).map erase = iterComb false nd (erase v) := by
  induction v using CVal.comb_induction with
  | leaf v h => rw [iterComb_leaf _ _ h, iterComb_leaf _ _ ((isPair_erase v).trans h)]; rfl
  | pair a l r ih =>
    rw [erase_pair, iterComb_pair, iterComb_pair, isPair_erase, ← ih]
    cases nd <;> cases r.isPair <;> rfl

theorem unpairnComb_erase (n : Nat) (v : CVal) : (unpairnComb false n v).map erase = unpairnComb false n (erase v) := by
  induction v using CVal.comb_induction generalizing n with
  | leaf v h => rw [unpairnComb_leaf _ _ h, unpairnComb_leaf _ _ ((isPair_erase v).trans h)]; rfl
  | pair a l r ih =>
    cases n with
    | zero => rw [erase_pair, unpairnComb_zero, unpairnComb_zero]; rfl
    | succ n =>
      rw [erase_pair, unpairnComb_succ, unpairnComb_succ, isPair_erase, ← ih n]
      cases r.isPair <;> rfl

theorem fromComb_erase : ∀ xs : List CVal, (fromComb xs).map erase = fromComb (xs.map erase)
  | [] => rfl
  | [_] => rfl
  | [_, _] => rfl
  | a :: b :: c :: rest => by
    have ih : _ = fromComb (erase b :: erase c :: rest.map erase) := fromComb_erase (b :: c :: rest)
    show ((fromComb (b :: c :: rest)).map (.pair .blank a)).map erase
      = (fromComb (erase b :: erase c :: rest.map erase)).map (.pair .blank (erase a))
    rw [← ih]
    cases fromComb (b :: c :: rest) <;> rfl

theorem accessComb_erase (v : CVal) (n : Nat) : (accessComb false v n).map erase = accessComb false (erase v) n := by
  unfold accessComb
  rw [← iterComb_erase, List.getElem?_map]

theorem leaves_erase (e : CVal) :
    (if e.isPair then iterComb false false e else [e]).map erase
      = if (erase e).isPair then iterComb false false (erase e) else [erase e] := by
  rw [isPair_erase, ← iterComb_erase]
  cases e.isPair <;> rfl

theorem updateComb_erase (v e : CVal) (n : Nat) :
    (updateComb false v n e).map erase = updateComb false (erase v) n (erase e) := by
  unfold updateComb
  split
  · rw [fromComb_erase, replaceAt_map, iterComb_erase]
  · rw [fromComb_erase, List.map_append, keepBelow_map, iterComb_erase, leaves_erase]

theorem map_eraseIdx {α β : Type} (f : α → β) : ∀ (xs : List α) (n : Nat), (xs.eraseIdx n).map f = (xs.map f).eraseIdx n
  | [], _ => rfl
  | _ :: _, 0 => rfl
  | x :: xs, n + 1 => congrArg (f x :: ·) (map_eraseIdx f xs n)

theorem step_erase (zg zu : Bool) (i : Instr) (st : List CVal) :
    (step false false zg zu i st).map (List.map erase) = step false false zg zu i (st.map erase) := by
  cases i with
  | getN n =>
    cases st with
    | nil => rfl
    | cons v st =>
      rw [List.map_cons, step_getN, step_getN, isPair_erase, ← accessComb_erase, ← map_push]
      split
      · rfl
      · split <;> rfl
  | updateN n =>
    rcases st with _ | ⟨e, _ | ⟨v, st⟩⟩
    · rfl
    · rfl
    · rw [List.map_cons, List.map_cons, step_updateN, step_updateN, isPair_erase, ← updateComb_erase, ← map_push]
      split
      · rfl
      · split <;> rfl
  | pairN n =>
    rw [step_pairN, step_pairN, List.length_map, ← List.map_take, ← List.map_drop, ← fromComb_erase, ← map_push]
    split <;> rfl
  | unpairN n =>
    cases st with
    | nil => rfl
    | cons v st =>
      rw [List.map_cons, step_unpairN, step_unpairN, isPair_erase, ← unpairnComb_erase, ← List.map_append]
      split <;> rfl
  | pair | swap => rcases st with _ | ⟨a, _ | ⟨b, st⟩⟩ <;> rfl
  | dup | drop => cases st <;> rfl
  | unpair | car | cdr =>
    cases st with
    | nil => rfl
    | cons v st => cases v <;> rfl
  | dig n =>
    show Option.map _ (match st[n]? with | some x => some (x :: st.eraseIdx n) | none => none)
      = match (st.map erase)[n]? with | some x => some (x :: (st.map erase).eraseIdx n) | none => none
    rw [List.getElem?_map, ← map_eraseIdx]
    cases st[n]? <;> rfl
  | dug n =>
    cases st with
    | nil => rfl
    | cons x st =>
      show Option.map _ (if st.length ≥ n then some (st.take n ++ x :: st.drop n) else none)
        = if (st.map erase).length ≥ n then some ((st.map erase).take n ++ erase x :: (st.map erase).drop n) else none
      rw [List.length_map, ← List.map_take, ← List.map_drop, ← List.map_cons, ← List.map_append]
      split <;> rfl

theorem exec_erase (zg zu : Bool) : ∀ (prog : List Instr) (st : List CVal),
    (exec false false zg zu prog st).map (List.map erase) = exec false false zg zu prog (st.map erase)
  | [], st => rfl
  | i :: is, st => by
    rw [exec, exec, ← step_erase]
    cases step false false zg zu i st with
    | none => rfl
    | some st' => exact exec_erase zg zu is st'

/-! ### optimized layout: pytezos' "flatten, then look at the number of leaves" is Octez' incremental `unparse_pair` -/

/-- rendered leaves of the maximal right comb -/
def args (sv : SVal) : List Mich := (flatten sv).map layout

theorem args_pair (l r : SVal) : args (.pair l r) = layout l :: args r := rfl

theorem args_not_pair {v : SVal} (h : isPair v = false) : args v = [layout v] := by
  rw [args, flatten_not_pair h]; rfl

theorem args_two {v : SVal} (h : isPair v = true) : ∃ x y zs, args v = x :: y :: zs := by
  obtain ⟨l, r, rfl⟩ := isPair_elim h
  cases hr : isPair r with
  | false => exact ⟨_, _, [], by rw [args_pair, args_not_pair hr]⟩
  | true => obtain ⟨l', r', rfl⟩ := isPair_elim hr; exact ⟨_, _, _, rfl⟩

theorem mkPair_eq (a b : Mich) : Impl.Comb.mkPair a b = Spec.Comb.mkPair a b := rfl

theorem unparsePair_leaf (b : Bool) (x y : Mich) : unparsePair false b x y = Spec.Comb.mkPair x y := by
  unfold unparsePair; split <;> rfl

theorem unparsePair_three (rp : Bool) (x a b : Mich) :
    unparsePair rp false x (Spec.Comb.mkPair a b) = Spec.Comb.mkPair x (Spec.Comb.mkPair a b) := by
  unfold unparsePair Spec.Comb.mkPair
  split
  · rename_i h; cases h
  · rw [Bool.and_false, Bool.false_and, Bool.false_and]; rfl
  · rfl

theorem layout_pair (l r : SVal) :
    layout (.pair l r) = unparsePair (isPair r) (rightIsPair r) (layout l) (layout r) := by
  rw [layout]

/-- the counting rule on the rendered leaves gives Octez' layout -/
theorem combArgs_args (r : SVal) : ∀ l : SVal, combArgs (layout l :: args r) = some (layout (.pair l r)) := by
  induction r using SVal.comb_induction with
  | leaf r h => intro l; rw [layout_pair, h, unparsePair_leaf, args_not_pair h]; rfl
  | pair l' r' ih =>
    intro l
    have ih := ih l'
    rw [layout_pair l, args_pair]
    show _ = some (unparsePair true (isPair r') _ _)
    cases h1 : isPair r' with
    | false =>
      -- three leaves
      rw [args_not_pair h1] at ih ⊢
      rw [← Option.some.inj ih, mkPair_eq, unparsePair_three]; rfl
    | true =>
      obtain ⟨l'', r'', rfl⟩ := isPair_elim h1
      rw [args_pair] at ih ⊢
      cases h2 : isPair r'' with
      | false =>
        -- four leaves
        rw [args_not_pair h2] at ih ⊢
        rw [← Option.some.inj ih]; rfl
      | true =>
        -- five or more
        obtain ⟨x, y, zs, hz⟩ := args_two h2
        rw [hz] at ih ⊢
        rw [← Option.some.inj ih]; rfl

theorem combMich_pair (chk : Bool) (a : Annot) (l r : CVal) :
    combMich chk (.pair a l r) = (toMich chk l).bind fun x =>
      if descend chk r then (combMich chk r).map (x :: ·) else (toMich chk r).map fun y => [x, y] := rfl

theorem combMich_pair_args {a : Annot} {l r : CVal} (hl : toMich false l = some (layout (strip l)))
    (hr : toMich false r = some (layout (strip r))) (hc : r.isPair = true → combMich false r = some (args (strip r))) :
    combMich false (.pair a l r) = some (args (strip (.pair a l r))) := by
  rw [combMich_pair, hl, descend_false, strip, args_pair]
  cases h : r.isPair with
  | false => rw [hr, args_not_pair (not_isPair_strip h)]; rfl
  | true => rw [hc h]; rfl

mutual
  theorem toMich_layout : ∀ v : CVal, toMich false v = some (layout (strip v))
    | .atom _ m => rfl
    | .pair a l r => by
      show (combMich false (.pair a l r)).bind combArgs = _
      rw [combMich_pair_args (toMich_layout l) (toMich_layout r) (combMich_args r), strip, args_pair]
      exact combArgs_args _ _
    | .none _ => rfl
    | .some _ v => congrArg (Option.map fun x => Mich.prim "Some" [x] []) (toMich_layout v)
    | .left _ v => congrArg (Option.map fun x => Mich.prim "Left" [x] []) (toMich_layout v)
    | .right _ v => congrArg (Option.map fun x => Mich.prim "Right" [x] []) (toMich_layout v)
    | .list _ xs => congrArg (Option.map Mich.seq) (toMichList_layout xs)
  theorem combMich_args : ∀ v : CVal, v.isPair = true → combMich false v = some (args (strip v))
    | .pair _ l r, _ => combMich_pair_args (toMich_layout l) (toMich_layout r) (combMich_args r)
    | .atom .., h | .none .., h | .some .., h | .left .., h | .right .., h | .list .., h => by cases h
  theorem toMichList_layout : ∀ xs : List CVal, toMichList false xs = some (layoutList (stripList xs))
    | [] => rfl
    | x :: xs => by
      show (toMich false x).bind (fun y => (toMichList false xs).map (y :: ·)) = _
      rw [toMich_layout x, toMichList_layout xs]; rfl
end

/-- the fused traversal of `toMich` is `[arg.to_micheline_value() for arg in self.iter_comb()]` -/
theorem combMich_eq (chk : Bool) (v : CVal) (hv : v.isPair = true) :
    combMich chk v = toMichList chk (iterComb chk false v) := by
  induction v using CVal.comb_induction with
  | leaf v h => rw [h] at hv; cases hv
  | pair a l r ih =>
    rw [combMich_pair, iterComb, if_neg Bool.false_ne_true, List.nil_append, toMichList]
    congr 1
    funext x
    cases hd : descend chk r with
    | false =>
      rw [if_neg Bool.false_ne_true, if_neg Bool.false_ne_true, toMichList]
      cases toMich chk r <;> rfl
    | true =>
      have hp : r.isPair = true := by
        cases r with
        | pair => rfl
        | _ => cases hd
      rw [if_pos rfl, if_pos rfl, ih hp]

end Impl.Comb
