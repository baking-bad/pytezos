import PytezosModel.Core.Zarith
import PytezosModel.Proofs.Bytes
namespace Core

theorem forgeNat_wf (n : Nat) : Bytes.WF (forgeNat n) := by
  induction n using Nat.strongRecOn with
  | _ n ih =>
    unfold forgeNat
    split
    · intro b hb; simp at hb; omega
    · intro b hb
      simp only [List.mem_cons] at hb
      rcases hb with h | h
      · omega
      · exact ih (n / 128) (by omega) b h

/-- in strict mode: the last group of a positive number is never zero, and a continuation is positive -/
theorem unforgeNatStrict_forgeNat (s : Bool) (n : Nat) (hn : s = true → 0 < n) (rest : Bytes) :
    unforgeInt.unforgeNatStrict s (forgeNat n ++ rest) = some (n, rest) := by
  induction n using Nat.strongRecOn with
  | _ n ih =>
    unfold forgeNat
    split
    · have : ¬ (s = true ∧ n = 0) := fun h => by have := hn h.1; omega
      simp [unforgeInt.unforgeNatStrict, *]
    · have h : ¬ (n % 128 + 128 < 128) := by omega
      simp only [List.cons_append, unforgeInt.unforgeNatStrict, ih (n / 128) (by omega) (fun _ => by omega), Option.map_some,
        h, if_false]
      congr 2
      omega

theorem unforgeNat_eq : ∀ bs : Bytes, unforgeNat bs = unforgeInt.unforgeNatStrict false bs
  | [] => rfl
  | b :: bs => by simp [unforgeNat, unforgeInt.unforgeNatStrict, unforgeNat_eq bs]

theorem unforgeNat_forgeNat (n : Nat) (rest : Bytes) : unforgeNat (forgeNat n ++ rest) = some (n, rest) := by
  rw [unforgeNat_eq]
  exact unforgeNatStrict_forgeNat false n nofun rest

theorem forgeInt_wf (z : Int) : Bytes.WF (forgeInt z) := by
  unfold forgeInt
  simp only
  split
  · intro b hb; simp at hb; split at hb <;> omega
  · intro b hb
    simp only [List.mem_cons] at hb
    rcases hb with h | h
    · split at h <;> omega
    · exact forgeNat_wf _ b h

/-- the first byte of a zarith integer: 6 value bits `m`, the sign bit `sg`, the continuation bit `more` -/
theorem head_byte (m sg more : Nat) (hm : m < 64) (hsg : sg = 0 ∨ sg = 64) (hmore : more = 0 ∨ more = 128) :
    (m + sg + more) % 64 = m ∧ ((m + sg + more) / 64 % 2 = 1 ↔ sg = 64) ∧ (m + sg + more < 128 ↔ more = 0) := by
  omega

theorem sign_natAbs (z : Int) : (if (if z < 0 then 64 else 0) = 64 then -(z.natAbs : Int) else z.natAbs) = z := by
  split <;> omega

theorem unforgeInt_forgeInt (s : Bool) (z : Int) (rest : Bytes) :
    unforgeInt s (forgeInt z ++ rest) = some (z, rest) := by
  have hsg : (if z < 0 then 64 else 0) = 0 ∨ (if z < 0 then 64 else 0) = 64 := by split <;> simp
  unfold forgeInt
  simp only
  split
  · rename_i hs
    obtain ⟨h1, h2, h3⟩ := head_byte z.natAbs _ 0 hs hsg (.inl rfl)
    simp only [Nat.add_zero] at h1 h2 h3
    simp only [List.cons_append, List.nil_append, unforgeInt, h1, h2, h3, if_true, sign_natAbs]
  · rename_i hs
    obtain ⟨h1, h2, h3⟩ := head_byte (z.natAbs % 64) _ 128 (Nat.mod_lt _ (by decide)) hsg (.inr rfl)
    simp only [List.cons_append, unforgeInt, h1, h2, h3, unforgeNatStrict_forgeNat s (z.natAbs / 64) (fun _ => by omega) rest,
      Nat.mod_add_div, sign_natAbs]
    simp

theorem unforgeNatStrict_canonical (bs : Bytes) (hwf : Bytes.WF bs) (v : Nat) (rest : Bytes)
    (h : unforgeInt.unforgeNatStrict true bs = some (v, rest)) : 0 < v ∧ bs = forgeNat v ++ rest := by
  induction bs generalizing v rest with
  | nil => simp [unforgeInt.unforgeNatStrict] at h
  | cons b t ih =>
    have hb : b < 256 := hwf b (by simp)
    simp only [unforgeInt.unforgeNatStrict] at h
    by_cases hlt : b < 128
    · simp only [hlt, if_true, Bool.true_and, decide_eq_true_eq] at h
      by_cases hz : b = 0
      · simp [hz] at h
      · simp only [hz, if_false, Option.some.injEq, Prod.mk.injEq] at h
        obtain ⟨rfl, rfl⟩ := h
        refine ⟨by omega, ?_⟩
        unfold forgeNat; simp [hlt]
    · simp only [hlt, if_false, Option.map_eq_some_iff, Prod.mk.injEq] at h
      obtain ⟨⟨v', r'⟩, hrec, rfl, rfl⟩ := h
      obtain ⟨hv', ht⟩ := ih (fun x hx => hwf x (by simp [hx])) v' r' hrec
      refine ⟨by omega, ?_⟩
      have h1 : ¬ (b - 128 + 128 * v' < 128) := by omega
      have h2 : (b - 128 + 128 * v') % 128 + 128 = b := by omega
      have h3 : (b - 128 + 128 * v') / 128 = v' := by omega
      rw [forgeNat, if_neg h1, h2, h3, List.cons_append, ht]

/-- `forge_int` in terms of sign and magnitude (negative zero is not a value) -/
theorem forgeInt_signed (neg : Prop) [Decidable neg] (i : Nat) (h : neg → 0 < i) :
    forgeInt (if neg then -(i : Int) else i)
      = if i < 64 then [i + if neg then 64 else 0] else (i % 64 + (if neg then 64 else 0) + 128) :: forgeNat (i / 64) := by
  have h1 : (if neg then -(i : Int) else i).natAbs = i := by split <;> omega
  have h2 : ((if neg then -(i : Int) else i) < 0) = neg := by
    by_cases hn : neg
    · have := h hn; simp only [hn, if_true, eq_iff_iff, iff_true]; omega
    · simp only [hn, if_false, eq_iff_iff, iff_false]; omega
  simp only [forgeInt, h1, h2]

/-- **canonicity of the strict reader**: an accepted encoding is the forged one, except for "negative zero"
(`0x40`), the one redundant encoding Zarith's sign-magnitude format has. -/
theorem unforgeInt_strict_canonical (bs : Bytes) (hwf : Bytes.WF bs) (z : Int) (rest : Bytes)
    (h : unforgeInt true bs = some (z, rest)) :
    bs = forgeInt z ++ rest ∨ (z = 0 ∧ bs = 64 :: rest) := by
  cases bs with
  | nil => simp [unforgeInt] at h
  | cons b0 t =>
    have hb : b0 < 256 := hwf b0 (by simp)
    simp only [unforgeInt] at h
    by_cases hlt : b0 < 128
    · simp only [hlt, if_true, Option.some.injEq, Prod.mk.injEq] at h
      obtain ⟨rfl, rfl⟩ := h
      by_cases hz : b0 = 64
      · subst hz; exact .inr ⟨by decide, rfl⟩
      · refine .inl ?_
        rw [forgeInt_signed _ _ (by omega), if_pos (Nat.mod_lt _ (by decide))]
        congr 1
        split <;> omega
    · simp only [hlt, if_false] at h
      cases hrec : unforgeInt.unforgeNatStrict true t with
      | none => simp [hrec] at h
      | some p =>
        simp only [hrec, Option.some.injEq, Prod.mk.injEq] at h
        obtain ⟨rfl, rfl⟩ := h
        obtain ⟨hv, rfl⟩ := unforgeNatStrict_canonical t (fun x hx => hwf x (by simp [hx])) p.1 p.2 hrec
        refine .inl ?_
        rw [forgeInt_signed _ _ (by omega), if_neg (by omega), List.cons_append]
        congr 3
        · split <;> omega
        · omega

theorem local_nat (s : Bool) : Local (unforgeInt.unforgeNatStrict s) := by
  intro d
  induction d with
  | nil => exact fun v r h => nomatch h
  | cons b t ih =>
    intro v r h
    simp only [unforgeInt.unforgeNatStrict] at h
    by_cases hlt : b < 128
    · simp only [hlt, if_true] at h
      split at h
      · cases h
      · rename_i hz
        cases h
        exact ⟨[b], rfl, fun tail => by simp [unforgeInt.unforgeNatStrict, hlt, hz]⟩
    · simp only [hlt, if_false, Option.map_eq_some_iff] at h
      obtain ⟨⟨v', r'⟩, hrec, heq⟩ := h
      cases heq
      obtain ⟨c, rfl, hc⟩ := ih v' r' hrec
      exact ⟨b :: c, rfl, fun tail => by simp [unforgeInt.unforgeNatStrict, hlt, hc tail]⟩

theorem local_int (s : Bool) : Local (unforgeInt s) := by
  intro d v r h
  cases d with
  | nil => cases h
  | cons b0 t =>
    simp only [unforgeInt] at h
    by_cases hlt : b0 < 128
    · simp only [hlt, if_true] at h
      cases h
      exact ⟨[b0], rfl, fun tail => by simp [unforgeInt, hlt]⟩
    · simp only [hlt, if_false] at h
      cases hrec : unforgeInt.unforgeNatStrict s t with
      | none => simp [hrec] at h
      | some p =>
        simp only [hrec, Option.some.injEq, Prod.mk.injEq] at h
        obtain ⟨rfl, rfl⟩ := h
        obtain ⟨c, rfl, hc⟩ := local_nat s t p.1 p.2 hrec
        exact ⟨b0 :: c, rfl, fun tail => by simp [unforgeInt, hlt, hc tail]⟩

end Core
