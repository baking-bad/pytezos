import PytezosModel.Proofs.Encoding
import PytezosModel.Crypto.RealHash
/-! From a 32-byte digest to the Base58Check text pytezos returns for it (`Lo…`, `LLo…`, `vh…`, `expr…`): what the
`…_concrete` corollaries of C31 / C33 / C15 need from the C09 mirror, stated per ROW of the regenerated table, so that
they depend only on the row concerned (its own numeral-range fact and its disjointness from every other row), not on
the pairwise fact about the whole table (`table_pairs_ok` in `Proofs/EncodingTable.lean`). -/
namespace HashText
open Impl.Encoding

/-- what is assumed about a hash function: 32 bytes (BLAKE2b-256) -/
structure HashOk (H : List Nat → List Nat) : Prop where
  len : ∀ x, (H x).length = 32
  bytes : ∀ x, IsBytes (H x)

theorem blake_ok : HashOk RealHash.blake := ⟨RealHash.blake_length, RealHash.blake_bytes⟩

theorem cks_ok : CksOk RealHash.cks := ⟨RealHash.cks_length, RealHash.cks_bytes⟩

/-- `base58_encode` / `base58_decode` were recognised by the C09 translator and `base58_decode` validates the row -/
def sourceOk : Bool :=
  Generated.C09.tableRecognised && Generated.C09.encodeRecognised && Generated.C09.decodeRecognised &&
    Generated.C09.decodeChecksBinPrefix && Generated.C09.decodeChecksPayloadLen

/-- closed facts about one row of the regenerated table: it is in the table, its numeral-range obligation holds, it is
the row `base58_encode` selects for (its payload length, its human prefix), and no other row accepts a string of its
length that starts with its human prefix -/
def rowFacts (r : Row) : Bool :=
  sourceOk && decide (r ∈ table) && rowOk r && (findEncodeRow table r.dataLen r.human == some r) &&
    table.all (rowsDisjoint r)

theorem text_of_payload (cks : List Nat → List Nat) (hck : CksOk cks) (r : Row) (hf : rowFacts r = true)
    (v : List Nat) (hl : v.length = r.dataLen) (hv : IsBytes v) :
    ∃ s, base58Encode cks v r.human = .ok s ∧ s.length = r.encLen ∧ r.human <+: s ∧ base58Decode cks s = .ok v := by
  simp only [rowFacts, sourceOk, Bool.and_eq_true, decide_eq_true_eq, beq_iff_eq, List.all_eq_true] at hf
  obtain ⟨⟨⟨⟨⟨⟨⟨⟨h1, h2⟩, h3⟩, h4⟩, h5⟩, hmem⟩, hrow⟩, hfe⟩, hdis⟩ := hf
  obtain ⟨e1, e2, _⟩ := encOf_shape cks hck r hrow v hl hv
  refine ⟨encOf cks r v, ?_, e1, e2, ?_⟩
  · simp only [base58Encode, h1, h2, Bool.and_self, if_true, encodeWith, hl, hfe]; rfl
  · simp only [base58Decode, h1, h3, h4, h5, Bool.and_self, if_true]
    exact decodeWith_enc table cks hck true true r hmem hdis hrow v hl hv

end HashText
