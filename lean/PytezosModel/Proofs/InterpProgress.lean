import PytezosModel.Proofs.InterpProgressComb
import PytezosModel.Proofs.InterpGuard
import PytezosModel.Proofs.InterpSoundEval
set_option linter.unusedSectionVars false   -- `[Mode]` is a section variable of every lemma here; some do not use it
/-! **Progress** for the reference semantics of the modelled core: a well-typed program (`Typing.typeInstr`, with
well-formed set / map literals: `Typing.literalsOk`) run on a well-typed stack (deep value typing `StackWF` of C02, and
every set / map strictly sorted: `GoodStack`) is never stuck — for every fuel bound it yields a stack, a FAILWITH value,
a runtime failure, or runs out of fuel.  Proved together with the preservation of `GoodStack` (the preservation of the
types is C02's `sound_all`), by induction on the fuel: the invariants `SafeE` / `SafeS` / `SafeI` / `SafeM` run parallel to
`SoundE` … `SoundM` of InterpSoundEval, and the step for `SafeE` has one case per scheme of `Typed`. -/
namespace Interp
variable [Mode]
open Typing

/-- a result of the (possibly guarded) reference evaluator is a result of the plain one -/
theorem eval_ok_plain {g : Bool} {env : Env} {f : Nat} {i : Instr} {st st' : List Val}
    (h : Spec.eval g env f i st = .ok st') : Spec.eval false env f i st = .ok st' := by
  cases g with
  | false => exact h
  | true => rw [(all_guard env f).1 i st (by rw [h]; intro e; cases e)]; exact h

theorem evalMap_ok_plain {g : Bool} {env : Env} {f : Nat} {b : Instr} {m : Bool} {xs st : List Val} {p : List Val × List Val}
    (h : Spec.evalMap g env f b m xs st = .ok p) : Spec.evalMap false env f b m xs st = .ok p := by
  cases g with
  | false => exact h
  | true => rw [(all_guard env f).2.2.2 b m xs st (by rw [h]; intro e; cases e)]; exact h

def StackOk (tr : TRes) (st' : List Val) : Prop := GoodStack st' ∧ StackWF st' ∧ tr = .ok (st'.map typeOf)

def SafeE (env : Env) (f : Nat) : Prop :=
  ∀ i st tr, StackWF st → GoodStack st → literalsOk i = true → typeInstr Mode.strict i (st.map typeOf) = some tr →
    (Spec.eval Mode.guard env f i st).Safe GoodStack

def SafeS (env : Env) (f : Nat) : Prop :=
  ∀ is st tr, StackWF st → GoodStack st → literalsOks is = true → typeSeq Mode.strict is (st.map typeOf) = some tr →
    (Spec.evalSeq Mode.guard env f is st).Safe GoodStack

def SafeI (env : Env) (f : Nat) : Prop :=
  ∀ body xs st t, (∀ x ∈ xs, WF x ∧ typeOf x = t) → GoodStack xs → StackWF st → GoodStack st → literalsOk body = true →
    BodyKeeps body t (st.map typeOf) → (Spec.evalIter Mode.guard env f body xs st).Safe GoodStack

/-- MAP over a map keeps the keys: the collected items are the bindings of the source with new values -/
def KeysKept (isMap : Bool) (xs ys : List Val) : Prop :=
  isMap = true → ys.map keyOf = xs.map keyOf ∧ ∀ y ∈ ys, ∃ a b, y = .pair a b

def SafeM (env : Env) (f : Nat) : Prop :=
  ∀ body isMap xs st t t', (∀ x ∈ xs, WF x ∧ typeOf x = t) → GoodStack xs → StackWF st → GoodStack st →
    literalsOk body = true → typeInstr Mode.strict body (t :: st.map typeOf) = some (.ok (t' :: st.map typeOf)) →
    (isMap = true → ∃ k v, t = .pair k v) →
    (Spec.evalMap Mode.guard env f body isMap xs st).Safe fun p => GoodStack p.1 ∧ GoodStack p.2 ∧ KeysKept isMap xs p.1

/-- safety together with C02's type preservation -/
theorem SafeE.ok {env : Env} {f : Nat} (hE : SafeE env f) (i : Instr) (st : List Val) (tr : TRes) (hw : StackWF st)
    (hg : GoodStack st) (hl : literalsOk i = true) (hty : typeInstr Mode.strict i (st.map typeOf) = some tr) :
    (Spec.eval Mode.guard env f i st).Safe (StackOk tr) :=
  (hE i st tr hw hg hl hty).mono fun st' heq hgood => ⟨hgood, (sound_all env f).1 i st st' tr hw (eval_ok_plain heq) hty⟩

/-- run a body typed `S0 → S1` (or always failing) on a stack of type `S0` and go on with its result, a stack of type `S1` -/
theorem SafeE.body {env : Env} {f : Nat} (hE : SafeE env f) {α : Type} {Q : α → Prop} {body : Instr} {st : List Val}
    {S0 S1 : List Ty} {k : List Val → Res α} (hw : StackWF st) (hg : GoodStack st) (hl : literalsOk body = true)
    (hst : st.map typeOf = S0)
    (hb : typeInstr Mode.strict body S0 = some (.ok S1) ∨ typeInstr Mode.strict body S0 = some .failed)
    (hk : ∀ st1, StackWF st1 → GoodStack st1 → st1.map typeOf = S1 → (k st1).Safe Q) :
    ((Spec.eval Mode.guard env f body st).bind k).Safe Q := by
  subst hst
  rcases hb with hb | hb
  · exact (hE.ok body st _ hw hg hl hb).bind fun st1 _ h1 => hk st1 h1.2.1 h1.1 (TRes.ok.inj h1.2.2).symm
  · exact (hE.ok body st _ hw hg hl hb).bind fun st1 _ h1 => by cases h1.2.2

section
variable (env : Env) (f : Nat) (hE : SafeE env f)
include hE

theorem safeS_succ (hS : SafeS env f) : SafeS env (f + 1) := by
  intro is st tr hw hg hl hty
  cases is with
  | nil => exact hg
  | cons i is =>
    obtain ⟨tr1, hti, hrest⟩ := typeSeq_cons hty
    have hl := Bool.and_eq_true_iff.mp hl
    exact (hE.ok i st tr1 hw hg hl.1 hti).bind fun st1 _ h1 => hS is st1 tr h1.2.1 h1.1 hl.2 (hrest _ h1.2.2)

theorem safeI_succ (hI : SafeI env f) : SafeI env (f + 1) := by
  intro body xs st t hxs hgx hw hg hl hb
  cases xs with
  | nil => simp [Spec.evalIter, hg]
  | cons x xs =>
    simp only [Spec.evalIter]
    rw [goodStack_cons] at hgx
    have hx := hxs x (by simp)
    exact hE.body (stackWF_cons.mpr ⟨hx.1, hw⟩) (goodStack_cons.mpr ⟨hgx.1, hg⟩) hl (by simp [hx.2]) hb fun st1 w1 g1 e1 =>
      hI body xs st1 t (fun y hy => hxs y (by simp [hy])) hgx.2 w1 g1 hl (by rw [e1]; exact hb)

theorem safeM_succ (hM : SafeM env f) : SafeM env (f + 1) := by
  intro body isMap xs st t t' hxs hgx hw hg hl hb hk
  cases xs with
  | nil => simp [Spec.evalMap, hg, goodStack_nil, KeysKept]
  | cons x xs =>
    simp only [Spec.evalMap]
    rw [goodStack_cons] at hgx
    have hx := hxs x (by simp)
    refine hE.body (stackWF_cons.mpr ⟨hx.1, hw⟩) (goodStack_cons.mpr ⟨hgx.1, hg⟩) hl (by simp [hx.2]) (Or.inl hb)
      fun r w1 g1 e1 => ?_
    cases r with
    | nil => cases e1
    | cons y st1 =>
      simp only [List.map_cons, List.cons.injEq] at e1
      rw [goodStack_cons] at g1
      rw [stackWF_cons] at w1
      have hb' : typeInstr Mode.strict body (t :: st1.map typeOf) = some (.ok (t' :: st1.map typeOf)) := by
        rw [e1.2]; exact hb
      have hrec := hM body isMap xs st1 t t' (fun z hz => hxs z (by simp [hz])) hgx.2 w1.2 g1.2 hl hb' hk
      simp only
      cases isMap with
      | false =>
        simp only [rbind_ok]
        refine hrec.bind fun p _ hp => ?_
        obtain ⟨ys, st2⟩ := p
        simp only [safe_ok, goodStack_cons]
        exact ⟨⟨g1.1, hp.1⟩, hp.2.1, fun h => by cases h⟩
      | true =>
        obtain ⟨k, v, rfl⟩ := hk rfl
        obtain ⟨a, b, rfl, _, _⟩ := canon_pair hx.1 hx.2
        have ha : litOk a = true := ((litOk_pair a b).mp hgx.1).1
        simp only [rbind_ok]
        refine hrec.bind fun p _ hp => ?_
        obtain ⟨ys, st2⟩ := p
        simp only [safe_ok, goodStack_cons, litOk_pair]
        refine ⟨⟨⟨ha, g1.1⟩, hp.1⟩, hp.2.1, fun _ => ?_⟩
        obtain ⟨h1, h2⟩ := hp.2.2 rfl
        exact ⟨by simp [keyOf, h1], fun z hz => (List.mem_cons.mp hz).elim (fun e => ⟨_, _, e⟩) (h2 z)⟩

end

theorem goodMap_keysKept {k : Ty} {xs ys : List Val} (h : goodMap k xs = true) (hk : ys.map keyOf = xs.map keyOf)
    (hp : ∀ y ∈ ys, ∃ a b, y = .pair a b) : goodMap k ys = true := by
  simp only [goodMap, Bool.and_eq_true, List.all_eq_true] at h ⊢
  refine ⟨⟨h.1.1, ?_⟩, by rw [hk]; exact h.2⟩
  intro y hy
  obtain ⟨a, b, rfl⟩ := hp y hy
  have : a ∈ ys.map keyOf := List.mem_map.mpr ⟨_, hy, rfl⟩
  rw [hk, List.mem_map] at this
  obtain ⟨x, hx, hxa⟩ := this
  obtain ⟨a', b', rfl, hk'⟩ := isBinding_pair (h.1.2 x hx)
  simp only [keyOf] at hxa
  subst hxa
  simpa [isBinding] using hk'

theorem listOf_safe {body : Instr} {t t' : Ty} {st ys : List Val}
    (hb : typeInstr Mode.strict body (t :: st.map typeOf) = some (.ok (t' :: st.map typeOf)))
    (hoff : (Mode.guard && t' != t) = false) (hty : ∀ z ∈ ys, typeOf z = t') (hg : GoodStack ys) :
    (Spec.listOf Mode.guard body t st ys).Safe (fun r => litOk r = true) := by
  cases ys with
  | nil => simp [Spec.listOf, Spec.mapOutTy, typeInstr_lax hb, hoff, goodStack_nil]
  | cons y rest =>
    have hall : ∀ z ∈ rest, typeOf z = typeOf y := fun z hz => by rw [hty z (by simp [hz]), hty y (by simp)]
    simp only [Spec.listOf, List.all_eq_true, decide_eq_true_eq]
    rw [if_pos hall]
    exact (litOk_list _ _).mpr hg

theorem mapOf_safe {body : Instr} {k v t' : Ty} {st xs ys : List Val}
    (hb : typeInstr Mode.strict body (.pair k v :: st.map typeOf) = some (.ok (t' :: st.map typeOf)))
    (hoff : (Mode.guard && t' != v) = false) (hgm : simpleComparable k = true → goodMap k xs = true)
    (hty : ∀ z ∈ ys, typeOf z = .pair k t') (hk : ys.map keyOf = xs.map keyOf ∧ ∀ y ∈ ys, ∃ a b, y = .pair a b)
    (hg : GoodStack ys) : (Spec.mapOf Mode.guard body k v st ys).Safe (fun r => litOk r = true) := by
  cases ys with
  | nil => simp [Spec.mapOf, Spec.mapOutTy, typeInstr_lax hb, hoff, litOk_map, goodStack_nil, goodMap, strictSorted]
  | cons y rest =>
    obtain ⟨a, b, rfl⟩ := hk.2 y (by simp)
    have hy := hty _ List.mem_cons_self
    simp only [typeOf, Ty.pair.injEq] at hy
    have hall : ∀ z ∈ rest, typeOf z = .pair (typeOf a) (typeOf b) := fun z hz => by
      rw [hty z (by simp [hz]), hy.1, hy.2]
    simp only [Spec.mapOf, List.all_eq_true, decide_eq_true_eq]
    rw [if_pos hall]
    refine (litOk_map _ _ _).mpr ⟨fun hsc => ?_, hg⟩
    rw [hy.1] at hsc ⊢
    exact goodMap_keysKept (hgm hsc) hk.1 hk.2

section
variable (env : Env) (f : Nat) (hE : SafeE env f) (hS : SafeS env f) (hI : SafeI env f) (hM : SafeM env f)
include hE hS hI hM

theorem safeE_succ : SafeE env (f + 1) := by
  intro i st tr hw0 hg hl hty0
  cases typed_inv hw0 hty0 with
  | simple hc _ hw hty =>
    rw [spec_eval_simple Mode.guard env f i hc st]
    exact step_safe env i st tr hw hg hty
  | seq hw hty => exact hS _ st tr hw hg hl hty
  | done heq _ hg1 =>
    rw [heq]
    exact hg1 hl hg
  | branch heq hw0 hg0 hl0 hta =>
    rw [heq]
    exact hE _ _ _ hw0 (hg0 hg) (hl0 hl) hta
  | @dip _ n body _ _ heq hlb hw hb =>
    rw [heq]
    exact (hE body _ _ (stackWF_drop hw n) (goodStack_drop hg n) (hlb ▸ hl) hb).bind
      fun st1 _ h1 => goodStack_append.mpr ⟨goodStack_take hg n, h1⟩
  | loop heq hlb hw0 hg0 hb hty =>
    rw [heq]
    exact hE.body hw0 (hg0 hg) (hlb ▸ hl) rfl hb fun st1 w1 g1 e1 => hE i st1 tr w1 g1 hl (e1 ▸ hty)
  | iter heq hxs hgx hw hk =>
    rw [heq]
    rw [goodStack_cons] at hg
    exact hI _ _ _ _ hxs (hgx hg.1) hw hg.2 hl hk
  | @map_list body t xs st t' hxs hw hb hoff =>
    rw [goodStack_cons, litOk_list] at hg
    refine Res.Safe.bind (hM body false xs st t t' hxs hg.1 hw hg.2 hl hb (by simp)) fun p heq hp => ?_
    obtain ⟨ys, st1⟩ := p
    -- `listOf` is stuck unless the items have one type: they have the type the body is typed to leave (C02)
    obtain ⟨g1, _, _, _⟩ := (sound_all env f).2.2.2 body false xs st ys st1 t t' hxs hw hb (by simp) (evalMap_ok_plain heq)
    exact (listOf_safe hb hoff (fun z hz => (g1 z hz).2) hp.1).bind fun r _ hr => goodStack_cons.mpr ⟨hr, hp.2.1⟩
  | @map_map body k v xs st t' hxs hw hb hoff =>
    rw [goodStack_cons, litOk_map] at hg
    refine Res.Safe.bind (hM body true xs st (.pair k v) t' hxs hg.1.2 hw hg.2 hl hb (fun _ => ⟨k, v, rfl⟩)) fun p heq hp => ?_
    obtain ⟨ys, st1⟩ := p
    obtain ⟨g1, _, _, _⟩ :=
      (sound_all env f).2.2.2 body true xs st ys st1 (.pair k v) t' hxs hw hb (fun _ => ⟨k, v, rfl⟩) (evalMap_ok_plain heq)
    exact (mapOf_safe hb hoff hg.1.1 (fun z hz => (g1 z hz).2) (hp.2.2 rfl) hp.1).bind fun r _ hr =>
      goodStack_cons.mpr ⟨hr, hp.2.1⟩
  | @exec x a b body st hwx hta hbody =>
    rw [goodStack_cons, goodStack_cons] at hg
    simp only [Spec.eval, hta, if_true]
    refine hE.body (stackWF_cons.mpr ⟨hwx, stackWF_nil⟩) (goodStack_cons.mpr ⟨hg.1, goodStack_nil⟩) hg.2.1 (by simp [hta]) hbody
      fun r _ g1 e1 => ?_
    rcases r with _ | ⟨y, _ | ⟨z, r⟩⟩
    · simp at e1
    · simp only [List.map_cons, List.map_nil, List.cons.injEq, and_true] at e1
      rw [goodStack_cons] at g1
      simp [e1, goodStack_cons, g1.1, hg.2.2]
    · simp at e1

end

theorem safe_all (env : Env) : ∀ f, SafeE env f ∧ SafeS env f ∧ SafeI env f ∧ SafeM env f
  | 0 => by
    refine ⟨?_, ?_, ?_, ?_⟩
    · intro i st tr _ _ _ _; simp [Spec.eval]
    · intro is st tr _ hg _ _; cases is <;> simp [Spec.evalSeq, hg]
    · intro body xs st t _ _ _ hg _ _; cases xs <;> simp [Spec.evalIter, hg]
    · intro body isMap xs st t t' _ _ _ hg _ _ _; cases xs <;> simp [Spec.evalMap, hg, goodStack_nil, KeysKept]
  | f + 1 =>
    have ⟨hE, hS, hI, hM⟩ := safe_all env f
    ⟨safeE_succ env f hE hS hI hM, safeS_succ env f hE hS, safeI_succ env f hE hI, safeM_succ env f hE hM⟩

/-- a well-typed value: a well-formed value of its runtime type (deep: the elements of collections, the bodies of
lambdas — C02's `HasTy`) in which every set and every map with simple comparable keys is strictly sorted -/
def WellFormed (v : Val) : Prop := WF v ∧ litOk v = true

/-- **type safety**: a well-typed program on a well-typed stack is not stuck and not outside the guard, and a stack it
yields is again a stack of well-typed values, of the static type `tr` -/
theorem type_safety (env : Env) (fuel : Nat) (i : Instr) (st : List Val) (tr : TRes)
    (hty : typeInstr Mode.strict i (st.map typeOf) = some tr) (hwf : ∀ v ∈ st, WellFormed v) (hlit : literalsOk i = true) :
    (Spec.eval Mode.guard env fuel i st).Safe (StackOk tr) :=
  (safe_all env fuel).1.ok i st tr (fun v hv => (hwf v hv).1) (fun v hv => (hwf v hv).2) hlit hty

/-- **progress**: a well-typed program on a well-typed stack is never stuck — for every fuel bound the reference
semantics yields a stack, a FAILWITH value, a runtime failure (mutez overflow, shift by more than 256 bits), or runs out
of fuel.  (`tr` is the static result: `.ok τs`, or `.failed` for a program that always fails.) -/
theorem progress (env : Env) (fuel : Nat) (i : Instr) (st : List Val) (tr : TRes)
    (hty : typeInstr Mode.strict i (st.map typeOf) = some tr) (hwf : ∀ v ∈ st, WellFormed v) (hlit : literalsOk i = true) :
    Spec.eval Mode.guard env fuel i st ≠ .stuck :=
  (type_safety env fuel i st tr hty hwf hlit).ne_stuck

/-- the invariant is preserved: the values a well-typed program leaves on the stack are well-typed values again (the
typing half is C02's `preservation`) -/
theorem wellFormed_preserved (env : Env) (fuel : Nat) (i : Instr) (st st' : List Val) (tr : TRes)
    (hty : typeInstr Mode.strict i (st.map typeOf) = some tr) (hwf : ∀ v ∈ st, WellFormed v) (hlit : literalsOk i = true)
    (hev : Spec.eval Mode.guard env fuel i st = .ok st') : ∀ v ∈ st', WellFormed v :=
  have h := (type_safety env fuel i st tr hty hwf hlit).of_ok hev
  fun v hv => ⟨h.2.1 v hv, h.1 v hv⟩

/-- the reference semantics of the mode never answers `offguard`: trivially the unguarded one, and — the content of the
strict mode — the *guarded* one on strictly typed programs -/
theorem eval_ne_offguard (env : Env) (fuel : Nat) (i : Instr) (st : List Val) (tr : TRes)
    (hty : typeInstr Mode.strict i (st.map typeOf) = some tr) (hwf : ∀ v ∈ st, WellFormed v) (hlit : literalsOk i = true) :
    Spec.eval Mode.guard env fuel i st ≠ .offguard :=
  (type_safety env fuel i st tr hty hwf hlit).ne_offguard

end Interp
