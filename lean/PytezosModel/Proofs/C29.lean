import PytezosModel.Client.Search
/-! Chain-history search: the specification list `changes` splits at any level,
bisection finds a change point, the walk of one interval and the scan of all intervals. -/
namespace Proofs.C29
open Impl.Search Spec.Search
variable {V : Type} [DecidableEq V]

theorem changes_append (get : Nat → V) {lo m hi : Nat} (h1 : lo ≤ m) (h2 : m ≤ hi) :
    changes get lo hi = changes get lo m ++ changes get m hi := by
  unfold changes
  have e : hi - lo = (m - lo) + (hi - m) := by omega
  have e2 : m + 1 = lo + 1 + (m - lo) := by omega
  rw [e, ← List.range'_append_1, List.filter_append, List.map_append, e2]

theorem changes_of_le (get : Nat → V) {lo hi : Nat} (h : hi ≤ lo) : changes get lo hi = [] := by
  unfold changes
  have : hi - lo = 0 := by omega
  simp [this]

omit [DecidableEq V] in
theorem const_of_noReturn (get : Nat → V) {lo hi : Nat} (hnr : NoReturn get lo hi) {a b : Nat}
    (ha : lo ≤ a) (_hab : a ≤ b) (hb : b ≤ hi) (he : get a = get b) : ∀ j, a ≤ j → j ≤ b → get j = get a :=
  fun j h1 h2 => hnr a j b ha h1 h2 hb he

omit [DecidableEq V] in
theorem noReturn_mono (get : Nat → V) {lo hi lo' hi' : Nat} (hnr : NoReturn get lo hi) (h1 : lo ≤ lo') (h2 : hi' ≤ hi) :
    NoReturn get lo' hi' :=
  fun i j k a b c d e => hnr i j k (by omega) b c (by omega) e

theorem changes_nil_of_eq (get : Nat → V) {lo hi : Nat} (hnr : NoReturn get lo hi) (he : get lo = get hi) :
    changes get lo hi = [] := by
  by_cases hle : lo ≤ hi
  · have hc : ∀ j, lo ≤ j → j ≤ hi → get j = get lo := const_of_noReturn get hnr (Nat.le_refl lo) hle (Nat.le_refl hi) he
    unfold changes
    rw [List.filter_eq_nil_iff.mpr, List.map_nil]
    intro l hl
    rw [List.mem_range'_1] at hl
    simp [isChange, hc l (by omega) (by omega), hc (l - 1) (by omega) (by omega)]
  · exact changes_of_le get (by omega)

/-- the first change above `lo`: nothing up to `l - 1`, then the change at `l` -/
theorem changes_first (get : Nat → V) {lo l hi : Nat} (hnr : NoReturn get lo hi) (h1 : lo < l) (h2 : l ≤ hi)
    (hp : get (l - 1) = get lo) (hn : get l ≠ get lo) :
    changes get lo hi = (l, get l) :: changes get l hi := by
  have hnr' : NoReturn get lo (l - 1) := noReturn_mono get hnr (Nat.le_refl _) (by omega)
  have hstep : changes get (l - 1) l = [(l, get l)] := by
    unfold changes
    rw [show l - (l - 1) = 1 by omega, show l - 1 + 1 = l by omega, List.range'_one]
    simp [isChange, hp, hn]
  rw [changes_append get (m := l - 1) (by omega) (by omega), changes_append get (lo := l - 1) (m := l) (by omega) h2,
    changes_nil_of_eq get hnr' hp.symm, hstep]
  rfl

theorem bisect_ok (get : Nat → V) (pred : V) :
    ∀ (fuel lo hi : Nat), lo < hi → hi - lo ≤ fuel → get lo = pred → get hi ≠ pred →
      ∃ l t, bisect true get pred fuel lo hi = .ok ((l, get l), t) ∧ lo < l ∧ l ≤ hi ∧ get (l - 1) = pred ∧ get l ≠ pred := by
  intro fuel
  induction fuel with
  | zero => intro lo hi h1 h2; omega
  | succ n ih =>
    intro lo hi hlt hfuel hlo hhi
    by_cases hb : hi = lo + 1
    · refine ⟨hi, [hi], ?_, by omega, Nat.le_refl _, ?_, hhi⟩
      · simp [bisect, hb]
      · have : hi - 1 = lo := by omega
        rw [this]; exact hlo
    · by_cases hm : get ((hi + lo) / 2) = pred
      · obtain ⟨l, t, he, h1, h2, h3, h4⟩ := ih ((hi + lo) / 2) hi (by omega) (by omega) hm hhi
        refine ⟨l, (hi + lo) / 2 :: t, ?_, by omega, h2, h3, h4⟩
        simp [bisect, hb, hm, he, Except.map]
      · obtain ⟨l, t, he, h1, h2, h3, h4⟩ := ih lo ((hi + lo) / 2) (by omega) (by omega) hlo hm
        refine ⟨l, (hi + lo) / 2 :: t, ?_, h1, by omega, h3, h4⟩
        simp [bisect, hb, hm, he, Except.map]

/-- `bisect(start, end)` with `end ≤ start`: unbounded recursion in Python -/
theorem bisect_degenerate (get : Nat → V) (pred : V) {lo hi : Nat} (h : hi ≤ lo) :
    bisect true get pred (hi - lo) lo hi = .error .recursion := by
  have e : hi - lo = 0 := by omega
  have hb : hi ≠ lo + 1 := by omega
  simp [e, bisect, hb]

theorem walk_ok (cfg : Config) (hlog : cfg.logOk = true) (get : Nat → V) (head : Nat) :
    ∀ (fuel level : Nat), level ≤ head → head - level ≤ fuel → NoReturn get level head →
      ∃ t, walk cfg get head (get head) fuel level (get level) = .ok (changes get level head, t) := by
  intro fuel
  induction fuel with
  | zero =>
    intro level h1 h2 _
    have : level = head := by omega
    subst this
    exact ⟨[], by simp [walk, changes_of_le get (Nat.le_refl level)]⟩
  | succ n ih =>
    intro level h1 h2 hnr
    by_cases hv : get level = get head
    · exact ⟨[], by simp [walk, hv, changes_nil_of_eq get hnr hv]⟩
    · have hlt : level < head := by
        rcases Nat.lt_or_ge level head with h | h
        · exact h
        · have : level = head := by omega
          subst this; exact absurd rfl hv
      obtain ⟨l, t, he, g1, g2, g3, g4⟩ :=
        bisect_ok get (get level) (head - level) level head hlt (Nat.le_refl _) rfl (fun h => hv h.symm)
      obtain ⟨t', he'⟩ := ih l g2 (by omega) (noReturn_mono get hnr (by omega) (Nat.le_refl _))
      refine ⟨t ++ t', ?_⟩
      rw [changes_first get hnr g1 g2 g3 g4]
      simp [walk, hv, findStateChangeWith, hlog, he, he', Except.map]

theorem runEvents_probes (cfg : Config) (get : Nat → V) (evs rest : List (Event V)) {r : List (Nat × V)} {t : List Nat}
    (h : runEvents cfg get rest = .ok (r, t)) : ∃ t', runEvents cfg get (probesOf evs ++ rest) = .ok (r, t') := by
  induction evs with
  | nil => exact ⟨t, h⟩
  | cons e evs ih =>
    cases e with
    | probe l =>
      obtain ⟨t', h'⟩ := ih
      exact ⟨l :: t', by simp [probesOf, runEvents, h', Except.map]⟩
    | interval a b c d => simpa [probesOf] using ih

theorem runEvents_append (cfg : Config) (get : Nat → V) (a b : List (Event V)) {r1 r2 : List (Nat × V)} {t1 t2 : List Nat}
    (h1 : runEvents cfg get a = .ok (r1, t1)) (h2 : runEvents cfg get b = .ok (r2, t2)) :
    ∃ t, runEvents cfg get (a ++ b) = .ok (r1 ++ r2, t) := by
  induction a generalizing r1 t1 with
  | nil => cases h1; exact ⟨t2, h2⟩
  | cons e a ih =>
    cases e with
    | probe l =>
      simp only [runEvents, List.cons_append] at h1 ⊢
      cases hra : runEvents cfg get a with
      | error e => rw [hra] at h1; cases h1
      | ok v =>
        rw [hra] at h1
        cases h1
        obtain ⟨t, ht⟩ := ih hra
        exact ⟨l :: t, by rw [ht]; rfl⟩
    | interval hd hv tl tv =>
      simp only [runEvents, List.cons_append] at h1 ⊢
      cases hw : walkIntervalWith cfg get hd tl hv tv with
      | error e => rw [hw] at h1; cases h1
      | ok w =>
        cases hra : runEvents cfg get a with
        | error e => rw [hw, hra] at h1; cases h1
        | ok v =>
          rw [hw, hra] at h1
          cases h1
          obtain ⟨t, ht⟩ := ih hra
          exact ⟨w.2 ++ t, by rw [ht]; simp [Except.map]⟩

theorem runEvents_interval (cfg : Config) (hlog : cfg.logOk = true) (get : Nat → V) {lo hi : Nat} (h : lo ≤ hi)
    (hnr : NoReturn get lo hi) :
    ∃ t, runEvents cfg get [.interval hi (get hi) lo (get lo)] = .ok (changes get lo hi, t) := by
  obtain ⟨t, ht⟩ := walk_ok cfg hlog get hi (hi - lo) lo h (Nat.le_refl _) hnr
  exact ⟨t ++ [], by simp [runEvents, walkIntervalWith, ht, Except.map]⟩

/-- the intervals found by the downward scan, walked upwards, give all changes of `(last, cur]` -/
theorem scan_ok (cfg : Config) (hlog : cfg.logOk = true) (get : Nat → V) (last step : Nat) (hstep : 0 < step) :
    ∀ (cur : Nat), NoReturn get last cur →
      ∃ t, runEvents cfg get (intervalsOf (scan true get last step cur (get cur))).reverse = .ok (changes get last cur, t) := by
  intro cur
  induction cur using Nat.strongRecOn with
  | _ cur ih =>
    intro hnr
    rw [scan]
    by_cases hloop : last + step < cur ∧ 0 < step
    · have hnr1 : NoReturn get last (cur - step) := noReturn_mono get hnr (Nat.le_refl _) (by omega)
      have hnr2 : NoReturn get (cur - step) cur := noReturn_mono get hnr (by omega) (Nat.le_refl _)
      obtain ⟨t1, h1⟩ := ih (cur - step) (by omega) hnr1
      rw [changes_append get (lo := last) (m := cur - step) (hi := cur) (by omega) (by omega)]
      by_cases hv : get (cur - step) = get cur
      · rw [changes_nil_of_eq get hnr2 hv]
        refine ⟨t1, ?_⟩
        simp only [hloop, and_self, dite_true, hv, if_true, intervalsOf, List.append_nil]
        rw [← hv]; exact h1
      · obtain ⟨t2, h2⟩ := runEvents_interval cfg hlog get (lo := cur - step) (hi := cur) (by omega) hnr2
        obtain ⟨t, ht⟩ := runEvents_append cfg get _ _ h1 h2
        refine ⟨t, ?_⟩
        simp only [hloop, and_self, dite_true, hv, if_false, intervalsOf, List.reverse_cons]
        exact ht
    · simp only [hloop, dite_false, tailPart, Bool.true_and]
      by_cases hlt : last < cur
      · by_cases hv : get last = get cur
        · refine ⟨[], ?_⟩
          simp [hlt, hv, intervalsOf, runEvents, changes_nil_of_eq get hnr hv]
        · obtain ⟨t, ht⟩ := runEvents_interval cfg hlog get (lo := last) (hi := cur) (by omega) hnr
          refine ⟨t, ?_⟩
          simp only [hlt, decide_true, if_true, hv, if_false, intervalsOf, List.reverse_cons, List.reverse_nil, List.nil_append]
          exact ht
      · refine ⟨[], ?_⟩
        simp [hlt, intervalsOf, runEvents, changes_of_le get (Nat.le_of_not_lt hlt)]

end Proofs.C29
