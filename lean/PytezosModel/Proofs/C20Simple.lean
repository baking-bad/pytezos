import PytezosModel.Proofs.C20Values
import PytezosModel.Proofs.C20Rules
/-! C20: the `Acc` facts about the values the instructions take apart and build, one per shape; every rule of `Turns`
points at its fact (`Turns.acc`), so every "pop k, push the results" instruction is a `Good` step. -/
namespace Impl.Tickets

/-- the facts about the code under test that the invariants rest on -/
structure CfgOk (c : Cfg) : Prop where
  dup_ticket : c.nonDup.contains "ticket" = true
  push_ticket : c.nonPush.contains "ticket" = true
  split_zero : c.splitRejectsZero = true
  dup_big : c.dupChecksBig = true

theorem Acc.refl (xs : List Val) : Acc [] xs xs := fun hc => ⟨hc, fun _ => Nat.le_refl _, id⟩

theorem Acc.trans {a b c : List Val} (h1 : Acc [] a b) (h2 : Acc [] b c) : Acc [] a c := fun hc =>
  have ⟨x1, x2, x3⟩ := h1 hc
  have ⟨y1, y2, y3⟩ := h2 x1
  ⟨y1, fun k => Nat.le_trans (y2 k) (x2 k), fun hz => y3 (x3 hz)⟩

theorem Acc.append {a b c d : List Val} (h1 : Acc [] a b) (h2 : Acc [] c d) : Acc [] (a ++ c) (b ++ d) := fun hc =>
  have hc' := LC_append.mp hc
  have ⟨x1, x2, x3⟩ := h1 hc'.1
  have ⟨y1, y2, y3⟩ := h2 hc'.2
  ⟨LC_append.mpr ⟨x1, y1⟩, fun k => by rw [LS_append, LS_append]; exact (Nat.add_le_add (x2 k) (y2 k) :),
    fun hz => have hz' := LN_append.mp hz; LN_append.mpr ⟨x3 hz'.1, y3 hz'.2⟩⟩

/-- a value that holds no ticket (as long as `ops` are consistent) may be added to the results -/
theorem Acc.cons_closed {ops res : List Val} {w : Val} (h : Acc [] ops res) (hw : LC ops → Closed w) :
    Acc [] ops (w :: res) := fun hc =>
  have ⟨h1, h2, h3⟩ := h hc
  have ⟨w1, w2, w3⟩ := hw hc
  ⟨LC_cons.mpr ⟨w1, h1⟩, fun k => by rw [LS_cons, w2 k, Nat.zero_add]; exact h2 k, fun hz => LN_cons.mpr ⟨w3, h3 hz⟩⟩

theorem acc_nil (ops : List Val) : Acc [] ops [] := fun _ => ⟨LC_nil, fun _ => Nat.zero_le _, fun _ => LN_nil⟩

theorem acc_closed {v : Val} (h : Closed v) (ops : List Val) : Acc [] ops [v] := (acc_nil ops).cons_closed fun _ => h

theorem acc_atoms (ops : List Val) : ∀ xs : List Atom, Acc [] ops (xs.map Val.atom)
  | [] => acc_nil ops
  | _ :: xs => (acc_atoms ops xs).cons_closed fun _ => ⟨rfl, fun _ => rfl, rfl⟩

theorem Acc.tail {new : List (String × Cmp × Nat)} {ops res : List Val} {a : Val} (h : Acc new ops (a :: res)) :
    Acc new ops res := fun hc =>
  have ⟨h1, h2, h3⟩ := h hc
  ⟨(LC_cons.mp h1).2, fun k => Nat.le_trans (Nat.le_add_left _ _) (h2 k), fun hz => (LN_cons.mp (h3 hz)).2⟩

theorem map_consistent_iff {big : Bool} {kt vt : Ty} {keys : List Atom} {vals : List Val} {removed : List Atom} :
    (Val.map big kt vt keys vals removed).consistent = true
      ↔ keys.length = vals.length ∧ keys.Nodup ∧ (∀ v ∈ vals, v.typeOf = vt) ∧ LC vals := by
  simp only [Val.consistent, Bool.and_eq_true, beq_iff_eq, nodupB_iff, consistentList_iff, and_assoc]

theorem duplicate_spec {c : Cfg} (ok : CfgOk c) {v r : Val} (h : duplicate c v = .ok r) :
    r = v ∧ (v.consistent = true → ∀ k, ticketSum k v = 0) := by
  have key : v.typeOf.all c.nonDup = true → r = v → r = v ∧ (v.consistent = true → ∀ k, ticketSum k v = 0) :=
    fun ha hr => ⟨hr, fun hc => (closed_of_all _ ok.dup_ticket v hc ha).2.1⟩
  unfold duplicate at h
  split at h
  · split at h
    · cases h
    · rename_i hcond
      cases h
      simp only [ok.dup_big, Bool.true_and, Bool.not_eq_true', Bool.not_eq_false] at hcond
      exact key hcond rfl
  · split at h
    · cases h
    · rename_i hcond
      cases h
      exact key (by simpa using hcond) rfl

section
/- the measures of literal lists of values built with the constructors; what `simp` leaves is propositional or linear -/
attribute [local simp] Acc LC_cons LC_nil LN_cons LN_nil LS_cons LS_nil Val.consistent noZero ticketSum mintedSum

/-- a value wrapped around one component, or the component taken out of it: both have the same three measures -/
theorem acc_same {a b : Val} (hc : a.consistent = b.consistent) (hs : ∀ k, ticketSum k b = ticketSum k a)
    (hn : noZero a = noZero b) : Acc [] [a] [b] := fun h =>
  ⟨LC_cons.mpr ⟨hc ▸ (LC_cons.mp h).1, LC_nil⟩, fun k => Nat.le_of_eq (hs k),
    fun hz => LN_cons.mpr ⟨hn ▸ (LN_cons.mp hz).1, LN_nil⟩⟩

theorem acc_unpair (l r : Val) : Acc [] [.pair l r] [l, r] := by simp
theorem acc_unsome (v : Val) : Acc [] [.some v] [v] := acc_same rfl (fun _ => rfl) rfl
theorem acc_unleft (v : Val) (t : Ty) : Acc [] [.left v t] [v] := acc_same rfl (fun _ => rfl) rfl
theorem acc_unright (t : Ty) (v : Val) : Acc [] [.right t v] [v] := acc_same rfl (fun _ => rfl) rfl
theorem acc_swap (a b : Val) : Acc [] [a, b] [b, a] := by simp +contextual [Nat.add_comm]
theorem acc_entry (a : Atom) (v : Val) : Acc [] [v] [.pair (.atom a) v] := acc_same rfl (fun _ => Nat.zero_add _) rfl

theorem acc_unlist (t : Ty) (xs : List Val) : Acc [] [.list t xs] xs := by
  simp +contextual [consistentList_iff, noZeroList_iff]

theorem acc_list {t : Ty} {ys : List Val} (h : ∀ v ∈ ys, v.typeOf = t) : Acc [] ys [.list t ys] := by
  simp +contextual [consistentList_iff, noZeroList_iff, h]

theorem acc_unmap (big : Bool) (kt vt : Ty) (keys : List Atom) (vals : List Val) (removed : List Atom) :
    Acc [] [.map big kt vt keys vals removed] vals := by
  simp +contextual [consistentList_iff, noZeroList_iff]

/-- the results of MAP over a map go under the old keys, whose distinctness is the consistency of the set beside them -/
theorem acc_map {kt kt' t : Ty} {keys removed : List Atom} {ys : List Val} (hl : keys.length = ys.length)
    (h : ∀ v ∈ ys, v.typeOf = t) : Acc [] (.set kt' keys :: ys) [.map false kt t keys ys removed] := by
  simp +contextual [consistentList_iff, noZeroList_iff, h, hl]

theorem acc_dup {v : Val} (h : v.consistent = true → ∀ k, ticketSum k v = 0) : Acc [] [v] [v, v] := by
  simp +contextual [h]

theorem optVal_sum (vt : Ty) (k : TKey) : ∀ prev : Option Val, ticketSum k (optVal vt prev) = optSum k prev
  | none | some _ => rfl

theorem acc_mapUpdate {c : Cfg} {big : Bool} {kt vt : Ty} {keys : List Atom} {vals : List Val} {removed : List Atom}
    {key val : Val} {ov prev : Option Val} {dst : Val} (hov : optOf val = some ov)
    (hu : mapUpdate c big kt vt keys vals removed key ov = .ok (prev, dst)) (hst : storeOk vt ov = true) :
    Acc [] [key, val, .map big kt vt keys vals removed] [optVal vt prev, dst] := by
  intro hc
  have hcv := (LC_cons.mp (LC_cons.mp hc).2).1
  have hcm := (LC_cons.mp (LC_cons.mp (LC_cons.mp hc).2).2).1
  obtain ⟨hl, hn, htys, hcvs⟩ := map_consistent_iff.mp hcm
  obtain ⟨hprev, ks, vs, rm, rfl, e1, e2, _, hvs, hsum⟩ := mapUpdate_spec hu hl hn
  obtain ⟨t, rfl⟩ := optOf_some hov
  have hx : ∀ x, ov = some x → optVal t ov = .some x := fun x hx => hx ▸ rfl
  have hvsum := fun k => (optVal_sum t k ov).symm
  have hp : ∀ (q : Val → Prop), (∀ p ∈ vals, q p) → q (.none vt) → (∀ p, q p → q (.some p)) → q (optVal vt prev) := by
    intro q h1 h2 h3
    cases prev with
    | none => exact h2
    | some p => exact h3 p (h1 p (hprev p rfl))
  refine ⟨LC_cons.mpr ⟨hp (·.consistent = true) hcvs rfl fun _ h => h, LC_cons.mpr ⟨map_consistent_iff.mpr ⟨e1, e2, ?_, ?_⟩, LC_nil⟩⟩,
    fun k => ?_, fun hz => ?_⟩
  · intro v hv
    rcases hvs v hv with h | h
    · simpa [h, storeOk] using hst
    · exact htys v h
  · intro v hv
    rcases hvs v hv with h | h
    · rw [hx v h] at hcv; exact hcv
    · exact hcvs v h
  · have := hsum k
    simp only [LS_cons, LS_nil, ticketSum, mintedSum, optVal_sum, ← hvsum k, LS] at this ⊢; omega
  · have hzv := (LN_cons.mp (LN_cons.mp hz).2).1
    have hzm := (noZeroList_iff vals).mp (LN_cons.mp (LN_cons.mp (LN_cons.mp hz).2).2).1
    refine LN_cons.mpr ⟨hp (noZero · = true) hzm rfl fun _ h => h, LN_cons.mpr ⟨(noZeroList_iff vs).mpr fun v hv => ?_, LN_nil⟩⟩
    rcases hvs v hv with h | h
    · rw [hx v h] at hzv; exact hzv
    · exact hzm v h

theorem acc_zip : ∀ (keys : List Atom) (vals : List Val), Acc [] vals ((keys.zip vals).map fun (a, v) => Val.pair (.atom a) v)
  | [], vals => acc_nil vals
  | _ :: _, [] => acc_nil []
  | a :: as, v :: vs => (acc_entry a v).append (acc_zip as vs)

theorem elements_vals {src : Val} {els : List Val} (h : elements src = .ok els) : Acc [] [src] els := by
  unfold elements at h
  split at h
  · cases h; exact acc_unlist _ _
  · cases h; exact acc_unpair _ _
  · split at h <;> cases h
    exact (acc_unmap _ _ _ _ _ _).trans (acc_zip _ _)
  · cases h; exact acc_atoms _ _
  all_goals cases h

theorem Turns.acc {c : Cfg} (ok : CfgOk c) {self : String} {i : Instr} {ops res : List Val} {flag : Bool}
    {new : List (String × Cmp × Nat)} (h : Turns c self i ops res flag new) (hf : flag = true) : Acc new ops res := by
  cases h with
  | ticket hc hn => simp [toCmp_ty _ _ hc, Nat.ne_of_gt hn]
  | @readTicket _ _ ct =>
    have h := cmp_toVal_closed ct
    simp [h.1, h.2.1, h.2.2]
  | @splitSome _ tk _ _ a b _ _ hs =>
    obtain ⟨hab, hz, rfl, rfl⟩ := split_some hs
    obtain ⟨ha, hb⟩ := hz ok.split_zero          -- no zero part: the code under test rejects it
    intro hc
    have hcl := fun a' => ticket_class_consistent (tk' := tk) (a' := a') c.splitKeeps (LC_cons.mp hc).1
    refine ⟨LC_cons.mpr ⟨(Bool.and_eq_true _ _).mpr ⟨hcl a, hcl b⟩, LC_nil⟩, fun k => ?_,
      fun _ => by simp [Nat.ne_of_gt ha, Nat.ne_of_gt hb]⟩
    simp only [LS_cons, LS_nil, ticketSum, mintedSum]
    split <;> omega
  | @joinSome cls tk1 c1 a1 _ _ a2 _ hj =>
    obtain ⟨rfl, rfl, rfl⟩ := join_some hj
    intro hc
    have hcl := ticket_class_consistent (tk' := tk1) (a' := a1 + a2) c.joinKeeps
      (Bool.and_eq_true _ _ ▸ (LC_cons.mp hc).1 : (Val.ticket cls tk1 c1 a1).consistent = true ∧ _).1
    refine ⟨LC_cons.mpr ⟨hcl, LC_nil⟩, fun k => ?_, by simp +contextual⟩
    simp only [LS_cons, LS_nil, ticketSum, mintedSum]
    split <;> omega
  | unpair => exact acc_unpair _ _
  | cdr => exact (acc_unpair _ _).tail
  | car => exact ((acc_unpair _ _).trans (acc_swap _ _)).tail
  | cons => simp +contextual [Val.consistentList, ticketSumList, noZeroList]
  | swap => exact acc_swap _ _
  | drop => exact acc_nil _
  | push hp ht hc => exact acc_closed (closed_of_all _ ok.push_ticket _ hc (ht ▸ hp)) _
  | get hg =>
    obtain ⟨_, rfl, _, hl⟩ := mapGet_some hg
    cases hl
    cases hl : lookup _ _ _ with
    | none => exact acc_closed ⟨rfl, fun _ => rfl, rfl⟩ _
    | some v =>
      have hm := lookup_mem hl
      intro hc
      obtain ⟨_, _, _, hcv⟩ := map_consistent_iff.mp (LC_cons.mp (LC_cons.mp hc).2).1
      refine ⟨LC_cons.mpr ⟨hcv v hm, LC_nil⟩, fun k => ?_, fun hz => LN_cons.mpr ⟨?_, LN_nil⟩⟩
      · have := mem_LS_le k hm
        simp only [LS_cons, LS_nil, optVal, ticketSum, mintedSum, LS] at this ⊢; omega
      · exact (noZeroList_iff _).mp (LN_cons.mp (LN_cons.mp hz).2).1 v hm
  | getAndUpdate hov hu => exact acc_mapUpdate hov hu hf
  | update hov hu => exact (acc_mapUpdate hov hu hf).tail
  | @updateSet k b xs =>
    refine fun hc => acc_closed ⟨?_, fun _ => rfl, rfl⟩ _ hc
    have hn : xs.Nodup := by simpa [LC_cons, LC_nil, Val.consistent, nodupB_iff] using hc
    simp only [Val.consistent, nodupB_iff]
    split
    · exact setAdd_nodup hn
    · exact hn.sublist List.filter_sublist
  | pair => simp +contextual
  | some | left | right => exact acc_same rfl (fun _ => rfl) rfl
  -- results that hold no ticket.  `apply`: the captured value ends up inside code; whatever tickets it held are gone for good
  | ticketZero | splitNone | joinNone | none | nil | emptyMap | emptyBigMap | emptySet | lambda | apply | memSet | memMap =>
    exact acc_closed ⟨rfl, fun _ => rfl, rfl⟩ _

end

theorem simple_good {c : Cfg} (ok : CfgOk c) {s s' : State} (i : Instr) (h : simple c s i = some (.ok s')) : Good s s' := by
  obtain ⟨hk, hp, rfl⟩ := simple_turns h
  exact hk.good (hp.acc ok)

end Impl.Tickets
