import PytezosModel.Proofs.InterpTyping
/-! The reference's PACK and UNPACK on typed values, by themselves: a value of a packable type has a canonical form
(`optBoth_some`) and PACK answers its bytes or the runtime failure (`packV_outcome`); what `Spec.readVal` accepts at a pair
type, and that what it reads at a type is a well-formed value of that type (`readVal_wf`).  Nothing here speaks of the mirror,
so the typing proofs need not import it. -/
namespace Interp
open Typing

theorem readAll_all (f : BMich → Option Val) (P : Val → Prop) (hf : ∀ m v, f m = some v → P v) (xs : List BMich) :
    ∀ vs, Spec.readAll f xs = some vs → ∀ v ∈ vs, P v := by
  fun_induction Spec.readAll f xs with
  | case1 => intro vs h; cases h; nofun
  | case2 x xs v vs hr hx ih =>
    intro vs' h
    cases h
    exact List.forall_mem_cons.mpr ⟨hf x v hx, ih vs hr⟩
  | _ => intro vs h; cases h

theorem readVal_base (rt : List Nat → Option Int) (s : Bool) {t : Ty} (ht : simpleComparable t = true) {m : BMich} {v : Val}
    (h : Spec.readVal rt t m = some v) : isKey t v = true ∧ checkVal s v t = true ∧ litOk v = true := by
  cases t <;> first | cases ht | skip
  all_goals
    simp only [Spec.readVal] at h
    repeat' split at h
  all_goals first | cases h | obtain ⟨n, -, rfl⟩ := Option.map_eq_some_iff.mp h
  all_goals simp_all [isKey, checkVal, litOk]

theorem readVal_isKey (rt : List Nat → Option Int) {t : Ty} (ht : simpleComparable t = true) {m : BMich} {v : Val}
    (h : Spec.readVal rt t m = some v) : isKey t v = true :=
  (readVal_base rt true ht h).1

/-- at a pair type an application denotes something only as `Pair x₁ … xₙ`, and then what `{x₁; …; xₙ}` denotes (nothing,
when n < 2) -/
theorem readVal_pair_prim (rt : List Nat → Option Int) (l r : Ty) (p : Nat) (args : List BMich) :
    Spec.readVal rt (.pair l r) (.prim p args none) = if p = 7 then Spec.readVal rt (.pair l r) (.seq args) else none := by
  rcases args with _ | ⟨x, _ | ⟨y, _ | ⟨z, rs⟩⟩⟩ <;> by_cases h : p = 7 <;> simp [Spec.readVal, h]

theorem readVal_pair_seq (rt : List Nat → Option Int) (r : Ty) (hr : Spec.isPairTy r = true) (y z : BMich) (rs : List BMich) :
    Spec.readVal rt r (.prim 7 (y :: z :: rs) none) = Spec.readVal rt r (.seq (y :: z :: rs)) := by
  cases r with
  | pair l r => exact (readVal_pair_prim rt l r 7 _).trans (if_pos rfl)
  | _ => cases hr

theorem mkPair_some {a b : Option Val} {p : Val} (h : Spec.mkPair a b = some p) : ∃ x y, a = some x ∧ b = some y ∧ p = .pair x y := by
  cases a <;> cases b <;> simp [Spec.mkPair] at h
  exact ⟨_, _, rfl, rfl, h.symm⟩

theorem readElts_all (fk fv : BMich → Option Val) (P Q : Val → Prop) (hk : ∀ m v, fk m = some v → P v)
    (hv : ∀ m v, fv m = some v → Q v) (xs : List BMich) :
    ∀ items, Spec.readElts fk fv xs = some items → ∀ e ∈ items, ∃ a b, e = .pair a b ∧ P a ∧ Q b := by
  fun_induction Spec.readElts fk fv xs with
  | case1 => intro items h; cases h; nofun
  | case2 a b xs p ps hr hp ih =>
    intro items h
    cases h
    obtain ⟨x, y, hx, hy, rfl⟩ := mkPair_some hp
    exact List.forall_mem_cons.mpr ⟨⟨x, y, rfl, hk a x hx, hv b y hy⟩, ih ps hr⟩
  | _ => intro items h; cases h

theorem simple_unpackable {t : Ty} (h : simpleComparable t = true) : unpackable t = true := by
  unfold simpleComparable at h
  split at h <;> first | rfl | cases h

/-! ### what is read at a type is a well-formed value of that type (for both modes of `checkVal`: no lambdas inside) -/
theorem checkVals_litOks (s : Bool) (t : Ty) : ∀ xs : List Val, (∀ x ∈ xs, checkVal s x t = true ∧ litOk x = true) →
    checkVals s xs t = true ∧ litOks xs = true
  | [], _ => ⟨rfl, rfl⟩
  | x :: xs, h => by
    have hx := h x List.mem_cons_self
    have ih := checkVals_litOks s t xs fun y hy => h y (List.mem_cons_of_mem _ hy)
    simp only [checkVals, litOks, Bool.and_eq_true]
    exact ⟨⟨hx.1, ih.1⟩, hx.2, ih.2⟩

theorem readVal_wf (rt : List Nat → Option Int) (s : Bool) : ∀ t : Ty, unpackable t = true →
    ∀ (m : BMich) (v : Val), Spec.readVal rt t m = some v → checkVal s v t = true ∧ litOk v = true := by
  intro t
  induction t with
  | option t ih =>
    intro hu m v h
    simp only [unpackable] at hu
    simp only [Spec.readVal] at h
    split at h
    · split at h
      · obtain ⟨w, hw, rfl⟩ := Option.map_eq_some_iff.mp h
        simpa [checkVal, litOk] using ih hu _ _ hw
      · cases h
    · split at h
      · cases h
        simp [checkVal, litOk]
      · cases h
    · cases h
  | or l r ihl ihr =>
    intro hu m v h
    simp only [unpackable, Bool.and_eq_true] at hu
    simp only [Spec.readVal] at h
    split at h
    · split at h
      · obtain ⟨w, hw, rfl⟩ := Option.map_eq_some_iff.mp h
        simpa [checkVal, litOk] using ihl hu.1 _ _ hw
      · split at h
        · obtain ⟨w, hw, rfl⟩ := Option.map_eq_some_iff.mp h
          simpa [checkVal, litOk] using ihr hu.2 _ _ hw
        · cases h
    · cases h
  | pair l r ihl ihr =>
    intro hu m v h
    simp only [unpackable, Bool.and_eq_true] at hu
    have key : ∀ a b, Spec.mkPair (Spec.readVal rt l a) (Spec.readVal rt r b) = some v →
        checkVal s v (.pair l r) = true ∧ litOk v = true := by
      intro a b hp
      obtain ⟨x, y, hx, hy, rfl⟩ := mkPair_some hp
      simp [checkVal, litOk, ihl hu.1 _ _ hx, ihr hu.2 _ _ hy]
    simp only [Spec.readVal] at h
    split at h
    · split at h
      · exact key _ _ h
      · cases h
    · split at h
      · exact key _ _ h
      · cases h
    · exact key _ _ h
    · split at h
      · exact key _ _ h
      · cases h
    · cases h
  | list t ih =>
    intro hu m v h
    simp only [unpackable] at hu
    simp only [Spec.readVal] at h
    split at h
    · obtain ⟨vs, hvs, rfl⟩ := Option.map_eq_some_iff.mp h
      have hall := readAll_all _ (fun v => checkVal s v t = true ∧ litOk v = true) (ih hu) _ _ hvs
      simp [checkVal, litOk, checkVals_litOks s t vs hall]
    · cases h
  | set t ih =>
    intro hu m v h
    simp only [unpackable] at hu
    simp only [Spec.readVal] at h
    split at h
    · obtain ⟨vs, hvs, h⟩ := Option.bind_eq_some_iff.mp h
      split at h
      · rename_i hs
        cases h
        have hall := readAll_all _ (fun v => checkVal s v t = true ∧ litOk v = true) (ih (simple_unpackable hu)) _ _ hvs
        have hk := readAll_all _ (fun v => isKey t v = true) (fun m v h => readVal_isKey rt hu h) _ _ hvs
        have hg : goodSet t vs = true := by
          simp only [goodSet, Bool.and_eq_true, List.all_eq_true]
          exact ⟨⟨hu, hk⟩, hs⟩
        simp [checkVal, litOk, hg, checkVals_litOks s t vs hall]
      · cases h
    · cases h
  | map k w ihk ihw =>
    intro hu m v h
    simp only [unpackable, Bool.and_eq_true] at hu
    simp only [Spec.readVal] at h
    split at h
    · obtain ⟨items, hvs, h⟩ := Option.bind_eq_some_iff.mp h
      split at h
      · rename_i hs
        cases h
        have hall := readElts_all _ _ (fun a => (checkVal s a k = true ∧ litOk a = true) ∧ isKey k a = true)
          (fun b => checkVal s b w = true ∧ litOk b = true)
          (fun m v h => ⟨ihk (simple_unpackable hu.1) m v h, readVal_isKey rt hu.1 h⟩) (ihw hu.2) _ _ hvs
        have hcl : ∀ e ∈ items, checkVal s e (.pair k w) = true ∧ litOk e = true := by
          intro e he
          obtain ⟨a, b, rfl, ha, hb⟩ := hall e he
          simp [checkVal, litOk, ha.1, hb]
        have hg : goodMap k items = true := by
          simp only [goodMap, Bool.and_eq_true, List.all_eq_true]
          refine ⟨⟨hu.1, ?_⟩, hs⟩
          intro e he
          obtain ⟨a, b, rfl, ha, _⟩ := hall e he
          simpa [isBinding] using ha.2
        simp [checkVal, litOk, hg, checkVals_litOks s _ items hcl]
      · cases h
    · cases h
  | unit | bool | int | nat | mutez | timestamp | string | bytes => exact fun _ m v h => (readVal_base rt s rfl h).2
  | _ => intro hu; simp [unpackable] at hu

section
open Typing

theorem checkVal_typeOf {s : Bool} {v : Val} {t : Ty} (h : checkVal s v t = true) : typeOf v = t :=
  @hasTy_typeOf ⟨s, false, nofun⟩ v t h

theorem checkVal_pair_inv {s : Bool} {x : Val} {k w : Ty} (h : checkVal s x (.pair k w) = true) :
    ∃ a b, x = .pair a b ∧ checkVal s a k = true ∧ checkVal s b w = true :=
  @hasTy_pair ⟨s, false, nofun⟩ x k w h

theorem optBoth_pair_isSome (a b : Val) :
    (Spec.optBoth (.pair a b)).isSome = ((Spec.optBoth a).isSome && (Spec.optBoth b).isSome) := by
  rw [Spec.optBoth]; cases Spec.optBoth a <;> cases Spec.optBoth b <;> rfl

theorem optimizedL_cons_isSome (x : Val) (xs : List Val) :
    (Spec.optimizedL (x :: xs)).isSome = ((Spec.optBoth x).isSome && (Spec.optimizedL xs).isSome) := by
  rw [Spec.optimizedL]; cases Spec.optBoth x <;> cases Spec.optimizedL xs <;> rfl

theorem optimizedE_cons_isSome (a b : Val) (xs : List Val) : (Spec.optimizedE (.pair a b :: xs)).isSome
    = ((Spec.optBoth a).isSome && (Spec.optBoth b).isSome && (Spec.optimizedE xs).isSome) := by
  rw [Spec.optimizedE]; cases Spec.optBoth a <;> cases Spec.optBoth b <;> cases Spec.optimizedE xs <;> rfl

/-- the bindings of a well-formed map are pairs, so they have `Elt` forms as soon as they have optimized forms -/
theorem optimizedE_of_L (s : Bool) (k w : Ty) : ∀ xs : List Val, checkVals s xs (.pair k w) = true →
    (Spec.optimizedL xs).isSome = true → (Spec.optimizedE xs).isSome = true
  | [], _, _ => rfl
  | x :: xs, h, hl => by
    simp only [checkVals, Bool.and_eq_true] at h
    obtain ⟨a, b, rfl, -⟩ := checkVal_pair_inv h.1
    simp only [optimizedL_cons_isSome, optBoth_pair_isSome, Bool.and_eq_true] at hl
    rw [optimizedE_cons_isSome, hl.1.1, hl.1.2, optimizedE_of_L s k w xs h.2 hl.2]; rfl

end

open Typing in
mutual
  /-- every well-formed value of a packable type of the model has a canonical optimized form -/
  theorem optBoth_some (s : Bool) : ∀ (v : Val) (t : Ty), checkVal s v t = true → packable t = true →
      (Spec.optBoth v).isSome = true
    | .pair a b, t, h, hp => by
      obtain rfl := checkVal_typeOf h
      simp only [typeOf, checkVal, packable, Bool.and_eq_true] at h hp
      rw [optBoth_pair_isSome, optBoth_some s a _ h.1 hp.1, optBoth_some s b _ h.2 hp.2]; rfl
    | .unit, _, _, _ | .bool true, _, _, _ | .bool false, _, _, _ | .num _ _, _, _, _ | .str _, _, _, _ | .bytes _, _, _, _
    | .none _, _, _, _ => rfl
    | .some v, t, h, hp => by
      obtain rfl := checkVal_typeOf h
      simp only [typeOf, checkVal, packable] at h hp
      rw [Spec.optBoth, Option.isSome_map]; exact optBoth_some s v _ h hp
    | .left v _, t, h, hp => by
      obtain rfl := checkVal_typeOf h
      simp only [typeOf, checkVal, packable, Bool.and_eq_true] at h hp
      rw [Spec.optBoth, Option.isSome_map]; exact optBoth_some s v _ h.2 hp.1
    | .right _ v, t, h, hp => by
      obtain rfl := checkVal_typeOf h
      simp only [typeOf, checkVal, packable, Bool.and_eq_true] at h hp
      rw [Spec.optBoth, Option.isSome_map]; exact optBoth_some s v _ h.2 hp.2
    | .list _ xs, t, h, hp | .set _ xs, t, h, hp => by
      obtain rfl := checkVal_typeOf h
      simp only [typeOf, checkVal, packable, Bool.and_eq_true] at h hp
      rw [Spec.optBoth, Option.isSome_map]; exact optimizedL_some s xs _ h.2 hp
    | .map _ _ xs, t, h, hp => by
      obtain rfl := checkVal_typeOf h
      simp only [typeOf, checkVal, packable, Bool.and_eq_true] at h hp
      rw [Spec.optBoth, Option.isSome_map]
      exact optimizedE_of_L s _ _ xs h.2 (optimizedL_some s xs _ h.2 (by rw [packable, hp.1, hp.2]; rfl))
    | .atom ta _, t, h, hp => by
      obtain rfl := checkVal_typeOf h
      cases ta <;> simp [typeOf, packable, checkVal] at hp h
    | .lam .., t, h, hp | .contract .., t, h, hp | .opTransfer .., t, h, hp | .opDelegate .., t, h, hp | .opEmit .., t, h, hp
    | .bigMap .., t, h, hp => by
      obtain rfl := checkVal_typeOf h
      cases hp
  theorem optimizedL_some (s : Bool) : ∀ (xs : List Val) (t : Ty), checkVals s xs t = true → packable t = true →
      (Spec.optimizedL xs).isSome = true
    | [], _, _, _ => rfl
    | x :: xs, t, h, hp => by
      simp only [checkVals, Bool.and_eq_true] at h
      rw [optimizedL_cons_isSome, optBoth_some s x t h.1 hp, optimizedL_some s xs t h.2 hp]; rfl
end

open Typing in
theorem optimizedE_some (s : Bool) : ∀ (xs : List Val) (k w : Ty), checkVals s xs (.pair k w) = true → packable k = true →
      packable w = true → (Spec.optimizedE xs).isSome = true :=
  fun xs k w h hk hw => optimizedE_of_L s k w xs h (optimizedL_some s xs (.pair k w) h (by rw [packable, hk, hw]; rfl))
/-- PACK on a value of a packable type with the canonical form `y`: the encoding of `y`, or — 2^32 bytes or more — the
runtime failure -/
theorem packV_of_some {v : Val} {y : BMich × List BMich} (hp : Typing.packable (typeOf v) = true) (hy : Spec.optBoth v = some y) :
    Spec.packV v = (Spec.encodeM y.1).elim .rtfail fun bs => .ok (.bytes (5 :: bs)) := by
  simp only [Spec.packV, hp, Spec.optimized, hy, Option.map_some, Bool.not_true, Bool.false_eq_true, if_false]
  cases Spec.encodeM y.1 <;> rfl

theorem packV_ne_stuck {v : Val} (h : Spec.packV v ≠ .stuck) :
    Typing.packable (typeOf v) = true ∧ ∃ y, Spec.optBoth v = some y := by
  unfold Spec.packV Spec.optimized at h
  cases hp : Typing.packable (typeOf v) <;> cases hy : Spec.optBoth v <;> simp [hp, hy] at h
  exact ⟨rfl, _, rfl⟩

theorem packV_outcome (v : Val) (hp : Typing.packable (typeOf v) = true) (ho : (Spec.optBoth v).isSome = true) :
    (∃ bs, Spec.packV v = .ok (.bytes bs)) ∨ Spec.packV v = .rtfail := by
  obtain ⟨y, hy⟩ := Option.isSome_iff_exists.mp ho
  rw [packV_of_some hp hy]
  cases Spec.encodeM y.1 with
  | some bs => exact .inl ⟨_, rfl⟩
  | none => exact .inr rfl

end Interp
