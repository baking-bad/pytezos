/-! Facts about lists that the table lookups of several properties rest on. -/

theorem List.find?_unique {α : Type} {l : List α} {p : α → Bool} {a : α} (ha : a ∈ l) (hp : p a = true)
    (hu : ∀ b ∈ l, p b = true → b = a) : l.find? p = some a := by
  cases h : l.find? p with
  | none => exact absurd hp (List.find?_eq_none.mp h a ha)
  | some b => rw [hu b (List.mem_of_find?_eq_some h) (List.find?_some h)]

theorem List.inj_of_nodup_map {α κ : Type} (f : α → κ) {l : List α} (hn : (l.map f).Nodup) {a b : α} (ha : a ∈ l)
    (hb : b ∈ l) (hab : f a = f b) : a = b := by
  rw [List.Nodup, List.pairwise_map] at hn
  exact List.Pairwise.forall_of_forall_of_flip (R := fun a b => f a = f b → a = b) (fun _ _ _ => rfl)
    (hn.imp fun hne e => absurd e hne) (hn.imp fun hne e => absurd e.symm hne) ha hb hab

theorem List.not_mem_of_nodup_append_cons {κ : Type} {ks rest : List κ} {k : κ} (hn : (ks ++ k :: rest).Nodup) : k ∉ ks :=
  fun hm => (List.nodup_append.mp hn).2.2 _ hm _ List.mem_cons_self rfl
