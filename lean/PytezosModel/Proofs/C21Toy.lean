import PytezosModel.Michelson.Bls
/-! C21: the assumed laws are satisfiable.  `toyEnv` is the group of integers modulo `r` (the image of
`k ↦ k·G` in a group of order `r`, written through discrete logarithms) with made-up coordinates `[k, k]` /
`[k, k, k, k]` and the pairing `(b, a) ↦ a·b`; it satisfies `CurveLaws` and `PairingLaws`, so the theorems of
`Props/C21.lean` are not vacuous, and it provides their concrete `example`s. -/
namespace Bls

theorem r_lt_q : r < q := by decide

private theorem r_val : r = 52435875175126190479447740508185965837690552500527637822603658699938581184513 := rfl

def toyZero : Fin r := ⟨0, by decide⟩

def toyOfNat (k : Nat) : Fin r := ⟨k % r, Nat.mod_lt _ (by decide)⟩

def toyOps (ncoord : Nat) : CurveOps where
  G := Fin r
  zero := toyZero
  add a b := toyOfNat (a.val + b.val)
  neg a := toyOfNat (r - a.val)
  mul a k := toyOfNat (a.val * k)
  isInf a := a.val == 0
  normalize a := List.replicate ncoord a.val
  ofAffine cs := match cs with
    | x :: _ => toyOfNat x
    | [] => toyZero

def toyEnv : Env where
  K1 := toyOps 2
  K2 := toyOps 4
  T := { GT := Fin r, one := toyZero, mul := fun a b => toyOfNat (a.val + b.val), isOne := fun a => a.val == 0 }
  pairing := fun (b a : Fin r) => toyOfNat (a.val * b.val)

theorem toy_add_assoc (a b c : Fin r) :
    toyOfNat ((toyOfNat (a.val + b.val)).val + c.val) = toyOfNat (a.val + (toyOfNat (b.val + c.val)).val) :=
  Fin.ext (by show ((a.val + b.val) % r + c.val) % r = (a.val + (b.val + c.val) % r) % r
              rw [Nat.mod_add_mod, Nat.add_mod_mod, Nat.add_assoc])

theorem toy_add_comm (a b : Fin r) : toyOfNat (a.val + b.val) = toyOfNat (b.val + a.val) := by rw [Nat.add_comm]

theorem toy_zero_add (a : Fin r) : toyOfNat (toyZero.val + a.val) = a :=
  Fin.ext (by show (0 + a.val) % r = a.val
              rw [Nat.zero_add, Nat.mod_eq_of_lt a.isLt])

theorem toy_isZero_iff (a : Fin r) : (a.val == 0) = true ↔ a = toyZero :=
  ⟨fun h => Fin.ext (beq_iff_eq.1 h), fun h => h ▸ rfl⟩

theorem toy_laws (ncoord : Nat) (hn : 0 < ncoord) : CurveLaws (toyOps ncoord) ncoord where
  add_assoc := toy_add_assoc
  add_comm := toy_add_comm
  zero_add := toy_zero_add
  neg_add P := Fin.ext (by
    show ((r - P.val) % r + P.val) % r = 0
    rw [Nat.mod_add_mod, Nat.sub_add_cancel (Nat.le_of_lt P.isLt), Nat.mod_self])
  mul_zero P := Fin.ext (by show P.val * 0 % r = 0
                            rw [Nat.mul_zero]; rfl)
  mul_succ P k := Fin.ext (by
    show P.val * (k + 1) % r = (P.val * k % r + P.val) % r
    rw [Nat.mod_add_mod, Nat.mul_succ])
  order P := Fin.ext (Nat.mul_mod_left ..)
  isInf_iff := toy_isZero_iff
  normalize_ok P _ :=
    ⟨List.length_replicate .., fun c hc => List.eq_of_mem_replicate hc ▸ Nat.lt_trans P.isLt r_lt_q⟩
  ofAffine_normalize P _ := by
    cases ncoord with
    | zero => exact absurd hn (Nat.lt_irrefl 0)
    | succ m => exact Fin.ext (Nat.mod_eq_of_lt P.isLt)

theorem toy_pairing_laws : PairingLaws toyEnv where
  mul_assoc := toy_add_assoc
  mul_comm := toy_add_comm
  one_mul := toy_zero_add
  isOne_iff := toy_isZero_iff
  pair_add_left Q Q' P := Fin.ext (by
    show P.val * ((Q.val + Q'.val) % r) % r = (P.val * Q.val % r + P.val * Q'.val % r) % r
    rw [Nat.mul_mod_mod, Nat.mul_add, Nat.add_mod])
  pair_add_right Q P P' := Fin.ext (by
    show (P.val + P'.val) % r * Q.val % r = (P.val * Q.val % r + P'.val * Q.val % r) % r
    rw [Nat.mod_mul_mod, Nat.add_mul, Nat.add_mod])
  pair_zero_left P := Fin.ext (by show P.val * 0 % r = 0
                                  rw [Nat.mul_zero]; rfl)
  pair_zero_right Q := Fin.ext (by show 0 * Q.val % r = 0
                                   rw [Nat.zero_mul]; rfl)

theorem toy_laws1 : CurveLaws toyEnv.K1 2 := toy_laws 2 (by decide)
theorem toy_laws2 : CurveLaws toyEnv.K2 4 := toy_laws 4 (by decide)

end Bls
