import PytezosModel.Proofs.Bytes
import PytezosModel.Proofs.InterpBytes
import PytezosModel.Proofs.InterpPackSpec
/-! PACK of the plain data classes: the mirror of `to_micheline_value(mode='optimized')` + `forge_micheline` (property C05's
`Impl.Forge.forge`, primitives from the extracted `prim_tags`) against the reference's canonical optimized form and binary
Micheline encoding (`Spec.optBoth`, `Spec.encodeM`). -/
namespace Interp
open Core

/-! the primitive tags read from the source are the reference's -/
theorem tag_Unit : Impl.primTagOf "Unit" = some 11 := by decide +kernel
theorem tag_True : Impl.primTagOf "True" = some 10 := by decide +kernel
theorem tag_False : Impl.primTagOf "False" = some 3 := by decide +kernel
theorem tag_Pair : Impl.primTagOf "Pair" = some 7 := by decide +kernel
theorem tag_Some : Impl.primTagOf "Some" = some 9 := by decide +kernel
theorem tag_None : Impl.primTagOf "None" = some 6 := by decide +kernel
theorem tag_Left : Impl.primTagOf "Left" = some 5 := by decide +kernel
theorem tag_Right : Impl.primTagOf "Right" = some 8 := by decide +kernel
theorem tag_Elt : Impl.primTagOf "Elt" = some 4 := by decide +kernel

theorem pairNode_eq (args : List BMich) (h : 2 ≤ args.length) : Impl.pairNode args = some (Spec.combLayout args) := by
  rcases args with _ | ⟨x, _ | ⟨y, _ | ⟨z, _ | ⟨w, rest⟩⟩⟩⟩
  · simp at h
  · simp at h
  · simp [Impl.pairNode, Impl.primNode, tag_Pair, Spec.combLayout]
  · simp [Impl.pairNode, Impl.primNode, tag_Pair, Spec.combLayout]
  · simp [Impl.pairNode, Spec.combLayout]

mutual
  def plain : BMich → Bool
    | .int _ | .str _ | .bytes _ => true
    | .seq xs => plainL xs
    | .prim _ args an => an.isNone && decide (args.length ≤ 2) && plainL args
  def plainL : List BMich → Bool
    | [] => true
    | x :: xs => plain x && plainL xs
end

/-- the building blocks of a canonical optimized form: literals, sequences, and annotation-free applications of a data
constructor (tags up to 11) to at most two arguments; `Q` is kept by each of them -/
structure Closed (Q : BMich → Prop) : Prop where
  int : ∀ v, Q (.int v)
  str : ∀ s, Q (.str s)
  bytes : ∀ b, Q (.bytes b)
  prim : ∀ t args, t ≤ 11 → args.length ≤ 2 → (∀ m ∈ args, Q m) → Q (.prim t args none)
  seq : ∀ xs, (∀ m ∈ xs, Q m) → Q (.seq xs)

theorem Closed.combLayout {Q : BMich → Prop} (hQ : Closed Q) (cs : List BMich) (h : ∀ m ∈ cs, Q m) : Q (Spec.combLayout cs) := by
  rcases cs with _ | ⟨x, _ | ⟨y, _ | ⟨z, _ | ⟨w, rest⟩⟩⟩⟩
  · exact hQ.seq _ h
  · exact hQ.seq _ h
  · exact hQ.prim 7 _ (by decide) (by simp) h
  · simp only [List.forall_mem_cons] at h
    exact hQ.prim 7 _ (by decide) (by simp) (List.forall_mem_cons.mpr ⟨h.1, List.forall_mem_singleton.mpr
      (hQ.prim 7 _ (by decide) (by simp) (List.forall_mem_cons.mpr ⟨h.2.1, List.forall_mem_singleton.mpr h.2.2.1⟩))⟩)
  · exact hQ.seq _ h

theorem optBoth_pair_some {a b : Val} {y : BMich × List BMich} (h : Spec.optBoth (.pair a b) = some y) :
    ∃ x z, Spec.optBoth a = some x ∧ Spec.optBoth b = some z ∧ y = (Spec.combLayout (x.1 :: z.2), x.1 :: z.2) := by
  simp only [Spec.optBoth] at h
  cases ha : Spec.optBoth a <;> cases hb : Spec.optBoth b <;> simp only [ha, hb, Option.some.injEq, reduceCtorEq] at h
  exact ⟨_, _, rfl, rfl, h.symm⟩

theorem optimizedL_cons_some {x : Val} {xs : List Val} {ys : List BMich} (h : Spec.optimizedL (x :: xs) = some ys) :
    ∃ y zs, Spec.optBoth x = some y ∧ Spec.optimizedL xs = some zs ∧ ys = y.1 :: zs := by
  simp only [Spec.optimizedL] at h
  cases hx : Spec.optBoth x <;> cases hr : Spec.optimizedL xs <;> simp only [hx, hr, Option.some.injEq, reduceCtorEq] at h
  exact ⟨_, _, rfl, rfl, h.symm⟩

theorem optimizedE_cons_some {k v : Val} {xs : List Val} {ys : List BMich} (h : Spec.optimizedE (.pair k v :: xs) = some ys) :
    ∃ a b zs, Spec.optBoth k = some a ∧ Spec.optBoth v = some b ∧ Spec.optimizedE xs = some zs ∧
      ys = .prim 4 [a.1, b.1] none :: zs := by
  simp only [Spec.optimizedE] at h
  cases hk : Spec.optBoth k <;> cases hv : Spec.optBoth v <;> cases hr : Spec.optimizedE xs <;>
    simp only [hk, hv, hr, Option.some.injEq, reduceCtorEq] at h
  exact ⟨_, _, _, rfl, rfl, rfl, h.symm⟩

theorem Closed.single {Q : BMich → Prop} {m : BMich} (h : Q m) : Q (m, [m]).1 ∧ (∀ x ∈ (m, [m]).2, Q x) ∧ (m, [m]).2 ≠ [] :=
  ⟨h, List.forall_mem_singleton.mpr h, List.cons_ne_nil _ _⟩

/-- whatever the building blocks keep holds of the canonical optimized form of a value and of the components it contributes
as the right part of a pair, of which there is at least one; and of the forms of the items of a map and of a list.  By the
rule induction of `Spec.optBoth` / `optimizedE` / `optimizedL` -/
theorem Closed.opt {Q : BMich → Prop} (hQ : Closed Q) :
    (∀ v y, Spec.optBoth v = some y → Q y.1 ∧ (∀ m ∈ y.2, Q m) ∧ y.2 ≠ []) ∧
    (∀ xs ys, Spec.optimizedE xs = some ys → ∀ m ∈ ys, Q m) ∧
    ∀ xs ys, Spec.optimizedL xs = some ys → ∀ m ∈ ys, Q m := by
  apply Spec.optBoth.mutual_induct
  case case1 =>
    intro a b x z hb ha iha ihb y h
    rw [Spec.optBoth, ha, hb] at h
    cases h
    have hc : ∀ m ∈ x.1 :: z.2, Q m := List.forall_mem_cons.mpr ⟨(iha x ha).1, (ihb z hb).2.1⟩
    exact ⟨hQ.combLayout _ hc, hc, List.cons_ne_nil _ _⟩
  case case2 =>
    intro a b hno _ _ y h
    obtain ⟨x, z, ha, hb, _⟩ := optBoth_pair_some h
    exact (hno x z ha hb).elim
  case case3 | case4 | case5 | case10 =>
    all_goals
      intros
      rename_i h
      cases h
      exact Closed.single (hQ.prim _ [] (by decide) (by simp) nofun)
  case case6 =>
    intro _ _ y h
    cases h
    exact Closed.single (hQ.int _)
  case case7 =>
    intro _ y h
    cases h
    exact Closed.single (hQ.str _)
  case case8 =>
    intro _ y h
    cases h
    exact Closed.single (hQ.bytes _)
  case case9 | case11 | case12 =>
    all_goals
      intros
      rename_i ih y h
      simp only [Spec.optBoth] at h
      obtain ⟨x, hx, rfl⟩ := Option.map_eq_some_iff.mp h
      exact Closed.single (hQ.prim _ [x.1] (by decide) (by simp) (List.forall_mem_singleton.mpr (ih x hx).1))
  case case13 | case14 | case15 =>
    all_goals
      intros
      rename_i ih y h
      simp only [Spec.optBoth] at h
      obtain ⟨ys, hys, rfl⟩ := Option.map_eq_some_iff.mp h
      exact Closed.single (hQ.seq ys (ih ys hys))
  case case16 =>
    -- the last clause: a value outside the plain classes has no canonical form
    intros
    rename_i h
    rw [Spec.optBoth.eq_15] at h
    · cases h
    all_goals assumption
  case case17 | case21 =>
    all_goals
      intro ys h
      cases h
      nofun
  case case18 =>
    intro k v xs a b zs hr hv hk ihk ihv ihr ys h
    rw [Spec.optimizedE, hk, hv, hr] at h
    cases h
    exact List.forall_mem_cons.mpr ⟨hQ.prim 4 _ (by decide) (by simp) (List.forall_mem_cons.mpr
      ⟨(ihk a hk).1, List.forall_mem_singleton.mpr (ihv b hv).1⟩), ihr zs hr⟩
  case case19 =>
    intro k v xs hno _ _ _ ys h
    obtain ⟨a, b, zs, hk, hv, hr, _⟩ := optimizedE_cons_some h
    exact (hno a b zs hk hv hr).elim
  case case20 =>
    intro x xs hx ys h
    rw [Spec.optimizedE.eq_3 x xs hx] at h
    cases h
  case case22 =>
    intro x xs y zs hr hx ihx ihr ys h
    rw [Spec.optimizedL, hx, hr] at h
    cases h
    exact List.forall_mem_cons.mpr ⟨(ihx y hx).1, ihr zs hr⟩
  case case23 =>
    intro x xs hno _ _ ys h
    obtain ⟨y, zs, hx, hr, _⟩ := optimizedL_cons_some h
    exact (hno y zs hx hr).elim

theorem plainL_iff (ms : List BMich) : plainL ms = true ↔ ∀ m ∈ ms, plain m = true := by
  induction ms <;> simp [plainL, *]

theorem plain_closed : Closed (plain · = true) :=
  ⟨fun _ => rfl, fun _ => rfl, fun _ => rfl, fun _ _ _ hl h => by simp [plain, hl, (plainL_iff _).mpr h],
    fun _ h => (plainL_iff _).mpr h⟩

/-- the canonical optimized form is annotation-free with at most two arguments per application -/
theorem optBoth_plain : ∀ (v : Val) (y : BMich × List BMich), Spec.optBoth v = some y → plain y.1 = true ∧ plainL y.2 = true :=
  fun v y h =>
    have c := plain_closed.opt.1 v y h
    ⟨c.1, (plainL_iff _).mpr c.2.1⟩
theorem optimizedL_plain : ∀ (xs : List Val) (ys : List BMich), Spec.optimizedL xs = some ys → plainL ys = true :=
  fun xs ys h => (plainL_iff _).mpr (plain_closed.opt.2.2 xs ys h)
theorem optimizedE_plain : ∀ (xs : List Val) (ys : List BMich), Spec.optimizedE xs = some ys → plainL ys = true :=
  fun xs ys h => (plainL_iff _).mpr (plain_closed.opt.2.1 xs ys h)

/-- the mirror's Micheline is the canonical optimized form: of a value, of the items of a map, of the items of a list.  By the
rule induction of `Spec.optBoth` / `optimizedE` / `optimizedL` -/
theorem toMich_eq : (∀ v, Impl.toMichBoth v = Spec.optBoth v) ∧ (∀ xs, Impl.toMichE xs = Spec.optimizedE xs) ∧
    ∀ xs, Impl.toMichL xs = Spec.optimizedL xs := by
  apply Spec.optBoth.mutual_induct
  case case1 =>
    intro a b x y hb ha iha ihb
    have hl : 2 ≤ (x.1 :: y.2).length := by
      have := List.length_pos_iff.mpr (plain_closed.opt.1 b y hb).2.2
      simp only [List.length_cons]; omega
    simp [Impl.toMichBoth, Spec.optBoth, iha, ihb, ha, hb, pairNode_eq _ hl]
  case case2 =>
    -- a component without canonical form: `hno` gives either side its last clause
    intro a b hno iha ihb
    simp only [Impl.toMichBoth, Spec.optBoth, iha, ihb]
  case case3 => simp [Impl.toMichBoth, Spec.optBoth, Impl.primNode, tag_Unit]
  case case4 => simp [Impl.toMichBoth, Spec.optBoth, Impl.primNode, tag_True]
  case case5 => simp [Impl.toMichBoth, Spec.optBoth, Impl.primNode, tag_False]
  case case6 | case7 | case8 =>
    all_goals
      intros
      rfl
  case case9 =>
    intro v ih
    simp only [Impl.toMichBoth, Spec.optBoth, ih]
    cases Spec.optBoth v <;> simp [Impl.primNode, tag_Some]
  case case10 => simp [Impl.toMichBoth, Spec.optBoth, Impl.primNode, tag_None]
  case case11 =>
    intro v _ ih
    simp only [Impl.toMichBoth, Spec.optBoth, ih]
    cases Spec.optBoth v <;> simp [Impl.primNode, tag_Left]
  case case12 =>
    intro _ v ih
    simp only [Impl.toMichBoth, Spec.optBoth, ih]
    cases Spec.optBoth v <;> simp [Impl.primNode, tag_Right]
  case case13 | case14 | case15 =>
    all_goals
      intros
      rename_i ih
      simp only [Impl.toMichBoth, Spec.optBoth, ih]
  case case16 =>
    -- outside the plain classes either side is in its last clause (the mirror has one clause for the two booleans)
    intro t _ _ ht hf
    intros
    rw [Spec.optBoth.eq_15 t, Impl.toMichBoth.eq_14 t]
    case x_4 =>
      intro b e
      cases b
      · exact hf e
      · exact ht e
    all_goals assumption
  case case17 | case21 => all_goals rfl
  case case18 | case19 =>
    all_goals
      intros
      simp [Impl.toMichE, Spec.optimizedE, Impl.primNode, tag_Elt, *]
  case case20 =>
    intro x xs hx
    rw [Spec.optimizedE.eq_3 x xs hx, Impl.toMichE.eq_3 x xs hx]
  case case22 | case23 =>
    all_goals
      intros
      simp only [Impl.toMichL, Spec.optimizedL, *]

/-- the mirror's Micheline is the canonical optimized form, on every value -/
theorem toMichBoth_eq : ∀ v : Val, Impl.toMichBoth v = Spec.optBoth v := toMich_eq.1
theorem toMichL_eq : ∀ xs : List Val, Impl.toMichL xs = Spec.optimizedL xs := toMich_eq.2.2
theorem toMichE_eq : ∀ xs : List Val, Impl.toMichE xs = Spec.optimizedE xs := toMich_eq.2.1

/-! ### binary Micheline: property C05's mirror of `forge_micheline` on annotation-free expressions with at most two
arguments per primitive application is the reference encoding -/
theorem natToBE_eq : ∀ (k v : Nat), natToBE k v = if v < 256 ^ k then some (Spec.beDigits k v) else none :=
  fun k v => by rw [Core.natToBE_eq, beDigits_eq]

theorem forgeArray_eq (data : List Nat) : forgeArray 4 data = Spec.lenPrefixed data := by
  unfold forgeArray Spec.lenPrefixed
  rw [natToBE_eq]
  have : (256 : Nat) ^ 4 = 2 ^ 32 := by decide
  rw [this]
  split <;> simp

mutual
  theorem forge_eq : ∀ m : BMich, plain m = true → Impl.Forge.forge m = Spec.encodeM m
    | .int _, _ => rfl
    | .str s, _ => by simp [Impl.Forge.forge, Spec.encodeM, forgeArray_eq]
    | .bytes b, _ => by simp [Impl.Forge.forge, Spec.encodeM, forgeArray_eq]
    | .seq xs, h => by
      simp only [plain] at h
      simp only [Impl.Forge.forge, Spec.encodeM, forgeList_eq xs h, forgeArray_eq]
      cases Spec.encodeL xs with
      | none => rfl
      | some body => cases hq : Spec.lenPrefixed body <;> simp [hq]
    | .prim t [] none, _ => by simp [Impl.Forge.forge, Spec.encodeM, Impl.Forge.forgeList, Impl.Forge.getTag]
    | .prim t [a] none, h => by
      simp only [plain, plainL, Bool.and_true, Option.isNone_none, List.length_cons, List.length_nil, Bool.true_and,
        Bool.and_eq_true, decide_eq_true_eq] at h
      simp only [Impl.Forge.forge, Spec.encodeM, Impl.Forge.forgeList, forge_eq a h.2, Impl.Forge.getTag]
      cases Spec.encodeM a <;> simp
    | .prim t [a, b] none, h => by
      simp only [plain, plainL, Bool.and_true, Option.isNone_none, List.length_cons, List.length_nil, Bool.true_and,
        Bool.and_eq_true, decide_eq_true_eq] at h
      simp only [Impl.Forge.forge, Spec.encodeM, Impl.Forge.forgeList, forge_eq a h.2.1, forge_eq b h.2.2, Impl.Forge.getTag]
      cases Spec.encodeM a <;> cases Spec.encodeM b <;> simp
    | .prim _ (_ :: _ :: _ :: _) _, h => by simp [plain] at h
    | .prim _ [] (some _), h => by simp [plain] at h
    | .prim _ [_] (some _), h => by simp [plain] at h
    | .prim _ [_, _] (some _), h => by simp [plain] at h
  theorem forgeList_eq : ∀ xs : List BMich, plainL xs = true → Impl.Forge.forgeList xs = Spec.encodeL xs
    | [], _ => rfl
    | x :: xs, h => by
      simp only [plainL, Bool.and_eq_true] at h
      simp only [Impl.Forge.forgeList, Spec.encodeL, forge_eq x h.1, forgeList_eq xs h.2]
      cases Spec.encodeM x <;> cases Spec.encodeL xs <;> rfl
end

/-- **PACK**: the mirror computes the reference serialization wherever the rule applies -/
theorem execPack_eq (a : Val) (h : Spec.packV a ≠ .stuck) : Impl.execPack a = Spec.packV a := by
  obtain ⟨hp, y, hy⟩ := packV_ne_stuck h
  rw [packV_of_some hp hy, Impl.execPack, toMichBoth_eq, hy]
  simp only [forge_eq y.1 (optBoth_plain a y hy).1]
  cases Spec.encodeM y.1 <;> rfl

end Interp
