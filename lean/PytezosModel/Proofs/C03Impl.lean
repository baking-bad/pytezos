import PytezosModel.Proofs.C03Order
/-! C03: `Impl.Order.eq` / `lt` (the mirror of the pytezos comparison methods) compute `Spec.Order.cmp` on typed operands.
Python's Boolean comparisons are read once as `== .eq` / `.isLT` of an `Ordering` (`text_eq`, `text_lt`, `tuple_lt`,
`rank_branch`); what remains is `Ordering.then` algebra and the table facts. -/
namespace Impl.Order
open _root_.Order Spec.Order Generated.C03

theorem shapesOk_true : shapesOk = true := by decide

theorem toInt_inj {o o' : Ordering} (h : toInt o = toInt o') : o = o' := by
  cases o <;> cases o' <;> first | rfl | exact absurd h (by decide)

theorem then_beq_eq (o p : Ordering) : ((o.then p) == .eq) = ((o == .eq) && (p == .eq)) := by
  cases o <;> cases p <;> rfl

theorem cmpInt_isLT (a b : Int) : (cmpInt a b).isLT = decide (a < b) := by
  rw [cmpInt_eq, Bool.eq_iff_iff, Ordering.isLT_iff_eq_lt, Int.compare_eq_lt, decide_eq_true_iff]

theorem cmpInt_beq_eq (a b : Int) : ((cmpInt a b) == .eq) = (a == b) := by
  rw [cmpInt_eq, Bool.eq_iff_iff, beq_iff_eq, Int.compare_eq_eq, beq_iff_eq]

theorem text_eq (x₁ p₁ x₂ p₂ : List Nat) : textEq x₁ p₁ x₂ p₂ = ((lexCmp x₁ x₂).then (lexCmp p₁ p₂) == .eq) := by
  rw [textEq, then_beq_eq, beq_eq_lexCmp, beq_eq_lexCmp]

theorem text_lt (x₁ p₁ x₂ p₂ : List Nat) : textLt x₁ p₁ x₂ p₂ = ((lexCmp x₁ x₂).then (lexCmp p₁ p₂)).isLT := by
  rw [textLt, beq_eq_lexCmp, lexLt_eq, lexLt_eq]
  cases lexCmp x₁ x₂ <;> rfl

/-- Python `<` on 2-tuples: the first component that differs (by `==`) decides -/
theorem tuple_lt (o o' : Ordering) :
    (if !(o == .eq) then o.isLT else if !(o' == .eq) then o'.isLT else false) = (o.then o').isLT := by
  cases o <;> cases o' <;> rfl

/-- `res = r₁ - r₂; if res < 0 … elif res > 0 … else …` is a three-way comparison of the ranks -/
theorem rank_branch (r₁ r₂ : Nat) (o : Ordering) :
    (if (r₁ : Int) - (r₂ : Int) < 0 then some true else if (r₁ : Int) - (r₂ : Int) > 0 then some false else some o.isLT)
      = some ((cmpNat r₁ r₂).then o).isLT := by
  rcases Nat.lt_trichotomy r₁ r₂ with h | rfl | h
  · rw [if_pos (by omega), cmpNat_eq_lt.2 h]; rfl
  · rw [if_neg (by omega), if_neg (by omega), cmpNat_eq_eq.2 rfl]; rfl
  · rw [if_neg (by omega), if_pos (by omega), cmpNat_eq_gt.2 h]; rfl

/-- text prefix of an address kind as a total function (`addrPrefix` is `some` of it for kinds < 6) -/
def pfx (k : Nat) : List Nat := (addrPrefix k).getD []

theorem addrPrefix_eq : ∀ k < 6, addrPrefix k = some (pfx k) := by decide

theorem khPrefix_eq : ∀ k < 4, khPrefix k = some (pfx k) := by decide

theorem addrRank_eq : ∀ k < 6, addrRank k = some (addrClass k) := by decide

/-- kinds with the same text prefix are the same kind, and behind the comparison of the address classes the text order of
the prefixes is the order of the kind tags -/
theorem pfx_facts : ∀ k₁ < 6, ∀ k₂ < 6,
    ((lexCmp (pfx k₁) (pfx k₂) == .eq) = ((cmpNat (addrClass k₁) (addrClass k₂)).then (cmpNat k₁ k₂) == .eq)) ∧
    (cmpNat (addrClass k₁) (addrClass k₂)).then (lexCmp (pfx k₁) (pfx k₂))
      = (cmpNat (addrClass k₁) (addrClass k₂)).then (cmpNat k₁ k₂) := by
  decide

theorem addrDefault_eq : addrDefaultEntrypoint = some defaultEp := by decide

theorem orDefault_eq (e : List Nat) : orDefault defaultEp e = epOf e := rfl

theorem cmp_keyHash (k k' : Nat) (p p' : List Nat) :
    cmp (.keyHash k p) (.keyHash k' p') = (cmpNat k k').then (lexCmp p p') := rfl

theorem cmp_key (k k' : Nat) (p p' : List Nat) : cmp (.key k p) (.key k' p') = (cmpNat k k').then (lexCmp p p') := rfl

theorem cmp_address (k k' : Nat) (p p' e e' : List Nat) :
    cmp (.address k p e) (.address k' p' e')
      = (cmpNat (addrClass k) (addrClass k')).then ((cmpNat k k').then ((lexCmp p p').then (lexCmp (epOf e) (epOf e')))) := rfl

/-- key_hash: `StringType.__eq__` / `__lt__` on the texts -/
theorem kh_spec (k₁ k₂ : Nat) (p₁ p₂ : List Nat) (h₁ : k₁ < 4) (h₂ : k₂ < 4) :
    eq (.keyHash k₁ p₁) (.keyHash k₂ p₂) = (cmp (.keyHash k₁ p₁) (.keyHash k₂ p₂) == .eq) ∧
      lt (.keyHash k₁ p₁) (.keyHash k₂ p₂) = some (cmp (.keyHash k₁ p₁) (.keyHash k₂ p₂)).isLT := by
  have hf := (pfx_facts k₁ (by omega) k₂ (by omega)).2
  -- the four key_hash kinds are in one address class: `cmpNat 0 0` in front of both sides of `hf` computes away (`show`)
  rw [addrClass, addrClass, if_pos h₁, if_pos h₂] at hf
  rw [cmp_keyHash, ← show lexCmp (pfx k₁) (pfx k₂) = cmpNat k₁ k₂ from hf]
  constructor
  · rw [eq, khPrefix_eq _ h₁, khPrefix_eq _ h₂]
    exact text_eq _ _ _ _
  · rw [lt, khPrefix_eq _ h₁, khPrefix_eq _ h₂]
    exact congrArg some (text_lt _ _ _ _)

/-- text prefix of a key curve as a total function -/
def kpfx (c : Nat) : List Nat := (keyPrefix c).getD []

theorem keyPrefix_eq : ∀ c < 4, keyPrefix c = some (kpfx c) := by decide

theorem kpfx_inj : ∀ c₁ < 4, ∀ c₂ < 4, (lexCmp (kpfx c₁) (kpfx c₂) == .eq) = (cmpNat c₁ c₂ == .eq) := by decide

theorem keyRow_eq : ∀ c < 4, keyRow c = some (c, 0) := by decide

/-- key: `StringType.__eq__` on the texts, `KeyType.__lt__` by rank of the curve then the raw bytes -/
theorem key_spec (k₁ k₂ : Nat) (p₁ p₂ : List Nat) (h₁ : k₁ < 4) (h₂ : k₂ < 4) :
    eq (.key k₁ p₁) (.key k₂ p₂) = (cmp (.key k₁ p₁) (.key k₂ p₂) == .eq) ∧
      lt (.key k₁ p₁) (.key k₂ p₂) = some (cmp (.key k₁ p₁) (.key k₂ p₂)).isLT := by
  constructor
  · rw [eq, keyPrefix_eq _ h₁, keyPrefix_eq _ h₂, cmp_key, then_beq_eq, ← kpfx_inj k₁ h₁ k₂ h₂, ← then_beq_eq]
    exact text_eq _ _ _ _
  · rw [lt, keyRow_eq _ h₁, keyRow_eq _ h₂]
    show (if _ then _ else if _ then _ else some (lexLt p₁ p₂)) = _
    rw [lexLt_eq]
    exact rank_branch k₁ k₂ _

/-- address: `StringType.__eq__` on `addr%ep`; `AddressType.__lt__`: rank of the kind's class, then (classes equal, where
the text order of the prefixes is the order of the tags) `_split()`: text, entrypoint -/
theorem addr_spec (k₁ k₂ : Nat) (p₁ p₂ e₁ e₂ : List Nat) (h₁ : k₁ < 6) (h₂ : k₂ < 6) (he₁ : e₁ ≠ defaultEp)
    (he₂ : e₂ ≠ defaultEp) :
    eq (.address k₁ p₁ e₁) (.address k₂ p₂ e₂) = (cmp (.address k₁ p₁ e₁) (.address k₂ p₂ e₂) == .eq) ∧
      lt (.address k₁ p₁ e₁) (.address k₂ p₂ e₂) = some (cmp (.address k₁ p₁ e₁) (.address k₂ p₂ e₂)).isLT := by
  have hf := pfx_facts k₁ h₁ k₂ h₂
  rw [cmp_address]
  constructor
  · rw [eq, addrPrefix_eq _ h₁, addrPrefix_eq _ h₂]
    show (textEq _ _ _ _ && e₁ == e₂) = _
    have hee : (e₁ == e₂) = (lexCmp (epOf e₁) (epOf e₂) == .eq) := by
      rw [← beq_eq_lexCmp]
      by_cases h : e₁ = e₂
      · subst h; rw [beq_self_eq_true, beq_self_eq_true]
      · rw [beq_eq_false_iff_ne.2 h, beq_eq_false_iff_ne.2 fun h' => h (epOf_inj he₁ he₂ h')]
    rw [text_eq, hee, ← then_beq_eq, Ordering.then_assoc, then_beq_eq, hf.1, ← then_beq_eq, Ordering.then_assoc]
  · rw [lt, addrDefault_eq, addrPrefix_eq _ h₁, addrPrefix_eq _ h₂, addrRank_eq _ h₁, addrRank_eq _ h₂]
    show (if _ then _ else if _ then _ else some (splitLt (pfx k₁) p₁ (epOf e₁) (pfx k₂) p₂ (epOf e₂))) = _
    rw [splitLt, text_eq, text_lt, beq_eq_lexCmp, lexLt_eq, tuple_lt, Ordering.then_assoc]
    rw [rank_branch, ← Ordering.then_assoc, hf.2, Ordering.then_assoc]

/-- `__eq__` and `__lt__` together: the lexicographic `__lt__` of pairs consults `__eq__` of the components -/
theorem eq_lt_spec {a b : CVal} {τ : CTy} (ha : HasTy a τ) (hb : HasTy b τ) :
    eq a b = (cmp a b == .eq) ∧ lt a b = some (cmp a b).isLT := by
  induction ha generalizing b with
  | unit => cases hb; exact ⟨rfl, rfl⟩
  | bool x => cases hb with | bool y => cases x <;> cases y <;> exact ⟨rfl, rfl⟩
  | num t v _ => cases hb with | num _ w _ => exact ⟨(cmpInt_beq_eq v w).symm, congrArg some (cmpInt_isLT v w).symm⟩
  | str s | bytes s | signature s => cases hb; exact ⟨beq_eq_lexCmp _ _, congrArg some (lexLt_eq _ _)⟩
  | chainId p _ => cases hb; exact ⟨beq_eq_lexCmp _ _, congrArg some (lexLt_eq _ _)⟩
  | keyHash k p hk _ => cases hb with | keyHash k' p' hk' _ => exact kh_spec _ _ _ _ hk hk'
  | key k p hk _ => cases hb with | key k' p' hk' _ => exact key_spec _ _ _ _ hk hk'
  | address k p e hk _ he => cases hb with | address k' p' e' hk' _ he' => exact addr_spec _ _ _ _ _ _ hk hk' he he'
  | none t => cases hb <;> exact ⟨rfl, rfl⟩
  | some _ ih => cases hb with
    | none => exact ⟨rfl, rfl⟩
    | some hb => exact ih hb
  | left r _ ih => cases hb with
    | left _ hb => exact ih hb
    | right _ hb => exact ⟨rfl, rfl⟩
  | right l _ ih => cases hb with
    | left _ hb => exact ⟨rfl, rfl⟩
    | right _ hb => exact ih hb
  | pair _ _ ih₁ ih₂ => cases hb with | pair hb₁ hb₂ =>
    have ⟨e₁, l₁⟩ := ih₁ hb₁
    have ⟨e₂, l₂⟩ := ih₂ hb₂
    constructor
    · show (eq _ _ && eq _ _) = ((cmp _ _).then (cmp _ _) == .eq)
      rw [e₁, e₂, then_beq_eq]
    · show (if !(eq _ _) then lt _ _ else if !(eq _ _) then lt _ _ else some false) = some ((cmp _ _).then (cmp _ _)).isLT
      rw [l₁, l₂, e₁, e₂]
      cases cmp _ _ <;> cases cmp _ _ <;> rfl

theorem eq_spec {a b : CVal} {τ : CTy} (ha : HasTy a τ) (hb : HasTy b τ) : eq a b = (cmp a b == .eq) :=
  (eq_lt_spec ha hb).1

theorem lt_spec {a b : CVal} {τ : CTy} (ha : HasTy a τ) (hb : HasTy b τ) : lt a b = some (cmp a b).isLT :=
  (eq_lt_spec ha hb).2

theorem _root_.Order.TVal.eq_iff {τ : CTy} (a b : TVal τ) : TVal.eq a b = true ↔ a = b := by
  unfold TVal.eq
  rw [eq_spec a.2 b.2]
  constructor
  · intro h
    exact Subtype.ext ((spec_lawful τ).eq_imp _ _ a.2 b.2 (by simpa using h))
  · intro h; subst h; simp [(spec_lawful τ).refl _ a.2]

end Impl.Order
