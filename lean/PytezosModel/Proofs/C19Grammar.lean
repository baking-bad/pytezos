import PytezosModel.Proofs.C19Expand
/-! C19 helper lemmas: soundness of the matcher for a denotation of the regex fragment, and what a successful
`build_pxr_tree` (the shape that checks the leaf letters) says about a `P…R` name. -/
namespace C19.Grammar
open Impl.Macros Generated.C19 Spec C19.Expand

/-- denotation of an atom list on names without newline (the one place where Python's `$` is not the end of the string):
`s` splits into the pieces `ps`, one per atom -/
def Lang : List Atom → List Char → List (List Char) → Prop
  | [], s, ps => ps = [] ∧ s = []
  | .lit l :: as, s, ps => ∃ t ps', s = l ++ t ∧ ps = l :: ps' ∧ Lang as t ps'
  | .alts ls :: as, s, ps => ∃ l, l ∈ ls ∧ ∃ t ps', s = l ++ t ∧ ps = l :: ps' ∧ Lang as t ps'
  | .many cs mn :: as, s, ps =>
    ∃ p t ps', s = p ++ t ∧ mn ≤ p.length ∧ (∀ c ∈ p, cs.contains c = true) ∧ ps = p :: ps' ∧ Lang as t ps'

theorem prefix_split (l s : List Char) (h : l.isPrefixOf s = true) : s = l ++ s.drop l.length :=
  (List.prefix_iff_eq_append.mp (List.isPrefixOf_iff_prefix.mp h)).symm

theorem matchAtoms_sound (as : List Atom) : ∀ (s : List Char) (ps : List (List Char)), '\n' ∉ s →
    matchAtoms as s = some ps → Lang as s ps := by
  induction as with
  | nil =>
    intro s ps hs h
    simp only [matchAtoms] at h
    split at h
    · rename_i he
      simp only [Option.some.injEq] at h
      refine ⟨h.symm, ?_⟩
      rcases (by simpa [endOk] using he : s = [] ∨ s = ['\n']) with rfl | rfl
      · rfl
      · exact absurd (List.mem_singleton_self _) hs
    · cases h
  | cons a as ih =>
    intro s ps hs h
    cases a with
    | lit l =>
      simp only [matchAtoms] at h
      split at h
      · rename_i hp
        obtain ⟨ps', hm, rfl⟩ := Option.map_eq_some_iff.mp h
        exact ⟨_, ps', prefix_split l s hp, rfl, ih _ _ (fun hc => hs ((List.drop_suffix _ _).subset hc)) hm⟩
      · cases h
    | alts ls =>
      simp only [matchAtoms] at h
      obtain ⟨l, hl, hx⟩ := List.exists_of_findSome?_eq_some h
      split at hx
      · rename_i hp
        obtain ⟨ps', hm, rfl⟩ := Option.map_eq_some_iff.mp hx
        exact ⟨l, hl, _, ps', prefix_split l s hp, rfl, ih _ _ (fun hc => hs ((List.drop_suffix _ _).subset hc)) hm⟩
      · cases hx
    | many cs mn =>
      simp only [matchAtoms] at h
      split at h
      · rename_i hlen
        obtain ⟨ps', hm, rfl⟩ := Option.map_eq_some_iff.mp h
        exact ⟨_, _, ps', (List.takeWhile_append_dropWhile).symm, hlen, List.all_eq_true.mp List.all_takeWhile, rfl,
          ih _ _ (fun hc => hs ((List.dropWhile_suffix _).subset hc)) hm⟩
      · cases h

theorem findall_sound (p : Pat) (s g : List Char) (hs : '\n' ∉ s) (h : findall p s = some g) :
    ∃ ps, Lang p.atoms s ps ∧ g = (match p.group with
      | some (a, n) => ((ps.drop a).take n).flatten
      | none => ps.flatten) := by
  obtain ⟨ps, hm, rfl⟩ := Option.map_eq_some_iff.mp h
  exact ⟨ps, matchAtoms_sound _ _ _ hs hm, rfl⟩

/-- `^pre[cs]{mn,}post$` without group: the value is the whole name -/
theorem findall_lit_many_lit (pre cs : List Char) (mn : Nat) (post s g : List Char) (hs : '\n' ∉ s)
    (h : findall ⟨[.lit pre, .many cs mn, .lit post], none⟩ s = some g) :
    g = s ∧ ∃ p, s = pre ++ (p ++ post) ∧ mn ≤ p.length ∧ ∀ c ∈ p, cs.contains c = true := by
  obtain ⟨ps, hl, hg⟩ := findall_sound _ _ _ hs h
  simp only [Lang] at hl
  obtain ⟨t, ps', rfl, rfl, p, t2, ps2, rfl, hlen, hall, rfl, t3, ps3, rfl, rfl, rfl, rfl⟩ := hl
  simp at hg
  subst hg
  exact ⟨by simp, p, by simp, hlen, hall⟩

/-- `^a(b[cs]{mn,}post)$` -/
theorem findall_lit_group_lit_many_lit (a b cs : List Char) (mn : Nat) (post s g : List Char) (hs : '\n' ∉ s)
    (h : findall ⟨[.lit a, .lit b, .many cs mn, .lit post], some (1, 3)⟩ s = some g) :
    ∃ p, g = b ++ (p ++ post) ∧ s = a ++ g ∧ mn ≤ p.length ∧ ∀ c ∈ p, cs.contains c = true := by
  obtain ⟨ps, hl, hg⟩ := findall_sound _ _ _ hs h
  simp only [Lang] at hl
  obtain ⟨t, ps', rfl, rfl, t1, ps1, rfl, rfl, p, t2, ps2, rfl, hlen, hall, rfl, t3, ps3, rfl, rfl, rfl, rfl⟩ := hl
  simp at hg
  subst hg
  exact ⟨p, by simp, by simp, hlen, hall⟩

/-- what a successful `parse` consumed: a leaf (then the letter was the expected one) or the letters of a subtree -/
def Consumed (t : PairTree) (lf : Option Char) (s rest : List Char) : Prop :=
  match t with
  | .leaf => ∃ c, lf = some c ∧ s = c :: rest
  | .node l r => s = (PairTree.node l r).body 'A' ++ rest

theorem Consumed.body {t : PairTree} {x : Char} {s rest : List Char} (h : Consumed t (some x) s rest) :
    s = t.body x ++ rest := by
  cases t with
  | leaf =>
    obtain ⟨c, hc, hs⟩ := h
    cases hc
    exact hs
  | node l r => exact h

theorem pxrParse_sound (fuel : Nat) : ∀ (s : List Char) (an : List String) (d : Nat) (root : Bool) (lf : Option Char)
    (res : Pxr × Option String × List Char × List String × Nat),
    pxrParse true fuel s an d root lf = .ok res → ∃ t : PairTree, Consumed t lf s res.2.2.1 := by
  induction fuel with
  | zero => intro s an d root lf res h; simp [pxrParse] at h
  | succ fuel ih =>
    intro s an d root lf res h
    cases s with
    | nil => simp [pxrParse] at h
    | cons letter prim =>
      simp only [pxrParse] at h
      split at h
      · rename_i hP
        obtain ⟨⟨l, la, prim1, an1, d1⟩, h1, h⟩ := ok_of_bind h
        obtain ⟨⟨r, ra, prim2, an2, d2⟩, h2, h⟩ := ok_of_bind h
        cases h
        obtain ⟨tl, hl⟩ := ih _ _ _ _ _ _ h1
        obtain ⟨tr, hr⟩ := ih _ _ _ _ _ _ h2
        refine ⟨.node tl tr, ?_⟩
        show letter :: prim = (PairTree.node tl tr).body 'A' ++ prim2
        rw [hP, hl.body, hr.body]
        simp [PairTree.body]
      · -- a leaf letter: `assert letter == leaf`
        simp only [if_true] at h
        obtain ⟨u, ha, h⟩ := ok_of_bind h
        refine ⟨.leaf, letter, (beq_iff_eq.mp (assertThat_ok ha)).symm, ?_⟩
        cases an with
        | nil => cases h; rfl
        | cons a rest => cases h; rfl

theorem buildPxrTree_sound (name : List Char) (an : List String) (px : Pxr) (h : buildPxrTree name an = .ok px) :
    ∃ l r : PairTree, name = pairName (.node l r) := by
  have hv : pxrValidated = some true := rfl
  unfold buildPxrTree at h
  rw [hv] at h
  obtain ⟨⟨root, a, rest, an', d'⟩, hp, h⟩ := ok_of_bind h
  simp only [if_true] at h
  obtain ⟨u, ha, -⟩ := ok_of_bind h
  obtain ⟨t, ht⟩ := pxrParse_sound _ _ _ _ _ _ _ hp
  cases t with
  | leaf => obtain ⟨c, hc, _⟩ := ht; cases hc
  | node l r =>
    refine ⟨l, r, ?_⟩
    have : name = (PairTree.node l r).body 'A' ++ rest := ht
    rw [this, beq_iff_eq.mp (assertThat_ok ha)]
    rfl

theorem chars_path (g : List Char) (h : ∀ c ∈ g, ['A', 'D'].contains c = true) :
    ∃ q : Path, g = pathChars q ∧ q.length = g.length := by
  induction g with
  | nil => exact ⟨[], rfl, rfl⟩
  | cons c g ih =>
    obtain ⟨q, hq, hl⟩ := ih (fun x hx => h x (by simp [hx]))
    have hc := h c (by simp)
    have : c = 'A' ∨ c = 'D' := by simpa using hc
    rcases this with rfl | rfl
    · exact ⟨.A :: q, by simp [pathChars, Dir.char, hq], by simp [hl]⟩
    · exact ⟨.D :: q, by simp [pathChars, Dir.char, hq], by simp [hl]⟩

theorem chars_rep (x : Char) (g : List Char) (h : ∀ c ∈ g, [x].contains c = true) : g = List.replicate g.length x :=
  List.eq_replicate_iff.mpr ⟨rfl, fun c hc => by simpa using h c hc⟩

end C19.Grammar
