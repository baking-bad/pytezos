import PytezosModel.Proofs.MichelineStrict
/-! UNPACK's refinement needs the two decoders to be equal: on an input the reference decodes, the machine must answer
`Some`, not only conversely. -/
namespace Impl.Forge
open Core BMich Spec.Micheline

/-- **the two decoders are one function**: the mirror of `unforge_micheline` (strict integer reader) and the length-delimited
reference decoder agree on every byte string (C05's `unforge_refines_spec` and its converse) -/
theorem unforge_eq_decode (known : Nat → Bool) (bs : Bytes) : unforge known true bs = Spec.Micheline.decode known bs := by
  rw [unforge, (unforgeNode_eq_decodeNode known _).1]
  rfl

/-- anything the length-delimited strict decoder accepts, the mirror of `unforge_micheline` accepts with the same result -/
theorem decode_refines_unforge (known : Nat → Bool) (bs : Bytes) (e : BMich)
    (h : Spec.Micheline.decode known bs = some e) : unforge known true bs = some e := by
  rw [unforge_eq_decode]
  exact h

end Impl.Forge
