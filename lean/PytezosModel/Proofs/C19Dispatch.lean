import PytezosModel.Michelson.Macros
import PytezosModel.Michelson.MacroSem
/-! C19 helper lemmas: the regex matcher of the mirror, and where `dispatch` sends the names of each family. -/
namespace C19.Dispatch
open Impl.Macros Generated.C19 Spec

theorem matchAtoms_lit (l : List Char) (as : List Atom) (t : List Char) :
    matchAtoms (.lit l :: as) (l ++ t) = (matchAtoms as t).map (l :: ·) := by
  simp only [matchAtoms, List.isPrefixOf_iff_prefix.mpr (List.prefix_append l t), if_true, List.drop_left]

theorem matchAtoms_many_lit (cs : List Char) (mn : Nat) (y : Char) (p : List Char)
    (hp : ∀ c ∈ p, cs.contains c = true) (hy : cs.contains y = false) (hl : mn ≤ p.length) :
    matchAtoms [.many cs mn, .lit [y]] (p ++ [y]) = some [p, [y]] := by
  have hy' : ¬ cs.contains y = true := by rw [hy]; exact Bool.false_ne_true
  have ht : (p ++ [y]).takeWhile (cs.contains ·) = p := by
    rw [List.takeWhile_append_of_pos hp, List.takeWhile_cons_of_neg hy', List.append_nil]
  have hd : (p ++ [y]).dropWhile (cs.contains ·) = [y] := by
    rw [List.dropWhile_append_of_pos hp, List.dropWhile_cons_of_neg hy']
  rw [matchAtoms]
  simp only [ht, hd, hl, if_true]
  exact congrArg (Option.map (p :: ·)) (matchAtoms_lit [y] [] [])

theorem pathChars_AD (p : Path) : ∀ c ∈ pathChars p, ['A', 'D'].contains c = true := by
  intro c hc
  obtain ⟨d, _, rfl⟩ := List.mem_map.mp hc
  cases d <;> decide

theorem findall_path (pre : List Char) (p : Path) (hp : 1 ≤ p.length) :
    findall ⟨[.lit pre, .many ['A', 'D'] 1, .lit ['R']], some (1, 1)⟩ (pre ++ (pathChars p ++ ['R']))
      = some (pathChars p) := by
  simp [findall, matchAtoms_lit,
    matchAtoms_many_lit _ _ 'R' _ (pathChars_AD p) (by decide) (by simpa [pathChars] using hp)]

/-! `dispatch` walks the table and re-checks every regex for well-formedness on the way.  That check is done once for the
whole table (`handlers_ok`); what remains for a name is to show that the entries before its own do not match it.  For the
entries with finitely many words that is one closed fact (`words_first`); for names given by their first letters it is
settled by evaluation (an earlier regex fails on one of its literals). -/

def matchOf (h : Handler) (s : List Char) : Option (List Char) := h.pat.bind (findall · s)

def okPat (h : Handler) : Bool := h.pat.any wfPat

theorem dispatch_cons (h : Handler) (hs : List Handler) (hok : okPat h = true) (s : List Char) :
    dispatch (h :: hs) s = match matchOf h s with
      | some g => .ok (some (h, g))
      | none => dispatch hs s := by
  cases hp : h.pat with
  | none => rw [okPat, hp] at hok; cases hok
  | some p =>
    rw [okPat, hp, Option.any_some] at hok
    rw [dispatch, matchOf, hp]
    simp only [hok, Bool.not_true, Bool.false_eq_true, if_false, Option.bind_some]
    rfl

theorem dispatch_at {hs : List Handler} (hok : hs.all okPat = true) {i : Nat} {h : Handler} (hi : hs[i]? = some h)
    {s g : List Char} (hm : matchOf h s = some g)
    (hskip : (hs.take i).all (fun x => (matchOf x s).isNone) = true) :
    dispatch hs s = .ok (some (h, g)) := by
  induction hs generalizing i with
  | nil => cases hi
  | cons x xs ih =>
    simp only [List.all_cons, Bool.and_eq_true] at hok
    rw [dispatch_cons x xs hok.1]
    cases i with
    | zero =>
      cases hi
      rw [hm]
    | succ i =>
      simp only [List.take_succ_cons, List.all_cons, Bool.and_eq_true, Option.isNone_iff_eq_none] at hskip
      rw [hskip.1]
      exact ih hok.2 hi hskip.2

theorem dispatch_inv {hs : List Handler} (hok : hs.all okPat = true) {s : List Char} {h : Handler} {g : List Char}
    (hd : dispatch hs s = .ok (some (h, g))) : h ∈ hs ∧ matchOf h s = some g := by
  induction hs with
  | nil => cases hd
  | cons x xs ih =>
    simp only [List.all_cons, Bool.and_eq_true] at hok
    rw [dispatch_cons x xs hok.1] at hd
    cases hm : matchOf x s with
    | some g' =>
      rw [hm] at hd
      cases hd
      exact ⟨List.mem_cons_self, hm⟩
    | none =>
      rw [hm] at hd
      exact ⟨List.mem_cons_of_mem _ (ih hok.2 hd).1, (ih hok.2 hd).2⟩

theorem handlers_ok : handlers.all okPat = true := by decide

/-- the table sends `s` to the handler function `f` with captured group `g`, through an entry whose body has the
shape the mirror was written against -/
def Sends (s : List Char) (f : String) (g : List Char) : Prop :=
  ∃ h, dispatch handlers s = .ok (some (h, g)) ∧ h.func = f ∧ h.shape = some 0

theorem sends_at (i : Nat) {r f : String} {p : Pat} {s g : List Char}
    (hi : handlers[i]? = some ⟨r, f, some p, some 0⟩) (hm : findall p s = some g)
    (hskip : (handlers.take i).all (fun x => (matchOf x s).isNone) = true) : Sends s f g :=
  ⟨_, dispatch_at handlers_ok hi hm hskip, rfl, rfl⟩

/-- the words of a regex that is one literal, or a literal and alternatives in a group, each with what `findall` returns -/
def words : Pat → List (List Char × List Char)
  | ⟨[.lit l], none⟩ => [(l, l)]
  | ⟨[.lit pre, .alts ls], some (1, 1)⟩ => ls.map fun op => (pre ++ op, op)
  | _ => []

theorem words_first : (handlers.zipIdx.all fun x => (x.1.pat.elim [] words).all fun w =>
    matchOf x.1 w.1 == some w.2 && (handlers.take x.2).all fun y => (matchOf y w.1).isNone) = true := by
  decide +kernel

theorem sends_word (i : Nat) {r f : String} {p : Pat} {s g : List Char}
    (hi : handlers[i]? = some ⟨r, f, some p, some 0⟩) (hw : (s, g) ∈ words p) : Sends s f g := by
  have h := List.all_eq_true.mp (List.all_eq_true.mp words_first (_, i) (List.mem_zipIdx_iff_getElem?.mpr hi)) _ hw
  rw [Bool.and_eq_true, beq_iff_eq] at h
  exact sends_at i hi h.1 h.2

/-- the order in which `ASSERT_{op}` and `ASSERT_CMP{op}` list the operators -/
theorem ops_assert : ∀ op ∈ ops, op ∈ [['E', 'Q'], ['N', 'E', 'Q'], ['L', 'T'], ['L', 'E'], ['G', 'T'], ['G', 'E']] := by
  decide

theorem sends_cmpx (op : List Char) (hop : op ∈ ops) : Sends ("CMP".toList ++ op) "expand_cmpx" op :=
  sends_word 0 rfl (List.mem_map_of_mem hop)
theorem sends_ifx (op : List Char) (hop : op ∈ ops) : Sends ("IF".toList ++ op) "expand_ifx" op :=
  sends_word 1 rfl (List.mem_map_of_mem hop)
theorem sends_ifcmpx (op : List Char) (hop : op ∈ ops) : Sends ("IFCMP".toList ++ op) "expand_ifcmpx" op :=
  sends_word 2 rfl (List.mem_map_of_mem hop)
theorem sends_assert_x (op : List Char) (hop : op ∈ ops) : Sends ("ASSERT_".toList ++ op) "expand_assert_x" op :=
  sends_word 5 rfl (List.mem_map_of_mem (ops_assert op hop))
theorem sends_assert_cmpx (op : List Char) (hop : op ∈ ops) :
    Sends ("ASSERT_CMP".toList ++ op) "expand_assert_cmpx" op :=
  sends_word 6 rfl (List.mem_map_of_mem (ops_assert op hop))

theorem sends_fail : Sends "FAIL".toList "expand_fail" "FAIL".toList := sends_word 3 rfl (.head _)
theorem sends_assert : Sends "ASSERT".toList "expand_assert" "ASSERT".toList := sends_word 4 rfl (.head _)
theorem sends_assert_none : Sends "ASSERT_NONE".toList "expand_assert_none" "ASSERT_NONE".toList :=
  sends_word 7 rfl (.head _)
theorem sends_assert_some : Sends "ASSERT_SOME".toList "expand_assert_some" "ASSERT_SOME".toList :=
  sends_word 8 rfl (.head _)
theorem sends_assert_left : Sends "ASSERT_LEFT".toList "expand_assert_left" "ASSERT_LEFT".toList :=
  sends_word 9 rfl (.head _)
theorem sends_assert_right : Sends "ASSERT_RIGHT".toList "expand_assert_right" "ASSERT_RIGHT".toList :=
  sends_word 10 rfl (.head _)
theorem sends_if_some : Sends "IF_SOME".toList "expand_if_some" "IF_SOME".toList := sends_word 17 rfl (.head _)
theorem sends_if_right : Sends "IF_RIGHT".toList "expand_if_right" "IF_RIGHT".toList := sends_word 18 rfl (.head _)
theorem sends_set_car : Sends (setName [.A]) "expand_set_car" (setName [.A]) := sends_word 19 rfl (.head _)
theorem sends_set_cdr : Sends (setName [.D]) "expand_set_cdr" (setName [.D]) := sends_word 20 rfl (.head _)
theorem sends_map_car : Sends (mapName [.A]) "expand_map_car" (mapName [.A]) := sends_word 23 rfl (.head _)
theorem sends_map_cdr : Sends (mapName [.D]) "expand_map_cdr" (mapName [.D]) := sends_word 24 rfl (.head _)

theorem sends_cadr_A (p : Path) (hp : 1 ≤ p.length) : Sends (cadrName (.A :: p)) "expand_caxr" (pathChars p) :=
  sends_at 15 rfl (findall_path ['C', 'A'] p hp) rfl

theorem sends_cadr_D (p : Path) (hp : 1 ≤ p.length) : Sends (cadrName (.D :: p)) "expand_cdxr" (pathChars p) :=
  sends_at 16 rfl (findall_path ['C', 'D'] p hp) rfl

/-! With a second letter `e` the name is not `SET_CAR`, …: the literal of that entry fails on `e`, whichever it is. -/

theorem sends_set_A (e : Dir) (q : Path) :
    Sends (setName (.A :: e :: q)) "expand_set_caxr" (pathChars (e :: q)) := by
  have hm := findall_path ['S', 'E', 'T', '_', 'C', 'A'] (e :: q) (by simp)
  cases e <;> exact sends_at 21 rfl hm rfl

theorem sends_set_D (e : Dir) (q : Path) :
    Sends (setName (.D :: e :: q)) "expand_set_cdxr" (pathChars (e :: q)) := by
  have hm := findall_path ['S', 'E', 'T', '_', 'C', 'D'] (e :: q) (by simp)
  cases e <;> exact sends_at 22 rfl hm rfl

theorem sends_map_A (e : Dir) (q : Path) :
    Sends (mapName (.A :: e :: q)) "expand_map_caxr" (pathChars (e :: q)) := by
  have hm := findall_path ['M', 'A', 'P', '_', 'C', 'A'] (e :: q) (by simp)
  cases e <;> exact sends_at 25 rfl hm rfl

theorem sends_map_D (e : Dir) (q : Path) :
    Sends (mapName (.D :: e :: q)) "expand_map_cdxr" (pathChars (e :: q)) := by
  have hm := findall_path ['M', 'A', 'P', '_', 'C', 'D'] (e :: q) (by simp)
  cases e <;> exact sends_at 26 rfl hm rfl

theorem sends_cadr (p : Path) (hp : 2 ≤ p.length) : ∃ f g, Sends (cadrName p) f g := by
  rcases p with _ | ⟨d, _ | ⟨e, q⟩⟩
  · simp at hp
  · simp at hp
  · cases d
    · exact ⟨_, _, sends_cadr_A (e :: q) (by simp)⟩
    · exact ⟨_, _, sends_cadr_D (e :: q) (by simp)⟩

theorem sends_set (p : Path) (hp : 1 ≤ p.length) : ∃ f g, Sends (setName p) f g := by
  rcases p with _ | ⟨d, _ | ⟨e, q⟩⟩
  · simp at hp
  · cases d
    · exact ⟨_, _, sends_set_car⟩
    · exact ⟨_, _, sends_set_cdr⟩
  · cases d
    · exact ⟨_, _, sends_set_A e q⟩
    · exact ⟨_, _, sends_set_D e q⟩

theorem sends_map (p : Path) (hp : 1 ≤ p.length) : ∃ f g, Sends (mapName p) f g := by
  rcases p with _ | ⟨d, _ | ⟨e, q⟩⟩
  · simp at hp
  · cases d
    · exact ⟨_, _, sends_map_car⟩
    · exact ⟨_, _, sends_map_cdr⟩
  · cases d
    · exact ⟨_, _, sends_map_A e q⟩
    · exact ⟨_, _, sends_map_D e q⟩

theorem findall_rep (c : Char) (hc : c ≠ 'P') (n : Nat) :
    findall ⟨[.lit ['D'], .lit [c], .many [c] 1, .lit ['P']], some (1, 2)⟩
      ('D' :: c :: (List.replicate (n + 1) c ++ ['P'])) = some (List.replicate (n + 2) c) := by
  have hp : ∀ x ∈ List.replicate (n + 1) c, [c].contains x = true := by
    intro x hx
    simp [List.eq_of_mem_replicate hx]
  show findall _ (['D'] ++ ([c] ++ (List.replicate (n + 1) c ++ ['P']))) = _
  simp only [findall, matchAtoms_lit, matchAtoms_many_lit [c] 1 'P' _ hp (by simpa using Ne.symm hc) (by simp)]
  simp [List.replicate_succ]

theorem sends_dip (n : Nat) (hn : 2 ≤ n) : Sends (dipName n) "expand_dixp" (List.replicate n 'I') := by
  obtain ⟨k, rfl⟩ : ∃ k, n = k + 2 := ⟨n - 2, by omega⟩
  exact sends_at 11 rfl (findall_rep 'I' (by decide) k) rfl

theorem sends_dup (n : Nat) (hn : 2 ≤ n) : Sends (dupName n) "expand_duxp" (List.replicate n 'U') := by
  obtain ⟨k, rfl⟩ : ∃ k, n = k + 2 := ⟨n - 2, by omega⟩
  exact sends_at 12 rfl (findall_rep 'U' (by decide) k) rfl

theorem body_chars (t : PairTree) (c : Char) (hc : c = 'A' ∨ c = 'I') :
    ∀ x ∈ t.body c, ['P', 'A', 'I'].contains x = true := by
  induction t generalizing c with
  | leaf => intro x hx; simp only [PairTree.body, List.mem_singleton] at hx; subst hx; rcases hc with rfl | rfl <;> decide
  | node l r ihl ihr =>
    intro x hx
    simp only [PairTree.body, List.mem_cons, List.mem_append] at hx
    rcases hx with rfl | hx | hx
    · decide
    · exact ihl 'A' (.inl rfl) x hx
    · exact ihr 'I' (.inr rfl) x hx

theorem body_length (t : PairTree) (c : Char) : (t.body c).length + 1 = 2 * t.leaves := by
  induction t generalizing c with
  | leaf => rfl
  | node l r ihl ihr =>
    have := ihl 'A'; have := ihr 'I'
    simp only [PairTree.body, PairTree.leaves, List.length_cons, List.length_append]; omega

theorem leaves_pos (t : PairTree) : 1 ≤ t.leaves := by
  induction t with
  | leaf => simp [PairTree.leaves]
  | node l r ihl ihr => simp only [PairTree.leaves]; omega

/-- the letters between the first `P` and the final `R`: `pairName (.node l r)` is `'P' :: (mid l r ++ ['R'])` by
unfolding -/
def mid (l r : PairTree) : List Char := l.body 'A' ++ r.body 'I'

theorem matchAtoms_mid (l r : PairTree) (h3 : 3 ≤ (PairTree.node l r).leaves) :
    matchAtoms [.many ['P', 'A', 'I'] 3, .lit ['R']] (mid l r ++ ['R']) = some [mid l r, ['R']] := by
  have hc : ∀ x ∈ mid l r, ['P', 'A', 'I'].contains x = true := by
    intro x hx
    rcases List.mem_append.mp hx with hx | hx
    · exact body_chars l 'A' (.inl rfl) x hx
    · exact body_chars r 'I' (.inr rfl) x hx
  have := body_length l 'A'
  have := body_length r 'I'
  exact matchAtoms_many_lit _ _ 'R' _ hc (by decide)
    (by simp only [mid, PairTree.leaves, List.length_append] at h3 ⊢; omega)

/-- no earlier entry begins with `P`, so every name the `P…R` regex matches goes to `expand_pxr`, well-formed or not -/
theorem sends_P {t g : List Char}
    (hm : findall ⟨[.lit ['P'], .many ['P', 'A', 'I'] 3, .lit ['R']], none⟩ ('P' :: t) = some g) :
    Sends ('P' :: t) "expand_pxr" g :=
  sends_at 13 rfl hm rfl

theorem sends_pair (l r : PairTree) (h3 : 3 ≤ (PairTree.node l r).leaves) :
    Sends (pairName (.node l r)) "expand_pxr" (pairName (.node l r)) := by
  refine sends_P (t := mid l r ++ ['R']) ?_
  show findall _ (['P'] ++ (mid l r ++ ['R'])) = some ('P' :: (mid l r ++ ['R']))
  simp only [findall, matchAtoms_lit, matchAtoms_mid l r h3]
  simp

theorem sends_unpair (l r : PairTree) (h3 : 3 ≤ (PairTree.node l r).leaves) :
    Sends (unpairName (.node l r)) "expand_unpxr" (pairName (.node l r)) := by
  have hm : findall ⟨[.lit ['U', 'N'], .lit ['P'], .many ['P', 'A', 'I'] 3, .lit ['R']], some (1, 3)⟩
      (['U', 'N'] ++ (['P'] ++ (mid l r ++ ['R']))) = some ('P' :: (mid l r ++ ['R'])) := by
    simp only [findall, matchAtoms_lit, matchAtoms_mid l r h3]
    simp
  exact sends_at 14 rfl hm rfl

end C19.Dispatch
