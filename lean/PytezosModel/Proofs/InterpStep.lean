import PytezosModel.Proofs.InterpStack
import PytezosModel.Proofs.InterpComb
import PytezosModel.Proofs.InterpArith
import PytezosModel.Proofs.InterpColl
import PytezosModel.Proofs.InterpContracts
import PytezosModel.Proofs.InterpSpec
/-! Instructions without sub-programs: the mirror's pop/push sequences against the reference rules (`step_refines`, at the
end).  Before it: what the mirror computes on the popped values against the value-level rules, the rule shapes pop-k /
compute / push (`step_unop`, `step_binop`, `step_ternop`), and the instructions that fit none of them. -/
namespace Interp
open Stack

theorem lexLt_eq : ∀ a b, Spec.lexLt a b = Typing.lexLt a b
  | [], [] => rfl
  | [], _ :: _ => rfl
  | _ :: _, [] => rfl
  | x :: xs, y :: ys => by rw [Spec.lexLt, Typing.lexLt, lexLt_eq xs ys]

theorem listLt_eq (a b : List Nat) : Impl.listLt a b = Spec.lexLt a b := (Typing.listLt_eq a b).trans (lexLt_eq a b).symm

theorem lexLt_irrefl (a : List Nat) : Spec.lexLt a a = false := (lexLt_eq a a).trans (Typing.lexLt_irrefl a)

/-- Python's `==` then `<` against the reference's `<` then `=`, on texts -/
theorem cmpList_eq (x y : List Nat) :
    (if x = y then 0 else if Impl.listLt x y then -1 else 1 : Int) = if Spec.lexLt x y then -1 else if x = y then 0 else 1 := by
  rw [listLt_eq]
  by_cases h : x = y
  · subst h; simp [lexLt_irrefl]
  · simp [h]

/-- only `unit`, `bool`, the numbers, `string` and `bytes` have a row in either `compare`; the other shapes give `none`
on both sides by evaluation -/
theorem compareVals_eq (a b : Val) : Impl.compareVals a b = Spec.compare a b := by
  fun_cases Spec.compare a b
  · rename_i t x t' y
    show some _ = some (Spec.cmpInt x y)
    unfold Spec.cmpInt
    by_cases h1 : x = y
    · simp [h1]
    · by_cases h2 : x < y <;> simp [h1, h2]
  · exact congrArg some (cmpList_eq _ _)
  · exact congrArg some (cmpList_eq _ _)
  · rename_i x y
    cases x <;> cases y <;> rfl
  · rfl
  · -- no row in the reference: the hypotheses of this case put the mirror in its last clause too
    simp only [Impl.compareVals]

theorem strVals_eq : ∀ xs, (Impl.strVals xs).map List.flatten = Spec.strs xs
  | [] => rfl
  | x :: xs => by
    cases x <;> simp only [Impl.strVals, Spec.strs, Option.map_none]
    rw [← strVals_eq xs]
    cases Impl.strVals xs <;> simp

theorem bytesVals_eq : ∀ xs, (Impl.bytesVals xs).map List.flatten = Spec.bytess xs
  | [] => rfl
  | x :: xs => by
    cases x <;> simp only [Impl.bytesVals, Spec.bytess, Option.map_none]
    rw [← bytesVals_eq xs]
    cases Impl.bytesVals xs <;> simp

theorem execSize_eq (a : Val) :
    Impl.execSize a = (match Impl.valLen a with | some n => .ok (.num .nat n) | none => .stuck) := by
  unfold Impl.execSize
  rw [sizeClasses_eq]
  -- by the equations of `valLen`: the five classes with a length pass the class check; on the others both branches are stuck
  fun_cases Impl.valLen a
  case case6 => exact ite_self _
  all_goals exact (if_pos rfl).trans (natFromValue_ofNat _)
theorem execNeg_int (x : Int) : Impl.execNeg (.num .int x) = .ok (.num .int (-x)) := by
  rw [Impl.execNeg, negTy_eq, numFromValue_eq]; rfl
theorem execNeg_nat (x : Int) : Impl.execNeg (.num .nat x) = .ok (.num .int (-x)) := by
  rw [Impl.execNeg, negTy_eq, numFromValue_eq]; rfl
theorem execNot_bool (x : Bool) : Impl.execNot (.bool x) = .ok (.bool (!x)) := by
  unfold Impl.execNot; rw [notRow_eq]; rfl
theorem execNot_nat (x : Int) : Impl.execNot (.num .nat x) = .ok (.num .int (-x - 1)) := by
  unfold Impl.execNot; rw [notRow_eq, numFromValue_eq]; rfl
theorem execNot_int (x : Int) : Impl.execNot (.num .int x) = .ok (.num .int (-x - 1)) := by
  unfold Impl.execNot; rw [notRow_eq, numFromValue_eq]; rfl

/-- SLICE on a string / a byte sequence: `c` is the constructor of the class -/
theorem execSlice_seq {c : List Nat → Val} (hc : c = .str ∨ c = .bytes) (off len : Int) (x : List Nat) :
    Impl.execSlice (.num .nat off) (.num .nat len) (c x)
      = .ok (match Spec.slice off.toNat len.toNat x with | some r => .some (c r) | none => .none (typeOf (c x))) := by
  unfold Impl.execSlice Spec.slice
  rw [sliceOffsetClass_eq, sliceLengthClass_eq, sliceClasses_eq]
  rcases hc with rfl | rfl
  all_goals
    refine (if_pos rfl).trans ?_
    by_cases h : off.toNat < x.length ∧ off.toNat + len.toNat ≤ x.length
    · exact (if_pos h).trans (by rw [if_pos h])
    · exact (if_neg h).trans (by rw [if_neg h]; rfl)

theorem execAnd_nat_nat (x y : Int) : Impl.execAnd (.num .nat x) (.num .nat y) = Impl.numFromValue .nat (Impl.pyAnd x y) := by
  unfold Impl.execAnd Impl.execBitwise; rw [andRow_eq]; rfl

theorem execConcatPair_str (x y : List Nat) : Impl.execConcatPair (.str x) (.str y) = .ok (.str (x ++ y)) := by
  unfold Impl.execConcatPair; rw [concatPairRow_eq]; rfl
theorem execConcatPair_bytes (x y : List Nat) : Impl.execConcatPair (.bytes x) (.bytes y) = .ok (.bytes (x ++ y)) := by
  unfold Impl.execConcatPair; rw [concatPairRow_eq]; rfl
theorem execConcatList_string (xs : List Val) :
    Impl.execConcatList .string xs = (match Spec.strs xs with | some s => .ok (.str s) | none => .stuck) := by
  unfold Impl.execConcatList
  rw [concatListRow_eq, ← strVals_eq]
  cases Impl.strVals xs <;> rfl
theorem execConcatList_bytes (xs : List Val) :
    Impl.execConcatList .bytes xs = (match Spec.bytess xs with | some s => .ok (.bytes s) | none => .stuck) := by
  unfold Impl.execConcatList
  rw [concatListRow_eq, ← bytesVals_eq]
  cases Impl.bytesVals xs <;> rfl

/-! AND / OR / XOR: the row of the extracted table gives the result class and the converter; on non-negative operands
Python's operation is the one on naturals (`Proofs/InterpArith.lean`). -/
theorem natResult_eq {c : Prop} [Decidable c] {v : Int} {n : Nat} (hv : c → v = Int.ofNat n)
    (h : (if c then Res.ok (Val.num .nat (Int.ofNat n)) else .stuck) ≠ .stuck) :
    Impl.numFromValue .nat v = if c then .ok (.num .nat (Int.ofNat n)) else .stuck :=
  eq_ite h fun hc => by rw [hv hc]; exact natFromValue_ofNat n

theorem execAnd_eq (a b : Val) (h : Spec.andV a b ≠ .stuck) : Impl.execAnd a b = Spec.andV a b := by
  unfold Impl.execAnd Impl.execBitwise
  rw [andRow_eq]
  unfold Spec.andV at h ⊢
  split at h
  · rfl
  · exact natResult_eq (fun hc => pyAnd_nat _ _ hc.1 hc.2) h
  · exact natResult_eq (pyAnd_int_nat _ _) h
  · exact natResult_eq (pyAnd_nat_int _ _) h
  · exact absurd rfl h

theorem execOr_eq (a b : Val) (h : Spec.orV a b ≠ .stuck) : Impl.execOr a b = Spec.orV a b := by
  unfold Impl.execOr Impl.execBitwise
  rw [orRow_eq]
  unfold Spec.orV at h ⊢
  split at h
  · rfl
  · exact natResult_eq (fun hc => pyOr_nat _ _ hc.1 hc.2) h
  · exact absurd rfl h

theorem execXor_eq (a b : Val) (h : Spec.xorV a b ≠ .stuck) : Impl.execXor a b = Spec.xorV a b := by
  unfold Impl.execXor Impl.execBitwise
  rw [orRow_eq]
  unfold Spec.xorV at h ⊢
  split at h
  · rfl
  · exact natResult_eq (fun hc => pyXor_nat _ _ hc.1 hc.2) h
  · exact absurd rfl h

theorem execEdiv_eq (a b : Val) (h : Spec.edivV a b ≠ .stuck) : Impl.execEdiv a b = Spec.edivV a b := by
  unfold Spec.edivV at h ⊢
  split at h
  · rename_i ta x tb y
    simp only [Impl.execEdiv, edivTy_eq]
    cases ht : Spec.edivTy ta tb with
    | none => simp [ht] at h
    | some p =>
      obtain ⟨qt, rt⟩ := p
      simp only [ht] at h ⊢
      by_cases hy : y = 0
      · simp [hy]
      · simp only [hy, if_false, pyEdiv_eq x y hy, numFromValue_eq]
        rfl
  · exact absurd rfl h

theorem execLsl_eq (a b : Val) (h : Spec.lslV a b ≠ .stuck) :
    Impl.execShift (fun x n => x <<< n) a b = Spec.lslV a b := by
  unfold Spec.lslV at h ⊢
  split at h
  · rw [execShift_nat, Int.shiftLeft_eq]
  · exact absurd rfl h

theorem execLsr_eq (a b : Val) (h : Spec.lsrV a b ≠ .stuck) :
    Impl.execShift (fun x n => x >>> n) a b = Spec.lsrV a b := by
  unfold Spec.lsrV at h ⊢
  split at h
  · rw [execShift_nat, Int.shiftRight_eq_div_pow, Int.natCast_pow]
    rfl
  · exact absurd rfl h

theorem execSubMutez_eq (a b : Val) (h : Spec.subMutezV a b ≠ .stuck) : Impl.execSubMutez a b = Spec.subMutezV a b := by
  unfold Spec.subMutezV at h ⊢
  split at h
  · rename_i x y
    rw [Impl.execSubMutez, numFromValue_eq]
    rfl
  · exact absurd rfl h

/-- the common tail of the one-result instructions: the mirror pushes `g` where the rule conses `f` -/
theorem push_result (pre st : List Val) (f g : Res Val) (hfg : f ≠ .stuck → g = f)
    (hr : (f.bind fun r => Res.ok (r :: st)) ≠ .stuck) :
    (do let r ← g; pure ((stk pre st).push r)) = (f.bind fun r => Res.ok (r :: st)).map' (stk pre) := by
  rw [hfg (bind_ne_stuck hr)]
  cases f with
  | ok r => exact congrArg Res.ok (push_mk pre st r)
  | _ => rfl

theorem ite_refines {α β : Type} {φ : α → β} {c : Prop} [Decidable c] {r : Res α} {m : Res β}
    (hr : (if c then r else .stuck) ≠ .stuck) (h : c → m = r.map' φ) : m = (if c then r else .stuck).map' φ := by
  have hc := ite_ne_stuck hr
  rw [if_pos hc]
  exact h hc

section
variable (env : Env) (pre st : List Val)

theorem step_APPLY (hr : Spec.step env .APPLY st ≠ .stuck) :
    Impl.step env .APPLY (stk pre st) = (Spec.step env .APPLY st).map' (stk pre) := by
  rcases st with _ | ⟨a, _ | ⟨b, st⟩⟩
  · exact absurd rfl hr
  · exact absurd rfl hr
  · cases b <;> first | (exact absurd rfl hr) | skip
    rename_i ta tb body
    cases ta <;> first | (exact absurd rfl hr) | skip
    rename_i lt rt
    refine ite_refines hr fun h => ?_
    show (Stack.pop2 _ >>= _) = _
    simp only [pop2_mk_cons, Res.bind_ok, if_pos h.1, push_mk, Res.pure_eq, map'_ok]

theorem step_PAIRN (n : Nat) (hr : Spec.step env (.PAIRN n) st ≠ .stuck) :
    Impl.step env (.PAIRN n) (stk pre st) = (Spec.step env (.PAIRN n) st).map' (stk pre) := by
  have hs : Spec.step env (.PAIRN n) st = (match Spec.pairN n st with
      | some (r, st') => .ok (r :: st')
      | none => .stuck) := rfl
  rw [hs] at hr ⊢
  cases hq : Spec.pairN n st with
  | none => exact absurd (by rw [hq]) hr
  | some p =>
    obtain ⟨r, st'⟩ := p
    obtain ⟨h1, h2, h3, rfl⟩ := fromComb_refines n st r st' hq
    unfold Impl.step
    simp only [pairnMin_eq, pop_mk, if_neg (Nat.not_lt.2 h1), if_neg (Nat.not_lt.2 h2), Res.bind_ok, h3, push_mk, Res.pure_eq,
      map'_ok]

theorem step_UNPAIRN (n : Nat) (hr : Spec.step env (.UNPAIRN n) st ≠ .stuck) :
    Impl.step env (.UNPAIRN n) (stk pre st) = (Spec.step env (.UNPAIRN n) st).map' (stk pre) := by
  rcases st with _ | ⟨v, st⟩
  · exact absurd rfl hr
  have hs : Spec.step env (.UNPAIRN n) (v :: st) = (match Spec.unpairN n v with
      | some xs => .ok (xs ++ st)
      | none => .stuck) := rfl
  rw [hs] at hr ⊢
  cases hq : Spec.unpairN n v with
  | none => exact absurd (by rw [hq]) hr
  | some xs =>
    obtain ⟨h1, ⟨a, b, rfl⟩, h3⟩ := unpairnComb_refines n v xs hq
    unfold Impl.step
    simp only [unpairnMin_eq, unpairnCombOffset_eq, if_neg (Nat.not_lt.2 h1), pop1_mk_cons, Res.bind_ok, h3, push_reversed,
      Res.pure_eq, map'_ok]

theorem step_GETN (n : Nat) (hr : Spec.step env (.GETN n) st ≠ .stuck) :
    Impl.step env (.GETN n) (stk pre st) = (Spec.step env (.GETN n) st).map' (stk pre) := by
  rcases st with _ | ⟨v, st⟩
  · exact absurd rfl hr
  have hs : Spec.step env (.GETN n) (v :: st) = (match Spec.getN n v with
      | some r => .ok (r :: st)
      | none => .stuck) := rfl
  rw [hs] at hr ⊢
  show (Stack.pop1 _ >>= _) = _
  simp only [pop1_mk_cons, Res.bind_ok]
  cases hq : Spec.getN n v with
  | none => exact absurd (by rw [hq]) hr
  | some r =>
    by_cases hn : n = 0
    · subst hn
      cases hq
      exact congrArg Res.ok (push_mk pre st _)
    · obtain ⟨a, b, rfl⟩ := getN_pair n v r hn hq
      simp only [if_neg hn, accessComb_refines n _ r hq, push_mk, Res.pure_eq, map'_ok]

theorem step_UPDATEN (n : Nat) (hr : Spec.step env (.UPDATEN n) st ≠ .stuck) :
    Impl.step env (.UPDATEN n) (stk pre st) = (Spec.step env (.UPDATEN n) st).map' (stk pre) := by
  rcases st with _ | ⟨e, _ | ⟨v, st⟩⟩
  · exact absurd rfl hr
  · exact absurd rfl hr
  have hs : Spec.step env (.UPDATEN n) (e :: v :: st) = (match Spec.updateN n e v with
      | some r => .ok (r :: st)
      | none => .stuck) := rfl
  rw [hs] at hr ⊢
  show (Stack.pop2 _ >>= _) = _
  simp only [pop2_mk_cons, Res.bind_ok]
  cases hq : Spec.updateN n e v with
  | none => exact absurd (by rw [hq]) hr
  | some r =>
    by_cases hn : n = 0
    · subst hn
      cases hq
      exact congrArg Res.ok (push_mk pre st _)
    · obtain ⟨⟨a, b, rfl⟩, h2⟩ := updateComb_refines n e v r (Nat.pos_of_ne_zero hn) hq
      simp only [if_neg hn, h2, Res.bind_ok, push_mk, Res.pure_eq, map'_ok]

/-- instructions of the form `a = pop1(); res = f(a); push(res)` -/
theorem step_unop (i : Instr) (f g : Val → Res Val)
    (hs : ∀ a st, Spec.step env i (a :: st) = (f a).bind fun r => .ok (r :: st))
    (hs0 : Spec.step env i [] = .stuck)
    (hi : ∀ s, Impl.step env i s = (do let (a, s) ← s.pop1; let r ← g a; pure (s.push r)))
    (hfg : ∀ a, f a ≠ .stuck → g a = f a)
    (hr : Spec.step env i st ≠ .stuck) :
    Impl.step env i (stk pre st) = (Spec.step env i st).map' (stk pre) := by
  rcases st with _ | ⟨a, st⟩
  · exact absurd hs0 hr
  rw [hs] at hr ⊢
  rw [hi, pop1_mk_cons]
  exact push_result pre st (f a) (g a) (hfg a) hr

/-- instructions of the form `a, b = pop2(); res = f(a, b); push(res)` -/
theorem step_binop (i : Instr) (f g : Val → Val → Res Val)
    (hs : ∀ a b st, Spec.step env i (a :: b :: st) = (f a b).bind fun r => .ok (r :: st))
    (hs0 : Spec.step env i [] = .stuck) (hs1 : ∀ a, Spec.step env i [a] = .stuck)
    (hi : ∀ s, Impl.step env i s = (do let (a, b, s) ← s.pop2; let r ← g a b; pure (s.push r)))
    (hfg : ∀ a b, f a b ≠ .stuck → g a b = f a b)
    (hr : Spec.step env i st ≠ .stuck) :
    Impl.step env i (stk pre st) = (Spec.step env i st).map' (stk pre) := by
  rcases st with _ | ⟨a, _ | ⟨b, st⟩⟩
  · exact absurd hs0 hr
  · exact absurd (hs1 a) hr
  rw [hs] at hr ⊢
  rw [hi, pop2_mk_cons]
  exact push_result pre st (f a b) (g a b) (hfg a b) hr

/-- instructions of the form `a, b, c = pop3(); res = f(a, b, c); push(res)` -/
theorem step_ternop (i : Instr) (f g : Val → Val → Val → Res Val)
    (hs : ∀ a b c st, Spec.step env i (a :: b :: c :: st) = (f a b c).bind fun r => .ok (r :: st))
    (hs0 : Spec.step env i [] = .stuck) (hs1 : ∀ a, Spec.step env i [a] = .stuck) (hs2 : ∀ a b, Spec.step env i [a, b] = .stuck)
    (hi : ∀ s, Impl.step env i s = (do let (a, b, c, s) ← s.pop3; let r ← g a b c; pure (s.push r)))
    (hfg : ∀ a b c, f a b c ≠ .stuck → g a b c = f a b c)
    (hr : Spec.step env i st ≠ .stuck) :
    Impl.step env i (stk pre st) = (Spec.step env i st).map' (stk pre) := by
  rcases st with _ | ⟨a, _ | ⟨b, _ | ⟨c, st⟩⟩⟩
  · exact absurd hs0 hr
  · exact absurd (hs1 a) hr
  · exact absurd (hs2 a b) hr
  rw [hs] at hr ⊢
  rw [hi, pop3_mk_cons]
  exact push_result pre st (f a b c) (g a b c) (hfg a b c) hr

theorem step_GET_AND_UPDATE (hr : Spec.step env .GET_AND_UPDATE st ≠ .stuck) :
    Impl.step env .GET_AND_UPDATE (stk pre st) = (Spec.step env .GET_AND_UPDATE st).map' (stk pre) := by
  rcases st with _ | ⟨a, _ | ⟨b, _ | ⟨c, st⟩⟩⟩
  · exact absurd rfl hr
  · exact absurd rfl hr
  · exact absurd rfl hr
  have hs : Spec.step env .GET_AND_UPDATE (a :: b :: c :: st)
      = (Spec.getAndUpdateB a b c).bind fun r => .ok (r.1 :: r.2 :: st) := rfl
  rw [hs] at hr ⊢
  show (Stack.pop3 _ >>= _) = _
  simp only [pop3_mk_cons, Res.bind_ok, execGetAndUpdateB_eq a b c (bind_ne_stuck hr)]
  cases Spec.getAndUpdateB a b c with
  | ok r => simp only [Res.bind_ok, rbind_ok, push_mk, Res.pure_eq, map'_ok]
  | _ => rfl

theorem step_SLICE (hr : Spec.step env .SLICE st ≠ .stuck) :
    Impl.step env .SLICE (stk pre st) = (Spec.step env .SLICE st).map' (stk pre) := by
  rcases st with _ | ⟨a, st⟩
  · exact absurd rfl hr
  cases a <;> first | (exact absurd rfl hr) | skip
  rename_i ta x
  cases ta <;> first | (exact absurd rfl hr) | skip
  rcases st with _ | ⟨b, st⟩
  · exact absurd rfl hr
  cases b <;> first | (exact absurd rfl hr) | skip
  rename_i tb y
  cases tb <;> first | (exact absurd rfl hr) | skip
  rcases st with _ | ⟨c, st⟩
  · exact absurd rfl hr
  cases c <;> first | (exact absurd rfl hr) | skip
  all_goals
    show (Stack.pop3 _ >>= _) = _
    simp only [pop3_mk_cons, Res.bind_ok, execSlice_seq (.inl rfl), execSlice_seq (.inr rfl), push_mk, Res.pure_eq]
    rfl
end

section
variable (pre st : List Val)

/-- ADD / SUB / MUL after the two numbers are popped: `ot` is the row of the table, `v` the result of the operation -/
theorem arith_refines (ot : Option Ty) (v : Int)
    (hr : (match ot with | some t => (Spec.numOk t v).bind fun r => Res.ok (r :: st) | none => .stuck) ≠ .stuck) :
    (match ot with | some t => do let r ← Impl.numFromValue t v; pure ((stk pre st).push r) | none => .stuck)
      = (match ot with | some t => (Spec.numOk t v).bind fun r => Res.ok (r :: st) | none => .stuck).map' (stk pre) := by
  cases ot with
  | none => exact absurd rfl hr
  | some t => exact push_result pre st _ _ (fun _ => by rw [numFromValue_eq]) hr

/-- CONCAT on a list after the list is popped: `os` is the joined contents, `c` the constructor of the element class -/
theorem concat_refines (os : Option (List Nat)) (c : List Nat → Val)
    (hr : (match os with | some s => Res.ok (c s :: st) | none => .stuck) ≠ .stuck) :
    (do let r ← (match os with | some s => Res.ok (c s) | none => .stuck); pure ((stk pre st).push r))
      = (match os with | some s => Res.ok (c s :: st) | none => .stuck).map' (stk pre) := by
  cases os with
  | none => exact absurd rfl hr
  | some s => exact congrArg Res.ok (push_mk pre st _)
end

/-- **simple instructions**: whenever the reference rule applies, the mirror's pop/push sequence on a stack with
any protected prefix `pre` yields the rule's result under the same prefix.

Both `step`s compute on a concrete instruction and stack shape: the shapes without a rule go by `absurd rfl hr`; on the
others `show` names the first primitive of the mirror's sequence, so that `simp only` works on that sequence and not on
the whole match (the equations of the two big matches are slow to check). -/
theorem step_refines (env : Env) (i : Instr) (pre st : List Val) (hr : Spec.step env i st ≠ .stuck) :
    Impl.step env i (stk pre st) = (Spec.step env i st).map' (stk pre) := by
  cases i
  case seq | DIP | DIPN | IF | IF_NONE | IF_LEFT | IF_CONS | LOOP | LOOP_LEFT | ITER | MAP | EXEC | NEVER =>
    -- no rule in `Spec.step`: the forms with sub-programs are `Spec.eval`'s, and NEVER has no rule at all
    all_goals exact absurd (by rcases st with _ | ⟨a, st⟩ <;> first | rfl | (cases a <;> rfl)) hr
  case PUSH | LAMBDA | UNIT | NONE | NIL | EMPTY_MAP | SENDER | SOURCE | SELF_ADDRESS | NOW | CHAIN_ID | SELF =>
    all_goals exact congrArg Res.ok (push_mk pre st _)
  case AMOUNT | BALANCE | LEVEL | TOTAL_VOTING_POWER | MIN_BLOCK_TIME =>
    all_goals exact push_result pre st _ _ (fun _ => by rw [numFromValue_eq]) hr
  case EMPTY_SET | EMPTY_BIG_MAP =>
    all_goals exact ite_refines hr fun _ => congrArg Res.ok (push_mk pre st _)
  case DROP | DUP | SOME | LEFT | RIGHT | FAILWITH =>
    all_goals
      rcases st with _ | ⟨a, st⟩
      · exact absurd rfl hr
      · unfold Impl.step
        simp only [pop1_mk_cons, peek_mk_cons, push_mk, Res.bind_ok, Res.pure_eq]
        rfl
  case RENAME =>
    rcases st with _ | ⟨a, st⟩
    · exact absurd rfl hr
    · rfl
  case CAST t =>
    rcases st with _ | ⟨a, st⟩
    · exact absurd rfl hr
    · refine ite_refines hr fun _ => ?_
      show (Stack.pop1 _ >>= _) = _
      simp only [pop1_mk_cons, push_mk, Res.bind_ok, Res.pure_eq, map'_ok]
  case SWAP | PAIR =>
    all_goals
      rcases st with _ | ⟨a, _ | ⟨b, st⟩⟩
      · exact absurd rfl hr
      · exact absurd rfl hr
      · show (Stack.pop2 _ >>= _) = _
        simp only [pop2_mk_cons, push_mk, Res.bind_ok, Res.pure_eq]
        rfl
  case UNPAIR | CAR | CDR | SIZE | NEG | ABS | ISNAT | INT | EQ | NEQ | LT | GT | LE | GE | NOT =>
    -- rules by pattern match on the top value and, for a number, on its class
    all_goals
      rcases st with _ | ⟨a, st⟩
      · exact absurd rfl hr
      cases a
      case' num t v => cases t
      all_goals first | exact absurd rfl hr | skip
      all_goals
        show (Stack.pop1 _ >>= _) = _
        simp only [pop1_mk_cons, push_mk, Res.bind_ok, Res.pure_eq, execSize_eq, Impl.valLen, execNeg_int, execNeg_nat, execNot_bool, execNot_nat, execNot_int, numFromValue_eq, Spec.numOk,
          fromBytes_signed]
        rfl
  case BLAKE2B | SHA256 | SHA512 | KECCAK | SHA3 =>
    all_goals
      exact step_unop env pre st _ (Impl.execHash _) (Impl.execHash _) (fun a _ => by cases a <;> rfl) rfl (fun _ => rfl)
        (fun _ _ => rfl) hr
  case DROPN n =>
    refine ite_refines hr fun h => ?_
    show (Stack.pop _ n >>= _) = _
    simp only [pop_mk, if_neg (Nat.not_lt.2 h), Res.bind_ok, Res.pure_eq, map'_ok]
  case DUPN n =>
    by_cases hn : n = 0
    · exact absurd (if_pos hn) hr
    · have hs : Spec.step env (.DUPN n) st = (match st[n - 1]? with | some x => .ok (x :: st) | none => .stuck) :=
        if_neg hn
      rw [hs] at hr ⊢
      cases hx : st[n - 1]? with
      | none => exact absurd (by rw [hx]) hr
      | some x =>
        obtain ⟨hlt, hd⟩ := drop_of_getElem? hx
        refine (if_neg hn).trans ?_
        -- `protect (n - 1)` moves `st.take (n - 1)` into the prefix, so `peek` sees `x`, the head of `st.drop (n - 1)` (`hd`);
        -- `restore` hands `take ++ drop = st` back
        rw [protect_mk pre st (n - 1) (Nat.le_of_lt hlt), hd]
        simp only [Res.bind_ok, peek_mk_cons, restore_take pre st _ (n - 1) (Nat.le_of_lt hlt), push_mk, Res.pure_eq]
        rw [← hd, List.take_append_drop]
        rfl
  case DIG n =>
    have hs : Spec.step env (.DIG n) st
        = (match st[n]? with | some x => .ok (x :: (st.take n ++ st.drop (n + 1))) | none => .stuck) := rfl
    rw [hs] at hr ⊢
    cases hx : st[n]? with
    | none => exact absurd (by rw [hx]) hr
    | some x =>
      obtain ⟨hlt, hd⟩ := drop_of_getElem? hx
      show ((stk pre st).protect n >>= _) = _
      rw [protect_mk pre st n (Nat.le_of_lt hlt), hd]
      simp only [Res.bind_ok, pop1_mk_cons, restore_take pre st _ n (Nat.le_of_lt hlt), push_mk, Res.pure_eq, map'_ok]
  case DUG n =>
    rcases st with _ | ⟨x, st⟩
    · exact absurd rfl hr
    · refine ite_refines hr fun h => ?_
      show (Stack.pop1 _ >>= _) = _
      simp only [pop1_mk_cons, Res.bind_ok, protect_mk pre st n h, push_mk, restore_take pre st _ n h, map'_ok]
  case APPLY => exact step_APPLY env pre st hr
  case CONS =>
    rcases st with _ | ⟨a, _ | ⟨b, st⟩⟩
    · exact absurd rfl hr
    · exact absurd rfl hr
    cases b <;> first | exact absurd rfl hr | skip
    refine ite_refines hr fun h => ?_
    show (Stack.pop2 _ >>= _) = _
    simp only [pop2_mk_cons, Res.bind_ok, if_pos h, push_mk, Res.pure_eq, map'_ok]
  case ADD | SUB | MUL =>
    all_goals
      obtain ⟨ta, x, tb, y, st, rfl⟩ := arith_operands env _ st (by simp) hr
      show (Stack.pop2 _ >>= _) = _
      simp only [pop2_mk_cons, Res.bind_ok, addTy_eq, subTy_eq, mulTy_eq]
      exact arith_refines pre st _ _ hr
  case COMPARE =>
    rcases st with _ | ⟨a, _ | ⟨b, st⟩⟩
    · exact absurd rfl hr
    · exact absurd rfl hr
    · refine ite_refines hr fun ht => ?_
      show (Stack.pop2 _ >>= _) = _
      simp only [pop2_mk_cons, Res.bind_ok, if_pos ht, compareVals_eq]
      cases Spec.compare a b with
      | none => rfl
      | some c => exact congrArg Res.ok (push_mk pre st _)
  case AND =>
    exact step_binop env pre st .AND Spec.andV Impl.execAnd (fun _ _ _ => rfl) rfl (fun _ => rfl) (fun _ => rfl) execAnd_eq hr
  case OR =>
    exact step_binop env pre st .OR Spec.orV Impl.execOr (fun _ _ _ => rfl) rfl (fun _ => rfl) (fun _ => rfl) execOr_eq hr
  case XOR =>
    exact step_binop env pre st .XOR Spec.xorV Impl.execXor (fun _ _ _ => rfl) rfl (fun _ => rfl) (fun _ => rfl) execXor_eq hr
  case EDIV =>
    exact step_binop env pre st .EDIV Spec.edivV Impl.execEdiv (fun _ _ _ => rfl) rfl (fun _ => rfl) (fun _ => rfl)
      execEdiv_eq hr
  case LSL =>
    exact step_binop env pre st .LSL Spec.lslV (Impl.execShift (fun x n => x <<< n)) (fun _ _ _ => rfl) rfl (fun _ => rfl)
      (fun _ => rfl) execLsl_eq hr
  case LSR =>
    exact step_binop env pre st .LSR Spec.lsrV (Impl.execShift (fun x n => x >>> n)) (fun _ _ _ => rfl) rfl (fun _ => rfl)
      (fun _ => rfl) execLsr_eq hr
  case SUB_MUTEZ =>
    exact step_binop env pre st .SUB_MUTEZ Spec.subMutezV Impl.execSubMutez (fun _ _ _ => rfl) rfl (fun _ => rfl)
      (fun _ => rfl) execSubMutez_eq hr
  case MEM =>
    exact step_binop env pre st .MEM Spec.memB Impl.execMem (fun _ _ _ => rfl) rfl (fun _ => rfl) (fun _ => rfl)
      execMemB_eq hr
  case GET =>
    exact step_binop env pre st .GET Spec.getB Impl.execGet (fun _ _ _ => rfl) rfl (fun _ => rfl) (fun _ => rfl)
      execGetB_eq hr
  case UPDATE =>
    exact step_ternop env pre st .UPDATE Spec.updateB Impl.execUpdate (fun _ _ _ _ => rfl) rfl (fun _ => rfl)
      (fun _ _ => rfl) (fun _ => rfl) execUpdateB_eq hr
  case TRANSFER_TOKENS =>
    exact step_ternop env pre st .TRANSFER_TOKENS (Spec.transferTokensV env) (Impl.execTransferTokens env)
      (fun _ _ _ _ => rfl) rfl (fun _ => rfl) (fun _ _ => rfl) (fun _ => rfl) (execTransferTokens_eq env) hr
  case CHECK_SIGNATURE =>
    exact step_ternop env pre st .CHECK_SIGNATURE (Spec.checkSignatureV env) (Impl.execCheckSignature env)
      (fun _ _ _ _ => rfl) rfl (fun _ => rfl) (fun _ _ => rfl) (fun _ => rfl) (execCheckSignature_eq env) hr
  case CONCAT =>
    rcases st with _ | ⟨a, st⟩
    · exact absurd rfl hr
    cases a <;> first | exact absurd rfl hr | skip
    case str x | bytes x =>
      all_goals
        rcases st with _ | ⟨b, st⟩
        · exact absurd rfl hr
        cases b <;> first | exact absurd rfl hr | skip
        show (Stack.pop1 _ >>= _) = _
        simp only [pop1_mk_cons, Res.bind_ok, execConcatPair_str, execConcatPair_bytes, push_mk, Res.pure_eq]
        rfl
    case list t xs =>
      cases t <;> first | exact absurd rfl hr | skip
      all_goals
        show (Stack.pop1 _ >>= _) = _
        simp only [pop1_mk_cons, Res.bind_ok, execConcatList_string, execConcatList_bytes]
        exact concat_refines pre st _ _ hr
  case SLICE => exact step_SLICE env pre st hr
  case GET_AND_UPDATE => exact step_GET_AND_UPDATE env pre st hr
  case NAT | BYTES | VOTING_POWER | HASH_KEY | ADDRESS | IMPLICIT_ACCOUNT | CONTRACT | SET_DELEGATE | EMIT | PACK | UNPACK =>
    all_goals
      exact step_unop env pre st _ (Spec.unV env _) (Impl.execUn env _) (fun _ _ => rfl) rfl (fun _ => rfl)
        (execUn_eq env _) hr
  case PAIRN n => exact step_PAIRN env pre st n hr
  case UNPAIRN n => exact step_UNPAIRN env pre st n hr
  case GETN n => exact step_GETN env pre st n hr
  case UPDATEN n => exact step_UPDATEN env pre st n hr

end Interp
