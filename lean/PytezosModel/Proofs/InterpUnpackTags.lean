import PytezosModel.Proofs.InterpColl
import PytezosModel.Proofs.InterpPack
import PytezosModel.Proofs.InterpUnpackDecode
import PytezosModel.Proofs.MichelineRT
import PytezosModel.Proofs.PrimTable
/-! UNPACK, the primitive table: what `prim_int` (read from the source by property C05's translator) says about the nine
data constructors. -/
namespace Interp
open Core Impl.Lower

/-- the primitives `unforge_micheline` knows are the tags `0x00`–`0x9e` -/
theorem known_eq : known = Spec.knownPrim :=
  funext fun t => Bool.eq_iff_iff.mpr ((known_iff t).trans decide_eq_true_iff.symm)

theorem strict_eq : strict = true := Impl.Lower.strict_eq

theorem ofTag_Unit (t : Nat) : primOfTag t = some "Unit" ↔ t = 11 := primOfTag_iff (by decide +kernel) (by decide) t
theorem ofTag_True (t : Nat) : primOfTag t = some "True" ↔ t = 10 := primOfTag_iff (by decide +kernel) (by decide) t
theorem ofTag_False (t : Nat) : primOfTag t = some "False" ↔ t = 3 := primOfTag_iff (by decide +kernel) (by decide) t
theorem ofTag_Pair (t : Nat) : primOfTag t = some "Pair" ↔ t = 7 := primOfTag_iff (by decide +kernel) (by decide) t
theorem ofTag_Some (t : Nat) : primOfTag t = some "Some" ↔ t = 9 := primOfTag_iff (by decide +kernel) (by decide) t
theorem ofTag_None (t : Nat) : primOfTag t = some "None" ↔ t = 6 := primOfTag_iff (by decide +kernel) (by decide) t
theorem ofTag_Left (t : Nat) : primOfTag t = some "Left" ↔ t = 5 := primOfTag_iff (by decide +kernel) (by decide) t
theorem ofTag_Right (t : Nat) : primOfTag t = some "Right" ↔ t = 8 := primOfTag_iff (by decide +kernel) (by decide) t
theorem ofTag_Elt (t : Nat) : primOfTag t = some "Elt" ↔ t = 4 := primOfTag_iff (by decide +kernel) (by decide) t

end Interp
