import PytezosModel.Client.Merkle
/-! The loop invariant of `step` stated over the infinite padded tree `node`. -/
namespace Proofs.C31
open Impl.Merkle Spec.Merkle Generated.C31

/-- the parameters the proof is written for (what the pinned source contains) -/
def P0 : Params := { halfAdd := 1, halfDiv := 2, lMul := 2, lAdd := 0, rMul := 2, rAdd := 1 }

/-- node `i` of level `j` of the infinite tree over the leaf sequence `leaf` -/
def node (H : Bytes → Bytes) (leaf : Nat → Bytes) : Nat → Nat → Bytes
  | 0, i => leaf i
  | j + 1, i => H (node H leaf j (2 * i) ++ node H leaf j (2 * i + 1))

/-- `height n` is the least `k` with `n ≤ 2 ^ k`; the facts below are read off this equivalence -/
theorem height_le_iff (n k : Nat) : height n ≤ k ↔ n ≤ 2 ^ k := by
  have hpos : 0 < 2 ^ k := Nat.two_pow_pos k
  unfold height
  split
  · omega
  · have := @Nat.log2_lt (n - 1) k (by omega)
    omega

theorem height_le (n : Nat) : n ≤ 2 ^ height n := (height_le_iff n _).mp (Nat.le_refl _)

/-- a number is known by what it is below -/
theorem eq_of_le_iff {a b : Nat} (h : ∀ k, a ≤ k ↔ b ≤ k) : a = b :=
  Nat.le_antisymm ((h b).mpr (Nat.le_refl b)) ((h a).mp (Nat.le_refl a))

theorem height_pow (k : Nat) : height (2 ^ k) = k :=
  eq_of_le_iff fun j => (height_le_iff _ j).trans (Nat.pow_le_pow_iff_right (by decide))

/-- halving a level lowers the height by one: `c ≤ 2 ^ (k + 1)` iff `(c + 1) / 2 ≤ 2 ^ k` -/
theorem height_half (c : Nat) (hc : 2 ≤ c) : height ((c + 1) / 2) + 1 = height c :=
  eq_of_le_iff fun k => by
    cases k with
    | zero => rw [height_le_iff]; omega
    | succ k => rw [Nat.succ_le_succ_iff, height_le_iff, height_le_iff, Nat.pow_succ]; omega

/-- an odd count is not a power of two, so one more (padding) node does not change the height -/
theorem height_succ_odd (m : Nat) (h3 : 3 ≤ m) (hodd : m % 2 = 1) : height (m + 1) = height m :=
  eq_of_le_iff fun k => by
    rw [height_le_iff, height_le_iff]
    cases k with
    | zero => omega
    | succ k => rw [Nat.pow_succ]; omega

theorem tree_window (H : Bytes → Bytes) (leaf : Nat → Bytes) (j : Nat) :
    ∀ k s, tree H k ((List.range' (s * 2 ^ k) (2 ^ k)).map (node H leaf j)) = some (node H leaf (j + k) s) := by
  intro k
  induction k with
  | zero => intro s; simp [tree]
  | succ k ih =>
    intro s
    -- the window of `2 ^ (k + 1)` leaves is the window of `2 * s` followed by that of `2 * s + 1`
    have e : List.range' (s * 2 ^ (k + 1)) (2 ^ (k + 1)) =
        List.range' (2 * s * 2 ^ k) (2 ^ k) ++ List.range' ((2 * s + 1) * 2 ^ k) (2 ^ k) := by
      rw [show (2 * s + 1) * 2 ^ k = 2 * s * 2 ^ k + 2 ^ k by rw [Nat.add_mul, Nat.one_mul], List.range'_append_1,
        Nat.pow_succ, Nat.mul_two, Nat.mul_comm 2 s, Nat.mul_assoc, Nat.two_mul]
    have hl : (List.map (node H leaf j) (List.range' (2 * s * 2 ^ k) (2 ^ k))).length = 2 ^ k := by simp
    rw [e, List.map_append]
    simp only [tree, List.take_left' hl, List.drop_left' hl, ih, Option.bind_eq_bind, Option.bind_some]
    rfl

/-- writing cell `m` of an array whose cells below `m` are those of `f` -/
theorem set_cells {a : List Bytes} {m : Nat} {v : Bytes} {f : Nat → Bytes} (hm : m < a.length)
    (hlow : ∀ i, i < m → a[i]? = some (f i)) (hv : v = f m) (i : Nat) (hi : i ≤ m) : (a.set m v)[i]? = some (f i) := by
  by_cases him : i = m
  · rw [him, List.getElem?_set_self hm, hv]
  · rw [List.getElem?_set_ne (by omega)]; exact hlow i (by omega)

/-- the loop works in place: iteration `t` reads cells `2 t`, `2 t + 1 ≥ t`, which no earlier iteration has written, so the
invariant keeps the cells from `i` on equal to those of `a0`, the array at loop entry -/
theorem pairLoop_spec (H : Bytes → Bytes) (f : Nat → Bytes) (a0 : List Bytes) (c m : Nat)
    (hlen : c < a0.length) (hf : ∀ i, i ≤ c → a0[i]? = some (f i)) (hm : 2 * m ≤ c + 1) :
    ∀ k i a, i + k = m → a.length = a0.length →
      (∀ t, t < i → a[t]? = some (H (f (2 * t) ++ f (2 * t + 1)))) →
      (∀ t, i ≤ t → a[t]? = a0[t]?) →
      ∃ a', pairLoop P0 H k i a = some a' ∧ a'.length = a0.length ∧
        (∀ t, t < m → a'[t]? = some (H (f (2 * t) ++ f (2 * t + 1)))) ∧
        (∀ t, m ≤ t → a'[t]? = a0[t]?) := by
  intro k
  induction k with
  | zero =>
    intro i a hik hl h1 h2
    have : i = m := by omega
    subst this
    exact ⟨a, rfl, hl, h1, h2⟩
  | succ k ih =>
    intro i a hik hl h1 h2
    have r1 : a[2 * i]? = some (f (2 * i)) := by rw [h2 _ (by omega)]; exact hf _ (by omega)
    have r2 : a[2 * i + 1]? = some (f (2 * i + 1)) := by rw [h2 _ (by omega)]; exact hf _ (by omega)
    have hi : i < a.length := by omega
    simp only [pairLoop, P0, Nat.add_zero, r1, r2, setAt, hi, if_true, Option.bind_eq_bind, Option.bind_some]
    apply ih (i + 1) _ (by omega) (by simp [hl])
    · exact fun t ht => set_cells hi h1 rfl t (Nat.le_of_lt_succ ht)
    · intro t ht
      rw [List.getElem?_set_ne (by omega)]; exact h2 t (by omega)

/-- loop invariant of `step`: the first `c` cells are the nodes of level `j`, cell `c` is the all-padding node of that
level (every node from index `c` on equals it), and `j` levels have been consumed out of `h` -/
structure Inv (H : Bytes → Bytes) (leaf : Nat → Bytes) (h j c : Nat) (a : List Bytes) : Prop where
  len : c < a.length
  cells : ∀ i, i ≤ c → a[i]? = some (node H leaf j i)
  pad : ∀ i, c ≤ i → node H leaf j i = node H leaf j c
  two : 2 ≤ c
  lvl : j + height c = h

theorem step_spec (H : Bytes → Bytes) (leaf : Nat → Bytes) (h : Nat) :
    ∀ fuel j c a, c ≤ fuel → Inv H leaf h j c a → step P0 H fuel c a = some (node H leaf h 0) := by
  intro fuel
  induction fuel with
  | zero => intro j c a hf inv; have := inv.two; omega
  | succ fuel ih =>
    intro j c a hf inv
    obtain ⟨hlen, hcells, hpad, htwo, hlvl⟩ := inv
    obtain ⟨m, hm⟩ : ∃ m, m = (c + 1) / 2 := ⟨_, rfl⟩
    have hmdef : (c + P0.halfAdd) / P0.halfDiv = m := hm.symm
    obtain ⟨a1, hloop, hl1, hlow, hhigh⟩ :=
      pairLoop_spec H (node H leaf j) a c m hlen hcells (by omega) m 0 a (by omega) rfl
        (by intro t ht; omega) (by intro t _; rfl)
    have hc1 : a1[c]? = some (node H leaf j c) := by rw [hhigh c (by omega)]; exact hcells c (Nat.le_refl _)
    have hmlen : m < a1.length := by omega
    -- the array after `a[m] = H(a[n] ++ a[n])`
    obtain ⟨a2, ha2⟩ : ∃ a2, a2 = a1.set m (H (node H leaf j c ++ node H leaf j c)) := ⟨_, rfl⟩
    have hl2 : a2.length = a.length := by rw [ha2, List.length_set, hl1]
    -- from `m` on the nodes of the next level are the hash of two padding nodes
    have hp : ∀ i, m ≤ i → node H leaf (j + 1) i = H (node H leaf j c ++ node H leaf j c) := by
      intro i hi
      simp only [node]
      rw [hpad (2 * i) (by omega), hpad (2 * i + 1) (by omega)]
    have hcells2 : ∀ i, i ≤ m → a2[i]? = some (node H leaf (j + 1) i) :=
      ha2 ▸ set_cells hmlen hlow (hp m (Nat.le_refl m)).symm
    have hpad2 : ∀ i, m ≤ i → node H leaf (j + 1) i = node H leaf (j + 1) m :=
      fun i hi => (hp i hi).trans (hp m (Nat.le_refl m)).symm
    have hh := height_half c htwo
    rw [← hm] at hh
    simp only [step, hmdef, hloop, hc1, setAt, hmlen, if_true, Option.bind_eq_bind, Option.bind_some, ← ha2]
    by_cases hm1 : m = 1
    · -- last level
      have hh1 : height 1 = 0 := by simp [height]
      rw [hm1, hh1] at hh
      rw [if_pos hm1, hcells2 0 (by omega), show j + 1 = h by omega]
    · rw [if_neg hm1]
      by_cases hev : m % 2 = 0
      · rw [if_pos hev]
        exact ih (j + 1) m _ (by omega) ⟨by omega, hcells2, hpad2, by omega, by omega⟩
      · have hlen2 : m + 1 < a2.length := by omega
        simp only [hev, if_false, hcells2 m (Nat.le_refl _), hlen2, if_true, Option.bind_some]
        apply ih (j + 1) (m + 1) _ (by omega)
        have hso := height_succ_odd m (by omega) (by omega)
        refine ⟨by simp; omega, ?_, ?_, by omega, by omega⟩
        · exact set_cells hlen2 (fun i hi => hcells2 i (by omega)) (hpad2 (m + 1) (by omega)).symm
        · intro i hi
          rw [hpad2 i (by omega), hpad2 (m + 1) (by omega)]

/-- leaf `i` of the padded sequence: the last element is repeated for ever -/
def leafOf (L : List Bytes) (i : Nat) : Bytes := L.getD (min i (L.length - 1)) []

theorem leafOf_of_lt {L : List Bytes} {i : Nat} (h : i < L.length) : L[i]? = some (leafOf L i) := by
  rw [leafOf, Nat.min_eq_left (by omega), List.getD_eq_getElem?_getD, List.getElem?_eq_getElem h]
  rfl

theorem leafOf_of_ge {L : List Bytes} {i : Nat} (h : L.length - 1 ≤ i) : leafOf L i = leafOf L (L.length - 1) := by
  rw [leafOf, leafOf, Nat.min_eq_right h, Nat.min_self]

theorem padPow2_eq (L : List Bytes) (hL : L ≠ []) :
    padPow2 L = (List.range' 0 (2 ^ height L.length)).map (leafOf L) := by
  have hpos : 0 < L.length := List.length_pos_iff.mpr hL
  have hle := height_le L.length
  unfold padPow2
  rw [List.getLast?_eq_getElem?, leafOf_of_lt (show L.length - 1 < L.length by omega)]
  apply List.ext_getElem?
  intro i
  rw [List.getElem?_map]
  by_cases hi : i < L.length
  · rw [List.getElem?_append_left hi, List.getElem?_range' (by omega), leafOf_of_lt hi]
    simp
  · rw [List.getElem?_append_right (by omega), List.getElem?_replicate]
    by_cases hi2 : i < 2 ^ height L.length
    · rw [if_pos (by omega), List.getElem?_range' hi2]
      simp [leafOf_of_ge (L := L) (i := i) (by omega)]
    · rw [if_neg (by omega), List.getElem?_eq_none (by simp; omega)]
      rfl

theorem root_padPow2 (H : Bytes → Bytes) (L : List Bytes) (hL : L ≠ []) :
    root H (padPow2 L) = some (node H (leafOf L) (height L.length) 0) := by
  have hlen : (padPow2 L).length = 2 ^ height L.length := by rw [padPow2_eq L hL]; simp
  unfold root
  rw [hlen, height_pow, padPow2_eq L hL]
  have e : node H (leafOf L) 0 = leafOf L := by funext i; rfl
  have := tree_window H (leafOf L) 0 (height L.length) 0
  rw [e] at this
  simpa using this

theorem reduceWith_spec (H : Bytes → Bytes) (xs : List Bytes) (hxs : xs ≠ []) :
    reduceWith P0 H xs = root H (padPow2 (xs.map H)) := by
  have hL : xs.map H ≠ [] := by simpa using hxs
  rw [root_padPow2 H _ hL]
  match xs, hxs with
  | [x], _ =>
    simp [reduceWith, height, node, leafOf]
  | x :: y :: rest, _ =>
    have hmap : (List.map (fun x => H (x ++ [])) (x :: y :: rest)) = (x :: y :: rest).map H := by
      apply List.map_congr_left; intro a _; simp
    unfold reduceWith
    simp only [hmap]
    generalize hLd : (x :: y :: rest).map H = L at *
    have h2 : 2 ≤ L.length := by rw [← hLd]; simp
    have hN : (x :: y :: rest).length = L.length := by rw [← hLd]; simp
    rw [List.getLast?_eq_getElem?, leafOf_of_lt (show L.length - 1 < L.length by omega), hN]
    apply step_spec H (leafOf L) (height L.length) L.length 0 L.length _ (Nat.le_refl _)
    refine ⟨by simp, ?_, ?_, h2, by omega⟩
    · intro i hi
      by_cases hil : i < L.length
      · rw [List.getElem?_append_left hil, leafOf_of_lt hil]; rfl
      · have : i = L.length := by omega
        subst this
        rw [List.getElem?_append_right (Nat.le_refl _)]
        simp [node, leafOf_of_ge (L := L) (i := L.length) (by omega)]
    · intro i hi
      simp only [node]
      rw [leafOf_of_ge (i := i) (by omega), leafOf_of_ge (i := L.length) (by omega)]

theorem reduceShape_eq : reduceShape = some P0 := by decide

theorem reduce_eq (H : Bytes → Bytes) (xs : List Bytes) : reduce H xs = merkle H xs := by
  have hs := reduceShape_eq
  unfold merkle
  split
  · next h => subst h; simp [reduce, hs, reduceWith]
  · next h => simp only [reduce, hs, Option.bind_some]; exact reduceWith_spec H xs h

end Proofs.C31
