import PytezosModel.Proofs.C21Codec
import PytezosModel.Proofs.C21Group
/-! C21 helper lemmas: each branch of `Impl.add / mul / neg` (dispatch failure, integer classes, curve points) for any
source description, then the Fr rows and the Fr literal codec for `expectedSrc`. -/
namespace Bls
open Core Generated.C21

@[simp] theorem ok_bind {α β : Type} (a : α) (f : α → R β) : (Except.ok a >>= f) = f a := rfl
@[simp] theorem error_bind {α β : Type} (e : Err) (f : α → R β) : ((Except.error e : R α) >>= f) = .error e := rfl

variable (S : Src) (E : Env)

theorem add_types (a b : Val) (e : Err) (hd : dispatch S.addRows [a, b] = .error e) : Impl.add S E a b = .error e := by
  simp only [Impl.add, hd, error_bind]

theorem add_int (a b : Val) (res : Ty) (x y : Int) (hd : dispatch S.addRows [a, b] = .ok res)
    (hs : S.intSub.contains res = true) (ha : a.asInt = .ok x) (hb : b.asInt = .ok y) :
    Impl.add S E a b = fromValue S res (x + y) := by
  simp only [Impl.add, hd, ok_bind, hs, if_true, ha, hb]

theorem add_pt (a b : Val) (res : Ty) (hd : dispatch S.addRows [a, b] = .ok res) (hs : S.intSub.contains res = false) :
    Impl.add S E a b = withPoint S E a
      (fun P => withPoint S E b (fun Q => fromPoint1 S E res (E.K1.add P Q)) (fun _ => .error .attribute))
      (fun P => withPoint S E b (fun _ => .error .attribute) (fun Q => fromPoint2 S E res (E.K2.add P Q))) := by
  simp only [Impl.add, hd, ok_bind, hs, Bool.false_eq_true, if_false]

theorem mul_types (a b : Val) (e : Err) (hd : dispatch S.mulRows [a, b] = .error e) : Impl.mul S E a b = .error e := by
  simp only [Impl.mul, hd, error_bind]

theorem mul_int (a b : Val) (res : Ty) (x y : Int) (hd : dispatch S.mulRows [a, b] = .ok res)
    (hs : S.intSub.contains res = true) (ha : a.asInt = .ok x) (hb : b.asInt = .ok y) :
    Impl.mul S E a b = fromValue S res (x * y) := by
  simp only [Impl.mul, hd, ok_bind, hs, if_true, ha, hb]

theorem mul_pt (a b : Val) (res : Ty) (k : Nat) (hd : dispatch S.mulRows [a, b] = .ok res)
    (hs : S.intSub.contains res = false) (hb : b.asInt = .ok (k : Int)) :
    Impl.mul S E a b = withPoint S E a (fun P => fromPoint1 S E res (E.K1.mul P k)) (fun P => fromPoint2 S E res (E.K2.mul P k)) := by
  simp only [Impl.mul, hd, ok_bind, hs, Bool.false_eq_true, if_false, hb, Int.not_lt.2 (Int.natCast_nonneg k),
    Int.toNat_natCast]

theorem neg_int (a : Val) (res : Ty) (x : Int) (hd : dispatch S.negRows [a] = .ok res)
    (hs : S.intSub.contains res = true) (ha : a.asInt = .ok x) :
    Impl.neg S E a = fromValue S (if S.negUsesResType then res else .int) (-x) := by
  simp only [Impl.neg, hd, ok_bind, hs, if_true, ha]

theorem neg_pt (a : Val) (res : Ty) (hd : dispatch S.negRows [a] = .ok res) (hs : S.intSub.contains res = false) :
    Impl.neg S E a = withPoint S E a (fun P => fromPoint1 S E res (E.K1.neg P)) (fun P => fromPoint2 S E res (E.K2.neg P)) := by
  simp only [Impl.neg, hd, ok_bind, hs, Bool.false_eq_true, if_false]

theorem impl_add_fr (a b : Int) :
    Impl.add expectedSrc E (.num .fr a) (.num .fr b) = .ok (.num .fr ((a + b) % (r : Int))) :=
  add_int expectedSrc E _ _ .fr a b rfl rfl rfl rfl

theorem impl_neg_fr (a : Int) :
    Impl.neg expectedSrc E (.num .fr a) = .ok (.num .fr ((-a) % (r : Int))) :=
  neg_int expectedSrc E _ .fr a rfl rfl rfl

/-- MUL of two numbers whose classes the table sends to `fr` (fr × fr, and fr with `int` or `nat` on either side) -/
theorem impl_mul_fr (ta tb : Ty) (a b : Int) (hd : dispatch expectedSrc.mulRows [.num ta a, .num tb b] = .ok .fr) :
    Impl.mul expectedSrc E (.num ta a) (.num tb b) = .ok (.num .fr ((a * b) % (r : Int))) :=
  mul_int expectedSrc E _ _ .fr a b hd rfl rfl rfl

/-- ill-typed combinations are rejected by the dispatch tables -/
theorem impl_add_g1_g2 (a b : Bytes) : Impl.add expectedSrc E (.pt .g1 a) (.pt .g2 b) = .error .types :=
  add_types expectedSrc E _ _ _ rfl

theorem impl_mul_fr_g1 (k : Int) (b : Bytes) : Impl.mul expectedSrc E (.num .fr k) (.pt .g1 b) = .error .types :=
  mul_types expectedSrc E _ _ _ rfl

theorem natToLE_of_lt (n v : Nat) (h : v < 256 ^ n) : ∃ bs, natToLE n v = some bs ∧ bs.length = n ∧ leToNat bs = v := by
  induction n generalizing v with
  | zero => exact ⟨[], if_pos (Nat.lt_one_iff.1 h), rfl, (Nat.lt_one_iff.1 h).symm⟩
  | succ n ih =>
    obtain ⟨bs, e, hl, hv⟩ := ih (v / 256) (Nat.div_lt_of_lt_mul (by rw [Nat.mul_comm, ← Nat.pow_succ]; exact h))
    refine ⟨v % 256 :: bs, by rw [natToLE, e]; rfl, congrArg (· + 1) hl, ?_⟩
    rw [leToNat, hv]
    exact Nat.mod_add_div v 256

/-- an Fr value is written as 32 little-endian bytes that `bytes_to_int` reads back -/
theorem impl_frToBytes (v : Nat) (hv : v < r) :
    ∃ bs, Impl.frToBytes expectedSrc (.num .fr (v : Int)) = .ok bs ∧ bs.length = 32 ∧ leToNat bs = v := by
  obtain ⟨bs, e, hl, hb⟩ := natToLE_of_lt 32 v (Nat.lt_trans hv r_lt_pow)
  refine ⟨bs, ?_, hl, hb⟩
  show (if (0 : Int) ≤ v then ofOpt .value (natToLE 32 (v : Int).toNat) else .error .value) = _
  rw [if_pos (Int.natCast_nonneg v), Int.toNat_natCast, e]
  rfl

end Bls
