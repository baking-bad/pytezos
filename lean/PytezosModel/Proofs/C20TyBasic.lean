import PytezosModel.Michelson.TicketsTyping
import PytezosModel.Proofs.C20Values
/-! C20 — type preservation for the static checker of `TicketsTyping`: basics (stack typing, the stack primitives on a
state whose protected prefix is `pre` and whose active part is `act`) -/
namespace Impl.Tickets

/-- split and join keep the ticket's class (read from the source by the translator) -/
structure CfgOk2 (c : Cfg) : Prop where
  splitKeeps : c.splitKeeps = true
  joinKeeps : c.joinKeeps = true

/-- stack typing: every value is deeply well typed and the classes are the static types -/
def STy (act : List Val) (Γ : List Ty) : Prop := (∀ v ∈ act, v.wt = true) ∧ act.map Val.typeOf = Γ

/-- the state has the protected prefix `pre`, the active part `act`, and no ill-typed store happened so far -/
def Shape (pre act : List Val) (s : State) : Prop := s.typedStores = true ∧ s.items = pre ++ act ∧ s.prot = pre.length

theorem STy.nil : STy [] [] := ⟨fun v hv => (by cases hv), rfl⟩

theorem STy.cons {a : Val} {rest : List Val} {t : Ty} {Γ : List Ty} (h1 : a.wt = true) (h2 : a.typeOf = t) (h : STy rest Γ) :
    STy (a :: rest) (t :: Γ) :=
  ⟨List.forall_mem_cons.mpr ⟨h1, h.1⟩, congr (congrArg _ h2) h.2⟩

theorem STy.uncons {a : Val} {rest : List Val} {Γ : List Ty} (h : STy (a :: rest) Γ) :
    ∃ Δ, Γ = a.typeOf :: Δ ∧ a.wt = true ∧ STy rest Δ :=
  have hw := List.forall_mem_cons.mp h.1
  ⟨_, h.2.symm, hw.1, hw.2, rfl⟩

theorem STy.cons_inv {act : List Val} {t : Ty} {Γ : List Ty} (h : STy act (t :: Γ)) :
    ∃ a rest, act = a :: rest ∧ a.wt = true ∧ a.typeOf = t ∧ STy rest Γ := by
  cases act with
  | nil => cases h.2
  | cons a rest =>
    obtain ⟨Δ, e, hw, hr⟩ := h.uncons
    cases e
    exact ⟨a, rest, rfl, hw, rfl, hr⟩

theorem STy.length {act : List Val} {Γ : List Ty} (h : STy act Γ) : act.length = Γ.length := by
  rw [← h.2]; simp

theorem STy.append {a b : List Val} {Γ Δ : List Ty} (h1 : STy a Γ) (h2 : STy b Δ) : STy (a ++ b) (Γ ++ Δ) :=
  ⟨List.forall_mem_append.mpr ⟨h1.1, h2.1⟩, by rw [List.map_append, h1.2, h2.2]⟩

theorem STy.take {act : List Val} {Γ : List Ty} (n : Nat) (h : STy act Γ) : STy (act.take n) (Γ.take n) :=
  ⟨fun v hv => h.1 v (List.mem_of_mem_take hv), by rw [← h.2, List.map_take]⟩

theorem STy.drop {act : List Val} {Γ : List Ty} (n : Nat) (h : STy act Γ) : STy (act.drop n) (Γ.drop n) :=
  ⟨fun v hv => h.1 v (List.mem_of_mem_drop hv), by rw [← h.2, List.map_drop]⟩

theorem wtList_iff (t : Ty) (xs : List Val) : Val.wtList t xs = true ↔ ∀ v ∈ xs, v.typeOf = t ∧ v.wt = true := by
  induction xs with
  | nil => simp [Val.wtList]
  | cons x xs ih => simp [Val.wtList, ih, and_assoc]

structure MapWT (kt vt : Ty) (keys : List Atom) (vals : List Val) : Prop where
  len : keys.length = vals.length
  nodup : keys.Nodup
  ktys : ∀ a ∈ keys, a.ty = kt
  vtys : ∀ v ∈ vals, v.typeOf = vt ∧ v.wt = true

theorem mapWT_iff {big : Bool} {kt vt : Ty} {keys : List Atom} {vals : List Val} {rm : List Atom} :
    (Val.map big kt vt keys vals rm).wt = true ↔ MapWT kt vt keys vals := by
  simp only [Val.wt, Bool.and_eq_true, beq_iff_eq, wtList_iff, List.all_eq_true, nodupB_iff]
  exact ⟨fun ⟨⟨⟨h1, h2⟩, h3⟩, h4⟩ => ⟨h1, h2, h3, h4⟩, fun ⟨h1, h2, h3, h4⟩ => ⟨⟨⟨h1, h2⟩, h3⟩, h4⟩⟩

mutual
  theorem wt_consistent : ∀ v : Val, v.wt = true → v.consistent = true
    | .atom _, _ | .none _, _ | .lam _ _ _, _ => rfl
    | .ticket cls _ ct _, h => by simp only [Val.wt] at h; simp [Val.consistent, h]
    | .pair l r, h => by
      simp only [Val.wt, Bool.and_eq_true] at h
      simp [Val.consistent, wt_consistent l h.1, wt_consistent r h.2]
    | .some v, h | .left v _, h | .right _ v, h => wt_consistent v h
    | .list t xs, h => wtList_consistent t xs h
    | .map _ k v keys vals _, h => by
      simp only [Val.wt, Bool.and_eq_true] at h
      simp [Val.consistent, h.1.1.1, h.1.1.2, wtList_consistent v vals h.2]
    | .set _ xs, h => by simp only [Val.wt, Bool.and_eq_true] at h; exact h.1
  theorem wtList_consistent : ∀ (t : Ty) (xs : List Val), Val.wtList t xs = true → Val.consistentList t xs = true
    | _, [], _ => rfl
    | t, x :: xs, h => by
      simp only [Val.wtList, Bool.and_eq_true] at h
      simp [Val.consistentList, h.1.1, wt_consistent x h.1.2, wtList_consistent t xs h.2]
end

theorem STy.lc {act : List Val} {Γ : List Ty} (h : STy act Γ) : LC act := fun v hv => wt_consistent v (h.1 v hv)

theorem Shape.push {pre rest : List Val} {s : State} (h : Shape pre rest s) (v : Val) : Shape pre (v :: rest) (s.push v) := by
  obtain ⟨h1, h2, h3⟩ := h
  refine ⟨h1, ?_, h3⟩
  simp only [State.push, h2, h3, List.take_left, List.drop_left]

theorem Shape.of_pop {pre act : List Val} {s s1 : State} {n : Nat} {vs : List Val} (h : Shape pre act s)
    (hp : s.pop n = .ok (vs, s1)) : ∃ rest, act = vs ++ rest ∧ Shape pre rest s1 := by
  obtain ⟨h1, h2, h3⟩ := h
  unfold State.pop at hp
  split at hp <;> cases hp
  refine ⟨act.drop n, ?_, h1, ?_, h3⟩
  · rw [h2, h3, List.drop_left, List.take_append_drop]
  · show List.take s.prot s.items ++ List.drop (s.prot + n) s.items = pre ++ act.drop n
    rw [h2, h3, List.take_left, ← List.drop_drop, List.drop_left]

theorem Shape.of_peek {pre act : List Val} {v : Val} {s : State} (h : Shape pre act s) (hp : s.peek = .ok v) :
    ∃ rest, act = v :: rest := by
  obtain ⟨_, h2, h3⟩ := h
  unfold State.peek at hp
  split at hp
  · cases hp
  · split at hp <;> cases hp
    rename_i hx
    rw [h2, h3, List.getElem?_append_right (Nat.le_refl _), Nat.sub_self] at hx
    cases act with
    | nil => cases hx
    | cons a rest => cases hx; exact ⟨rest, rfl⟩

theorem typed_pop1 {pre act : List Val} {s s1 : State} {Γ : List Ty} {a : Val} (hs : Shape pre act s) (hty : STy act Γ)
    (hp : s.pop1 = .ok (a, s1)) : ∃ rest Δ, Γ = a.typeOf :: Δ ∧ a.wt = true ∧ Shape pre rest s1 ∧ STy rest Δ := by
  obtain ⟨rest, rfl, hs1⟩ := hs.of_pop (pop1_eq hp)
  obtain ⟨Δ, rfl, ha, hty⟩ := hty.uncons
  exact ⟨rest, Δ, rfl, ha, hs1, hty⟩

/-- `protect n` moves the first `n` active items into the protected prefix -/
theorem Shape.protect {pre act : List Val} {s : State} (h : Shape pre act s) (n : Nat) (hn : n ≤ act.length) :
    ∃ s1, s.protect n = .ok s1 ∧ Shape (pre ++ act.take n) (act.drop n) s1 ∧ s1.self = s.self ∧ s1.minted = s.minted := by
  obtain ⟨h1, h2, h3⟩ := h
  refine ⟨{ s with prot := s.prot + n }, ?_, ⟨h1, ?_, ?_⟩, rfl, rfl⟩
  · unfold State.protect
    rw [if_neg]
    rw [h2, List.length_append]; omega
  · show s.items = pre ++ List.take n act ++ List.drop n act
    rw [List.append_assoc, List.take_append_drop, h2]
  · show s.prot + n = (pre ++ List.take n act).length
    rw [List.length_append, List.length_take, h3]; omega

/-- `restore n` gives the last `n` protected items back -/
theorem Shape.restore {pre mid act : List Val} {s : State} (h : Shape (pre ++ mid) act s) :
    ∃ s1, s.restore mid.length = .ok s1 ∧ Shape pre (mid ++ act) s1 ∧ s1.self = s.self ∧ s1.minted = s.minted := by
  obtain ⟨h1, h2, h3⟩ := h
  refine ⟨{ s with prot := s.prot - mid.length }, ?_, ⟨h1, ?_, ?_⟩, rfl, rfl⟩
  · unfold State.restore
    rw [if_neg]
    rw [h3, List.length_append]; omega
  · show s.items = pre ++ (mid ++ act)
    rw [h2, List.append_assoc]
  · show s.prot - mid.length = pre.length
    rw [h3, List.length_append]; omega

end Impl.Tickets
