import PytezosModel.Proofs.C18Format
import PytezosModel.Proofs.C18Parse
import PytezosModel.Proofs.StrTable
/-! C18: the generated tables pass the finite checks; the formatter does not reject a well-formed expression; the
text of a root expression does not start with `(`. -/
namespace Impl.Text
open Generated

/-- the regenerated lexer table has what the lexing lemmas need -/
theorem specOK_of {sp : LexSpec} (h : lexSpec = some sp) : SpecOK sp := by
  obtain rfl : _ = sp := Option.some.inj h
  constructor <;> decide +kernel

/-- the regenerated `is_framed` rule is "applied or annotated" -/
theorem framed_of {cfg : FmtCfg} (h : fmtCfg = some cfg) : cfg.framed = none := by
  obtain rfl : _ = cfg := Option.some.inj h
  rfl

theorem primsNonEmptyL_of : ∀ {xs : List Mich}, (∀ x ∈ xs, primsNonEmpty x = true) → primsNonEmptyL xs = true
  | [], _ => rfl
  | x :: _, h => by
    simp only [primsNonEmptyL, Bool.and_eq_true]
    exact ⟨h x List.mem_cons_self, primsNonEmptyL_of fun y hy => h y (List.mem_cons_of_mem x hy)⟩

theorem wf_primsNonEmpty (sp : LexSpec) (tags : List String) (e : Mich) (h : wfNode sp tags e = true) :
    primsNonEmpty e = true := by
  refine wfNode_induct sp tags (fun _ => rfl) (fun _ => rfl) (fun _ _ => rfl) (fun _ ih => primsNonEmptyL_of ih)
    (fun p args annots _ hp _ ih => ?_) e h
  simp only [primsNonEmpty, Bool.and_eq_true, Bool.not_eq_true']
  refine ⟨?_, primsNonEmptyL_of ih⟩
  cases hpl : p.toList with
  | nil => rw [hpl] at hp; simp [primLexes] at hp
  | cons _ _ => rfl

theorem wf_primsNonEmptyL (sp : LexSpec) (tags : List String) (xs : List Mich) (h : wfList sp tags xs = true) :
    primsNonEmptyL xs = true :=
  primsNonEmptyL_of fun x hx => wf_primsNonEmpty sp tags x (wfList_mem sp tags h x hx)

/-- the first token of the text of a root expression is not `(`: the root is never parenthesised, and the first
item of a script root is in item position -/
theorem toksNode_root_head (cfg : FmtCfg) (e : Mich) :
    ∃ t ts, toksNode cfg true false e = t :: ts ∧ t ≠ Tok.lparen := by
  obtain ⟨l, hne, heq, _⟩ := root_items cfg e
  rw [heq]
  match l, hne with
  | x :: xs, _ =>
    obtain ⟨t, ts, ht, _, _, hlp⟩ := toksNode_head cfg true x
    cases xs with
    | nil => exact ⟨t, ts, ht, hlp rfl⟩
    | cons y ys => exact ⟨t, ts ++ [.semi] ++ toksItems cfg (y :: ys), by simp [toksItems, ht], hlp rfl⟩

/-- a text that lexes to a stream not starting with `(` is left alone by `MichelsonParser.parse` -/
theorem stripParens_of_lex {sp : LexSpec} (ok : SpecOK sp) (s : List Char) (t : Tok) (ts : List Tok)
    (hl : lexWith sp s = some (t :: ts)) (ht : t ≠ Tok.lparen) : stripParens s = s := by
  unfold stripParens
  split
  · rename_i rest
    rw [show lexWith sp ('(' :: rest) = _ from lex_punct ok '(' .lparen (by decide) rest] at hl
    cases hr : lexWith sp rest with
    | none => rw [hr] at hl; cases hl
    | some r => rw [hr] at hl; simp at hl; exact absurd hl.1.symm ht
  · rfl

end Impl.Text
