import PytezosModel.Michelson.Interp.Impl
import PytezosModel.Michelson.Interp.Spec
import PytezosModel.Proofs.InterpTables
import PytezosModel.Proofs.C16Impl
/-! Python's integer operations used by `arithmetic.py` / `boolean.py` against the arithmetic of the reference:
floor `divmod` + adjustment = Euclidean division; `<<` / `>>` = multiplication / division by a power of two;
two's complement `&`, `|`, `^` on the operand classes of the dispatch tables. -/
namespace Interp

/-- `divmod` floors; adding `abs(b)` to a negative remainder (and one to the quotient) gives Euclidean division -/
theorem pyEdiv_eq (a b : Int) (hb : b ≠ 0) : Impl.pyEdiv a b = (a / b, a % b) := by
  rw [← PyNum.divmod_euclid a b hb, _root_.Impl.Arith.abs_eq_natAbs]
  rfl

theorem pyAnd_nat (x y : Int) (hx : 0 ≤ x) (hy : 0 ≤ y) : Impl.pyAnd x y = Int.ofNat (x.toNat &&& y.toNat) := by
  obtain ⟨m, rfl⟩ := Int.eq_ofNat_of_zero_le hx
  obtain ⟨n, rfl⟩ := Int.eq_ofNat_of_zero_le hy
  rfl

theorem pyOr_nat (x y : Int) (hx : 0 ≤ x) (hy : 0 ≤ y) : Impl.pyOr x y = Int.ofNat (x.toNat ||| y.toNat) := by
  obtain ⟨m, rfl⟩ := Int.eq_ofNat_of_zero_le hx
  obtain ⟨n, rfl⟩ := Int.eq_ofNat_of_zero_le hy
  rfl

theorem pyXor_nat (x y : Int) (hx : 0 ≤ x) (hy : 0 ≤ y) : Impl.pyXor x y = Int.ofNat (x.toNat ^^^ y.toNat) := by
  obtain ⟨m, rfl⟩ := Int.eq_ofNat_of_zero_le hx
  obtain ⟨n, rfl⟩ := Int.eq_ofNat_of_zero_le hy
  rfl

theorem pyAnd_int_nat (x y : Int) (hy : 0 ≤ y) : Impl.pyAnd x y = Int.ofNat (Spec.andIntNat x y.toNat) := by
  obtain ⟨n, rfl⟩ := Int.eq_ofNat_of_zero_le hy
  cases x <;> rfl

theorem pyAnd_nat_int (x y : Int) (hx : 0 ≤ x) : Impl.pyAnd x y = Int.ofNat (Spec.andIntNat y x.toNat) := by
  obtain ⟨m, rfl⟩ := Int.eq_ofNat_of_zero_le hx
  cases y <;> simp [Impl.pyAnd, Spec.andIntNat, Nat.and_comm]

theorem natFromValue_ofNat (n : Nat) : Impl.numFromValue .nat (n : Int) = .ok (.num .nat (n : Int)) := by
  rw [numFromValue_eq]; simp [Spec.numOk]

theorem execShift_nat (sh : Int → Nat → Int) (x n : Int) :
    Impl.execShift sh (.num .nat x) (.num .nat n)
      = if n < 0 then .stuck else if n ≤ 256 then Spec.numOk .nat (sh x n.toNat) else .rtfail := by
  simp only [Impl.execShift, shiftLimit_eq, cast_257, numFromValue_eq]
  by_cases h0 : n < 0
  · rw [if_pos h0, if_pos (by omega), if_pos h0]
  · by_cases hc : n ≤ 256
    · rw [if_neg h0, if_pos hc, if_pos (by omega), if_neg h0]
    · rw [if_neg (by omega), if_neg h0, if_neg hc]

theorem execShift_lsl (x n : Int) (h : 0 ≤ n ∧ n ≤ 256) :
    Impl.execShift (fun x n => x <<< n) (.num .nat x) (.num .nat n) = Spec.numOk .nat (x * 2 ^ n.toNat) := by
  rw [execShift_nat, if_neg (Int.not_lt.2 h.1), if_pos h.2, Int.shiftLeft_eq]

end Interp
