import PytezosModel.Proofs.InterpUnpack
import PytezosModel.Proofs.MichelineRT
import PytezosModel.Proofs.InterpTyping
/-! `UNPACK t (PACK v) = Some v`: what PACK writes for a well-formed value of an unpackable type (whose strings are Michelson
strings), UNPACK reads back at that type — for the reference semantics and for the machine. -/
namespace Interp
open Core Typing

abbrev wfD (m : BMich) : Bool := BMich.WF Spec.knownPrim m
abbrev wfDL (ms : List BMich) : Bool := BMich.WFList Spec.knownPrim ms

theorem wfDL_iff (ms : List BMich) : wfDL ms = true ↔ ∀ m ∈ ms, wfD m = true := by
  induction ms <;> simp [wfDL, wfD, BMich.WFList, *]

theorem wf_closed : Closed (wfD · = true) :=
  ⟨fun _ => rfl, fun _ => rfl, fun _ => rfl,
    fun t _ ht _ h => by simp [wfD, BMich.WF, Spec.knownPrim, show t ≤ 158 by omega, (wfDL_iff _).mpr h],
    fun _ h => (wfDL_iff _).mpr h⟩

/-- the canonical optimized form uses known primitives only and no annotations -/
theorem optBoth_wf : ∀ (v : Val) (y : BMich × List BMich), Spec.optBoth v = some y → wfD y.1 = true ∧ wfDL y.2 = true :=
  fun v y h =>
    have c := wf_closed.opt.1 v y h
    ⟨c.1, (wfDL_iff _).mpr c.2.1⟩
theorem optimizedL_wf : ∀ (xs : List Val) (ys : List BMich), Spec.optimizedL xs = some ys → wfDL ys = true :=
  fun xs ys h => (wfDL_iff _).mpr (wf_closed.opt.2.2 xs ys h)
theorem optimizedE_wf : ∀ (xs : List Val) (ys : List BMich), Spec.optimizedE xs = some ys → wfDL ys = true :=
  fun xs ys h => (wfDL_iff _).mpr (wf_closed.opt.2.1 xs ys h)

/-- the strict decoder reads the reference encoding of a canonical optimized form back -/
theorem decode_encode (v : Val) (y : BMich × List BMich) (body : List Nat) (hy : Spec.optBoth v = some y)
    (he : Spec.encodeM y.1 = some body) : _root_.Spec.Micheline.decode Spec.knownPrim body = some y.1 :=
  Impl.Forge.decode_forge Spec.knownPrim y.1 (optBoth_wf v y hy).1 body ((forge_eq y.1 (optBoth_plain v y hy).1).trans he)

mutual
  /-- every string inside the value is a Michelson string (printable ASCII and newlines) -/
  def strOk : Val → Bool
    | .str s => s.all Spec.printable
    | .pair a b => strOk a && strOk b
    | .some v => strOk v
    | .left v _ => strOk v
    | .right _ v => strOk v
    | .list _ xs => strOks xs
    | .set _ xs => strOks xs
    | .map _ _ xs => strOks xs
    | _ => true
  def strOks : List Val → Bool
    | [] => true
    | x :: xs => strOk x && strOks xs
end

theorem isPairTy_false_of_ne {t : Ty} (h : ∀ l r, t ≠ .pair l r) : Spec.isPairTy t = false := by
  cases t <;> first | rfl | exact absurd rfl (h _ _)

theorem read_single {rt : List Nat → Option Int} {t : Ty} {m : BMich} {v : Val} (hp : Spec.isPairTy t = false)
    (h : Spec.readVal rt t m = some v) :
    Spec.readVal rt t (m, [m]).1 = some v ∧
    (Spec.isPairTy t = true → ∃ c1 c2 rest, (m, [m]).2 = c1 :: c2 :: rest ∧ Spec.readVal rt t (.prim 7 (m, [m]).2 none) = some v) ∧
    (Spec.isPairTy t = false → (m, [m]).2 = [(m, [m]).1]) :=
  ⟨h, fun e => Bool.noConfusion (hp ▸ e), fun _ => rfl⟩

/-- the three statements below together, by the rule induction of `Spec.optBoth` / `optimizedE` / `optimizedL` -/
theorem read_all (rt : List Nat → Option Int) (s : Bool) :
    (∀ (v : Val) (t : Ty) (y : BMich × List BMich),
      unpackable t = true → checkVal s v t = true → litOk v = true → strOk v = true → Spec.optBoth v = some y →
      Spec.readVal rt t y.1 = some v ∧
      (Spec.isPairTy t = true → ∃ c1 c2 rest, y.2 = c1 :: c2 :: rest ∧ Spec.readVal rt t (.prim 7 y.2 none) = some v) ∧
      (Spec.isPairTy t = false → y.2 = [y.1])) ∧
    (∀ (xs : List Val) (k w : Ty) (ys : List BMich),
      unpackable k = true → unpackable w = true → checkVals s xs (.pair k w) = true → litOks xs = true → strOks xs = true →
      Spec.optimizedE xs = some ys → Spec.readElts (Spec.readVal rt k) (Spec.readVal rt w) ys = some xs) ∧
    ∀ (xs : List Val) (t : Ty) (ys : List BMich),
      unpackable t = true → checkVals s xs t = true → litOks xs = true → strOks xs = true → Spec.optimizedL xs = some ys →
      Spec.readAll (Spec.readVal rt t) ys = some xs := by
  apply Spec.optBoth.mutual_induct
  case case1 =>
    intro a b x z hb ha iha ihb t y hu hc hl hs hy
    obtain rfl := checkVal_typeOf hc
    simp only [typeOf, checkVal, unpackable, litOk, strOk, Bool.and_eq_true] at hu hc hl hs
    rw [Spec.optBoth, ha, hb] at hy
    cases hy
    obtain ⟨ia, _, _⟩ := iha _ x hu.1 hc.1 hl.1 hs.1 ha
    obtain ⟨ib1, ib2, ib3⟩ := ihb _ z hu.2 hc.2 hl.2 hs.2 hb
    cases hp : Spec.isPairTy (typeOf b) with
    | true =>
      obtain ⟨c1, c2, rest, hz, hr⟩ := ib2 hp
      simp only [hz] at hr ⊢
      refine ⟨?_, fun _ => ⟨x.1, c1, c2 :: rest, rfl, by simp [typeOf, Spec.readVal, ia, hr, hp, Spec.mkPair]⟩, nofun⟩
      cases rest with
      | nil => simp [typeOf, Spec.combLayout, Spec.readVal, ia, hr, Spec.mkPair]
      | cons c3 rest' => simp [typeOf, Spec.combLayout, Spec.readVal, ia, hr, hp, Spec.mkPair]
    | false =>
      simp only [ib3 hp]
      exact ⟨by simp [typeOf, Spec.combLayout, Spec.readVal, ia, ib1, Spec.mkPair],
        fun _ => ⟨x.1, z.1, [], rfl, by simp [typeOf, Spec.readVal, ia, ib1, Spec.mkPair]⟩, nofun⟩
  case case3 | case4 | case5 | case8 | case10 =>
    all_goals
      intros
      rename_i hc _ _ hy
      obtain rfl := checkVal_typeOf hc
      cases hy
      exact read_single rfl rfl
  case case6 =>
    intro tt n t y hu hc hl hs hy
    obtain rfl := checkVal_typeOf hc
    cases hy
    cases tt <;> simp [typeOf, checkVal, unpackable] at hc hu <;> exact read_single rfl (by simp [typeOf, Spec.readVal, hc])
  case case7 =>
    intro st t y hu hc hl hs hy
    obtain rfl := checkVal_typeOf hc
    cases hy
    exact read_single rfl (by simp [typeOf, Spec.readVal, show st.all Spec.printable = true from hs])
  case case9 =>
    intro w ih t y hu hc hl hs hy
    obtain rfl := checkVal_typeOf hc
    simp only [typeOf, checkVal, unpackable, litOk, strOk] at hu hc hl hs
    simp only [Spec.optBoth] at hy
    obtain ⟨x, hw, rfl⟩ := Option.map_eq_some_iff.mp hy
    exact read_single rfl (by simp [typeOf, Spec.readVal, (ih _ x hu hc hl hs hw).1])
  case case11 =>
    intro w tr ih t y hu hc hl hs hy
    obtain rfl := checkVal_typeOf hc
    simp only [typeOf, checkVal, unpackable, litOk, strOk, Bool.and_eq_true] at hu hc hl hs
    simp only [Spec.optBoth] at hy
    obtain ⟨x, hw, rfl⟩ := Option.map_eq_some_iff.mp hy
    exact read_single rfl (by simp [typeOf, Spec.readVal, (ih _ x hu.1 hc.2 hl hs hw).1])
  case case12 =>
    intro tl w ih t y hu hc hl hs hy
    obtain rfl := checkVal_typeOf hc
    simp only [typeOf, checkVal, unpackable, litOk, strOk, Bool.and_eq_true] at hu hc hl hs
    simp only [Spec.optBoth] at hy
    obtain ⟨x, hw, rfl⟩ := Option.map_eq_some_iff.mp hy
    exact read_single rfl (by simp [typeOf, Spec.readVal, (ih _ x hu.2 hc.2 hl hs hw).1])
  case case13 =>
    intro te xs ih t y hu hc hl hs hy
    obtain rfl := checkVal_typeOf hc
    simp only [typeOf, checkVal, unpackable, litOk, strOk, Bool.and_eq_true] at hu hc hl hs
    simp only [Spec.optBoth] at hy
    obtain ⟨ys, hw, rfl⟩ := Option.map_eq_some_iff.mp hy
    exact read_single rfl (by simp [typeOf, Spec.readVal, ih _ ys hu hc.2 hl hs hw])
  case case14 =>
    intro te xs ih t y hu hc hl hs hy
    obtain rfl := checkVal_typeOf hc
    simp only [typeOf, checkVal, unpackable, litOk, strOk, goodSet, Bool.and_eq_true] at hu hc hl hs
    simp only [Spec.optBoth] at hy
    obtain ⟨ys, hw, rfl⟩ := Option.map_eq_some_iff.mp hy
    exact read_single rfl
      (by simp [typeOf, Spec.readVal, ih _ ys (simple_unpackable hu) hc.2 hl.2 hs hw, hl.1.2])
  case case15 =>
    intro ke ve xs ih t y hu hc hl hs hy
    obtain rfl := checkVal_typeOf hc
    simp only [typeOf, checkVal, unpackable, litOk, strOk, Bool.and_eq_true] at hu hc hl hs
    simp only [hu.1, Bool.not_true, Bool.false_or, goodMap, Bool.and_eq_true] at hl
    simp only [Spec.optBoth] at hy
    obtain ⟨ys, hw, rfl⟩ := Option.map_eq_some_iff.mp hy
    exact read_single rfl
      (by simp [typeOf, Spec.readVal, ih _ _ ys (simple_unpackable hu.1) hu.2 hc.2 hl.2 hs hw, hl.1.2])
  case case18 =>
    intro a b xs ya yb zs hr hb hx iha ihb ihr k w ys hk hw hc hl hs hy
    rw [Spec.optimizedE, hx, hb, hr] at hy
    cases hy
    simp only [checkVals, checkVal, litOks, litOk, strOks, strOk, Bool.and_eq_true] at hc hl hs
    simp [Spec.readElts, (iha k ya hk hc.1.1 hl.1.1 hs.1.1 hx).1,
      (ihb w yb hw hc.1.2 hl.1.2 hs.1.2 hb).1, ihr k w zs hk hw hc.2 hl.2 hs.2 hr, Spec.mkPair]
  case case22 =>
    intro x xs y zs hr hx ihx ihr t ys hu hc hl hs hy
    rw [Spec.optimizedL, hx, hr] at hy
    cases hy
    simp only [checkVals, litOks, strOks, Bool.and_eq_true] at hc hl hs
    simp only [Spec.readAll, (ihx t y hu hc.1 hl.1 hs.1 hx).1, ihr t zs hu hc.2 hl.2 hs.2 hr]
  case case17 | case21 =>
    all_goals
      intros
      rename_i hy
      cases hy
      rfl
  -- the clauses without canonical form: the hypothesis of the case puts `Spec.optBoth` (`optimizedE`, `optimizedL`) in it
  all_goals
    intros
    rename_i hy
    simp only [Spec.optBoth, Spec.optimizedE, Spec.optimizedL] at hy
    cases hy

/-- the canonical optimized form of a well-formed value is read back as that value — as it stands, and (for a pair) as the
n-ary `Pair` of its components -/
theorem read_opt (rt : List Nat → Option Int) (s : Bool) : ∀ (v : Val) (t : Ty) (y : BMich × List BMich),
    unpackable t = true → checkVal s v t = true → litOk v = true → strOk v = true → Spec.optBoth v = some y →
    Spec.readVal rt t y.1 = some v ∧
    (Spec.isPairTy t = true → ∃ c1 c2 rest, y.2 = c1 :: c2 :: rest ∧ Spec.readVal rt t (.prim 7 y.2 none) = some v) ∧
    (Spec.isPairTy t = false → y.2 = [y.1]) :=
  (read_all rt s).1
theorem read_optL (rt : List Nat → Option Int) (s : Bool) : ∀ (xs : List Val) (t : Ty) (ys : List BMich),
    unpackable t = true → checkVals s xs t = true → litOks xs = true → strOks xs = true → Spec.optimizedL xs = some ys →
    Spec.readAll (Spec.readVal rt t) ys = some xs :=
  (read_all rt s).2.2
theorem read_optE (rt : List Nat → Option Int) (s : Bool) : ∀ (xs : List Val) (k w : Ty) (ys : List BMich),
    unpackable k = true → unpackable w = true → checkVals s xs (.pair k w) = true → litOks xs = true → strOks xs = true →
    Spec.optimizedE xs = some ys → Spec.readElts (Spec.readVal rt k) (Spec.readVal rt w) ys = some xs :=
  (read_all rt s).2.1

/-- **`UNPACK t (PACK v) = Some v`**, reference semantics: for every unpackable type `t`, every well-formed value `v` of type `t`
(sorted collections, Michelson strings) and every environment, the bytes PACK answers for `v` are unpacked at `t` to `Some v` -/
theorem unpackV_packV (env : Env) (s : Bool) (v : Val) (t : Ty) (bs : List Nat)
    (hu : unpackable t = true) (hc : checkVal s v t = true) (hl : litOk v = true) (hs : strOk v = true)
    (hp : Spec.packV v = .ok (.bytes bs)) : Spec.unpackV env t (.bytes bs) = .ok (.some v) := by
  obtain ⟨hpk, y, hy⟩ := packV_ne_stuck (v := v) (by rw [hp]; nofun)
  rw [packV_of_some hpk hy] at hp
  cases he : Spec.encodeM y.1 with
  | none => rw [he] at hp; cases hp
  | some body =>
    rw [he] at hp
    cases hp
    simp [Spec.unpackV, hu, decode_encode v y body hy he, (read_opt env.readTimestamp s v t y hu hc hl hs hy).1]

theorem unpackable_packable {t : Ty} (hu : unpackable t = true) : packable t = true := by
  have simple : ∀ {k : Ty}, simpleComparable k = true → packable k = true := by
    intro k
    fun_cases simpleComparable k
    case case9 => nofun
    all_goals exact fun _ => rfl
  -- by the clauses of `unpackable`: the eight ground types last
  fun_induction unpackable t
  case case9 ih | case10 ih => exact ih hu
  case case11 => exact (simple hu :)
  case case12 iha ihb | case13 iha ihb =>
    rw [Bool.and_eq_true] at hu
    simp only [packable, iha hu.1, ihb hu.2, Bool.and_self]
  case case14 ih =>
    rw [Bool.and_eq_true] at hu
    simp only [packable, simple hu.1, ih hu.2, Bool.and_self]
  case case15 => cases hu
  all_goals rfl

/-- the same for the machine: what `PackInstruction` answers for `v`, `UnpackInstruction` turns back into `Some v` -/
theorem execUnpack_execPack (env : Env) (s : Bool) (v : Val) (t : Ty) (bs : List Nat)
    (hu : unpackable t = true) (hc : checkVal s v t = true) (hl : litOk v = true) (hs : strOk v = true)
    (hp : Impl.execPack v = .ok (.bytes bs)) : Impl.execUnpack env t (.bytes bs) = .ok (.some v) := by
  have hpk : packable t = true := unpackable_packable hu
  have hty : typeOf v = t := checkVal_typeOf hc
  obtain ⟨y, hy⟩ := Option.isSome_iff_exists.mp (optBoth_some s v t hc hpk)
  have hne : Spec.packV v ≠ .stuck := by
    rw [packV_of_some (hty ▸ hpk) hy]
    cases Spec.encodeM y.1 <;> nofun
  have h1 := execPack_eq v hne
  rw [hp] at h1
  have h2 := unpackV_packV env s v t bs hu hc hl hs h1.symm
  rw [execUnpack_eq env t (.bytes bs) (by rw [h2]; intro e; cases e), h2]

end Interp
