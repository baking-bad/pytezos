import PytezosModel.Micheline.Text
/-! C18: literals are read back — decimal integers, hex bytes, JSON strings (every `Char`); induction over the
expressions of the domain (`wfNode_induct`), which the lexing and the parsing proof both go by. -/
namespace Impl.Text

theorem digitVal_digitChar : ∀ d, d < 10 → digitVal? (digitChar d) = some d := by decide
theorem hexVal_hexChar : ∀ d, d < 16 → hexVal? (hexChar d) = some d := by decide
theorem digitChar_ne : ∀ d, d < 10 → digitChar d ≠ '-' ∧ digitChar d ≠ 'x' ∧ digitChar d ≠ '"' ∧ digitChar d ≠ '/' := by
  decide

theorem char_valid (c : Char) : c.toNat < 55296 ∨ (57343 < c.toNat ∧ c.toNat < 1114112) := by
  have h := c.valid
  simp only [UInt32.isValidChar, Nat.isValidChar] at h
  exact h

theorem char_eq_of_toNat {c : Char} {n : Nat} (h : c.toNat = n) : c = Char.ofNat n := by
  rw [← Char.ofNat_toNat c, h]

theorem takeWhile_append_stop {α : Type} {p : α → Bool} (l rest : List α) (hl : ∀ x ∈ l, p x = true)
    (hr : ∀ c cs, rest = c :: cs → p c = false) :
    (l ++ rest).takeWhile p = l ∧ (l ++ rest).dropWhile p = rest := by
  induction l with
  | nil =>
    cases rest with
    | nil => simp
    | cons c cs => simp [hr c cs rfl]
  | cons x l ih =>
    have hx := hl x (by simp)
    have := ih (fun y hy => hl y (by simp [hy]))
    simp [hx, this]

theorem decodeNatAux_append (acc : Nat) (xs ys : List Char) :
    decodeNatAux acc (xs ++ ys) = (decodeNatAux acc xs).bind fun a => decodeNatAux a ys := by
  induction xs generalizing acc with
  | nil => simp [decodeNatAux]
  | cons x xs ih =>
    simp only [List.cons_append, decodeNatAux]
    cases digitVal? x with
    | none => simp
    | some d => simp [ih]

theorem decodeNatAux_natRepr (n : Nat) : decodeNatAux 0 (natRepr n) = some n := by
  induction n using Nat.strongRecOn with
  | _ n ih =>
    rw [natRepr]
    split
    · rename_i h
      simp [decodeNatAux, digitVal_digitChar n h]
    · rename_i h
      rw [decodeNatAux_append, ih _ (Nat.div_lt_self (by omega) (by decide))]
      simp only [Option.bind_some, decodeNatAux, digitVal_digitChar _ (Nat.mod_lt n (by decide)), Option.some.injEq]
      exact Nat.div_add_mod' n 10

theorem natRepr_head (n : Nat) : ∃ d t, d < 10 ∧ natRepr n = digitChar d :: t := by
  induction n using Nat.strongRecOn with
  | _ n ih =>
    rw [natRepr]
    split
    · rename_i h; exact ⟨n, [], h, rfl⟩
    · rename_i h
      obtain ⟨d, t, hd, ht⟩ := ih (n / 10) (by omega)
      exact ⟨d, t ++ [digitChar (n % 10)], hd, by simp [ht]⟩

theorem decodeNat_natRepr (n : Nat) : decodeNat (natRepr n) = some n := by
  obtain ⟨d, t, _, ht⟩ := natRepr_head n
  unfold decodeNat
  rw [decodeNatAux_natRepr]
  simp [ht]

theorem decodeInt_intRepr (v : Int) : decodeInt (intRepr v) = some v := by
  cases v with
  | ofNat n =>
    obtain ⟨d, t, hd, ht⟩ := natRepr_head n
    have h := decodeNat_natRepr n
    rw [ht] at h
    simp [intRepr, ht, decodeInt, (digitChar_ne d hd).1, h]
  | negSucc n =>
    simp only [intRepr, decodeInt, decodeNat_natRepr]
    simp only [Option.bind_eq_bind, Option.bind_some, Option.pure_def, Option.map_some, Option.some.injEq]
    omega

theorem litInt_intRepr (v : Int) : litInt (intRepr v) = some (.int v) := by
  simp [litInt, decodeInt_intRepr]

theorem decodeHex_hexOf (b : List Nat) (h : b.all (· < 256) = true) : decodeHex (hexOf b) = some b := by
  induction b with
  | nil => simp [hexOf, decodeHex]
  | cons x xs ih =>
    simp only [List.all_cons, Bool.and_eq_true, decide_eq_true_eq] at h
    simp only [hexOf, decodeHex, hexVal_hexChar _ (Nat.div_lt_of_lt_mul (show x < 16 * 16 from h.1)),
      hexVal_hexChar _ (Nat.mod_lt x (by decide)), ih h.2]
    simp only [Option.bind_eq_bind, Option.bind_some, Option.pure_def, Option.some.injEq, List.cons.injEq, and_true]
    exact Nat.div_add_mod' x 16

theorem litBytes_hexOf (b : List Nat) (h : b.all (· < 256) = true) :
    litBytes ('0' :: 'x' :: hexOf b) = some (.bytes b) := by
  simp [litBytes, decodeHex_hexOf b h]

def Reads {γ : Type} (f : List Char → Option (List γ × List Char)) (w : List Char) (x : List γ) : Prop :=
  ∀ tail, f (w ++ tail) = (f tail).map fun (y, r) => (x ++ y, r)

section
variable {γ : Type} {f : List Char → Option (List γ × List Char)}

theorem Reads.nil : Reads f [] [] := by
  intro tail
  cases h : f tail <;> simp [h]

theorem Reads.append {w₁ w₂ x₁ x₂} (h₁ : Reads f w₁ x₁) (h₂ : Reads f w₂ x₂) : Reads f (w₁ ++ w₂) (x₁ ++ x₂) := by
  intro tail
  rw [List.append_assoc, h₁, h₂]
  cases f tail with
  | none => rfl
  | some p => simp only [Option.map_some, List.append_assoc]

end

/-- UTF-16 units of a character -/
def charUnits (c : Char) : List Nat :=
  if c.toNat < 65536 then [c.toNat] else [55296 + (c.toNat - 65536) / 1024, 56320 + (c.toNat - 65536) % 1024]

/-- the two-character escapes `py_encode_basestring_ascii` writes (`ESCAPE_DCT`), each with the code it stands for -/
def shortEscapes : List (Char × Nat) := [('"', 34), ('\\', 92), ('n', 10), ('r', 13), ('t', 9), ('b', 8), ('f', 12)]

/-- the pieces the body of a `json.dumps` text is made of, with the UTF-16 units they stand for -/
inductive Escaped : List Char → List Nat → Prop
  | nil : Escaped [] []
  | short (p : Char × Nat) : p ∈ shortEscapes → Escaped ['\\', p.1] [p.2]
  | plain (c : Char) : c ≠ '"' → c ≠ '\\' → 32 ≤ c.toNat → Escaped [c] [c.toNat]
  | u4 (n : Nat) : n < 65536 → Escaped (u4 n) [n]
  | append {w₁ w₂ u₁ u₂} : Escaped w₁ u₁ → Escaped w₂ u₂ → Escaped (w₁ ++ w₂) (u₁ ++ u₂)

theorem escaped_escapeChar (c : Char) : Escaped (escapeChar c) (charUnits c) := by
  by_cases hs : ∃ p ∈ shortEscapes, c.toNat = p.2
  · -- one of the seven table rows: `escapeChar` is evaluated on each
    obtain ⟨p, hp, hc⟩ := hs
    have row : escapeChar (Char.ofNat p.2) = ['\\', p.1] ∧ p.2 < 65536 :=
      (by decide : ∀ p ∈ shortEscapes, escapeChar (Char.ofNat p.2) = ['\\', p.1] ∧ p.2 < 65536) p hp
    rw [char_eq_of_toNat hc, row.1, ← char_eq_of_toNat hc, charUnits, if_pos (by omega), hc]
    exact .short p hp
  · have hn : ∀ p ∈ shortEscapes, c.toNat ≠ p.2 := fun p hp hc => hs ⟨p, hp, hc⟩
    simp only [shortEscapes, List.forall_mem_cons, List.not_mem_nil, false_imp_iff, implies_true, and_true] at hn
    obtain ⟨h1, h2, h3, h4, h5, h6, h7⟩ := hn
    have hq : c ≠ '"' := fun e => h1 (congrArg Char.toNat e)
    have hb : c ≠ '\\' := fun e => h2 (congrArg Char.toNat e)
    unfold escapeChar
    dsimp only
    rw [if_neg hq, if_neg hb, if_neg h3, if_neg h4, if_neg h5, if_neg h6, if_neg h7, charUnits]
    by_cases h8 : 32 ≤ c.toNat ∧ c.toNat ≤ 126
    · rw [if_pos h8, if_pos (by omega)]; exact .plain c hq hb h8.1
    rw [if_neg h8]
    by_cases h9 : c.toNat < 65536
    · rw [if_pos h9, if_pos h9]; exact .u4 _ h9
    · have hv := char_valid c
      rw [if_neg h9, if_neg h9]
      exact .append (.u4 _ (by omega)) (.u4 _ (by omega))

theorem escaped_dumps (s : List Char) : Escaped (s.flatMap escapeChar) (s.flatMap charUnits) := by
  induction s with
  | nil => exact .nil
  | cons c s ih => exact .append (escaped_escapeChar c) ih

theorem reads_loadsUnits {w us} (h : Escaped w us) : Reads loadsUnits w us := by
  induction h with
  | nil => exact .nil
  | short p hp =>
    intro tail
    rw [loadsUnits.eq_def]
    simp only [shortEscapes, List.mem_cons, List.not_mem_nil, or_false] at hp
    rcases hp with rfl | rfl | rfl | rfl | rfl | rfl | rfl <;> rfl
  | plain c hq hb h =>
    intro tail
    rw [List.singleton_append, loadsUnits.eq_def]
    dsimp only
    rw [if_neg hq, if_neg hb, if_neg (by omega)]
    rfl
  | u4 n h =>
    intro tail
    have hv : ((n / 4096 % 16 * 16 + n / 256 % 16) * 16 + n / 16 % 16) * 16 + n % 16 = n := by omega
    simp only [u4, List.cons_append, List.nil_append]
    rw [loadsUnits.eq_def]
    have hex : ∀ m, hexVal? (hexChar (m % 16)) = some (m % 16) := fun m => hexVal_hexChar _ (Nat.mod_lt _ (by decide))
    simp only [hex]
    cases loadsUnits tail with
    | none => simp
    | some p => simp [hv]
  | append _ _ ih₁ ih₂ => exact ih₁.append ih₂

theorem unitsToChars_units (s : List Char) : unitsToChars (s.flatMap charUnits) = some s := by
  induction s with
  | nil => simp [unitsToChars]
  | cons c s ih =>
    have hv := char_valid c
    simp only [List.flatMap_cons, charUnits]
    split
    · rename_i h
      simp only [List.cons_append, List.nil_append]
      rw [unitsToChars.eq_def]
      have h1 : ¬ (55296 ≤ c.toNat ∧ c.toNat ≤ 56319) := by omega
      have h2 : ¬ (56320 ≤ c.toNat ∧ c.toNat ≤ 57343) := by omega
      simp [h1, h2, ih, Char.ofNat_toNat]
    · rename_i h
      simp only [List.cons_append, List.nil_append]
      rw [unitsToChars.eq_def]
      have h1 : 55296 ≤ 55296 + (c.toNat - 65536) / 1024 ∧ 55296 + (c.toNat - 65536) / 1024 ≤ 56319 := by omega
      have h2 : 56320 ≤ 56320 + (c.toNat - 65536) % 1024 ∧ 56320 + (c.toNat - 65536) % 1024 ≤ 57343 := by omega
      have h3 : 65536 + (55296 + (c.toNat - 65536) / 1024 - 55296) * 1024 + (56320 + (c.toNat - 65536) % 1024 - 56320)
          = c.toNat := by omega
      simp only [h1, h2, and_self, if_true, ih, Option.map_some, h3, Char.ofNat_toNat]

theorem jsonLoads_jsonDumps (s : List Char) : jsonLoads (jsonDumps s) = some s := by
  have hq : loadsUnits ['"'] = some ([], []) := by rw [loadsUnits.eq_def]; rfl
  have h := reads_loadsUnits (escaped_dumps s) ['"']
  simp only [hq, Option.map_some, List.append_nil] at h
  simp only [jsonDumps, jsonLoads, h, unitsToChars_units]

theorem litStr_jsonDumps (s : String) : litStr (jsonDumps s.toList) = some (.str s) := by
  simp [litStr, jsonLoads_jsonDumps]

section
variable (sp : LexSpec) (tags : List String)

theorem wfList_mem : ∀ {l}, wfList sp tags l = true → ∀ x ∈ l, wfNode sp tags x = true
  | [], _ => nofun
  | x :: xs, h => by
    simp only [wfList, Bool.and_eq_true] at h
    exact List.forall_mem_cons.2 ⟨h.1, wfList_mem h.2⟩

variable {P : Mich → Prop} (int : ∀ v, P (.int v)) (str : ∀ s, P (.str s))
  (bytes : ∀ b, b.all (· < 256) = true → P (.bytes b)) (seq : ∀ xs, (∀ x ∈ xs, P x) → P (.seq xs))
  (prim : ∀ p args annots, tags.contains p = true → primLexes sp p.toList = true →
    annots.all (fun a => annotLexes sp a.toList) = true → (∀ a ∈ args, P a) → P (.prim p args annots))
include int str bytes seq prim

mutual
  @[elab_as_elim] theorem wfNode_induct : ∀ e, wfNode sp tags e = true → P e
    | .int v, _ => int v
    | .str s, _ => str s
    | .bytes b, h => bytes b h
    | .seq xs, h => seq xs (wfList_induct xs h)
    | .prim p args annots, h => by
      simp only [wfNode, Bool.and_eq_true] at h
      exact prim p args annots h.1.1.1 h.1.1.2 h.1.2 (wfList_induct args h.2)
  theorem wfList_induct : ∀ l, wfList sp tags l = true → ∀ x ∈ l, P x
    | [], _ => nofun
    | x :: xs, h => by
      simp only [wfList, Bool.and_eq_true] at h
      exact List.forall_mem_cons.2 ⟨wfNode_induct x h.1, wfList_induct xs h.2⟩
end

end

end Impl.Text
