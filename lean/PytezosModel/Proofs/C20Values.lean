import PytezosModel.Proofs.C20Basic
/-! C20: facts about values.  Ticket-free values (`Closed`: what a duplicable or pushable class guarantees) serve the
conservation proof; `split` / `join`, the key / value lists of a map under `update`, and sets serve it and type
preservation alike. -/
namespace Impl.Tickets

/-- a consistent value that holds no ticket -/
def Closed (v : Val) : Prop := v.consistent = true ∧ (∀ k, ticketSum k v = 0) ∧ noZero v = true

theorem Closed.pair {l r : Val} (hl : Closed l) (hr : Closed r) : Closed (.pair l r) :=
  ⟨(Bool.and_eq_true _ _).mpr ⟨hl.1, hr.1⟩, fun k => by show ticketSum k l + ticketSum k r = 0; rw [hl.2.1 k, hr.2.1 k],
    (Bool.and_eq_true _ _).mpr ⟨hl.2.2, hr.2.2⟩⟩

mutual
  theorem closed_of_all (bad : List String) (hb : bad.contains "ticket" = true) :
      ∀ v : Val, v.consistent = true → v.typeOf.all bad = true → Closed v
    | .atom _, _, _ => ⟨rfl, fun _ => rfl, rfl⟩
    | .ticket cls _ ct _, hc, ha => by
      -- the class of a consistent ticket is a ticket class, which `bad` excludes
      simp only [Val.consistent, Bool.or_eq_true, beq_iff_eq] at hc
      have hb' : "ticket" ∈ bad := by simpa using hb
      rcases hc with rfl | rfl <;> simp [Val.typeOf, Ty.all, hb'] at ha
    -- below, `ha` is a conjunction `!bad.contains prim && (arguments)` by evaluation of `Ty.all` on the class
    | .pair l r, hc, ha =>
      have hc := (Bool.and_eq_true _ _).mp hc
      have ha := (Bool.and_eq_true _ _).mp ((Bool.and_eq_true _ _).mp ha).2
      (closed_of_all bad hb l hc.1 ha.1).pair (closed_of_all bad hb r hc.2 ha.2)
    | .none _, _, _ => ⟨rfl, fun _ => rfl, rfl⟩
    | .some v, hc, ha => closed_of_all bad hb v hc ((Bool.and_eq_true _ _).mp ha).2
    | .list t xs, hc, ha => ⟨hc, closed_of_all_list bad hb t xs hc ((Bool.and_eq_true _ _).mp ha).2⟩
    | .map big kt vt keys vals _, hc, ha =>
      have hv : vt.all bad = true := by
        cases big <;> exact ((Bool.and_eq_true _ _).mp ((Bool.and_eq_true _ _).mp ha).2).2
      ⟨hc, closed_of_all_list bad hb vt vals ((Bool.and_eq_true _ _).mp hc).2 hv⟩
    | .left v _, hc, ha => closed_of_all bad hb v hc ((Bool.and_eq_true _ _).mp ((Bool.and_eq_true _ _).mp ha).2).1
    | .right _ v, hc, ha => closed_of_all bad hb v hc ((Bool.and_eq_true _ _).mp ((Bool.and_eq_true _ _).mp ha).2).2
    | .set _ _, hc, _ => ⟨hc, fun _ => rfl, rfl⟩
    | .lam _ _ _, _, _ => ⟨rfl, fun _ => rfl, rfl⟩
  theorem closed_of_all_list (bad : List String) (hb : bad.contains "ticket" = true) :
      ∀ (t : Ty) (xs : List Val), Val.consistentList t xs = true → t.all bad = true →
        (∀ k, ticketSumList k xs = 0) ∧ noZeroList xs = true
    | _, [], _, _ => ⟨fun _ => rfl, rfl⟩
    | t, x :: xs, hc, ha => by
      obtain ⟨hx, hc⟩ := (Bool.and_eq_true _ _).mp hc
      obtain ⟨hxt, hx⟩ := (Bool.and_eq_true _ _).mp hx
      obtain ⟨_, h1, h2⟩ := closed_of_all bad hb x hx (eq_of_beq hxt ▸ ha)
      obtain ⟨h3, h4⟩ := closed_of_all_list bad hb t xs hc ha
      exact ⟨fun k => by show ticketSum k x + ticketSumList k xs = 0; rw [h1 k, h3 k], (Bool.and_eq_true _ _).mpr ⟨h2, h4⟩⟩
end

theorem all_free_list (bad : List String) (hb : bad.contains "ticket" = true) :
      ∀ (t : Ty) (xs : List Val), Val.consistentList t xs = true → t.all bad = true → ∀ k, ticketSumList k xs = 0 :=
  fun t xs hc ha => (closed_of_all_list bad hb t xs hc ha).1

theorem pushable_noZeroList (bad : List String) (hb : bad.contains "ticket" = true) :
      ∀ (t : Ty) (xs : List Val), Val.consistentList t xs = true → t.all bad = true → noZeroList xs = true :=
  fun t xs hc ha => (closed_of_all_list bad hb t xs hc ha).2

theorem cmp_toVal_closed : ∀ c : Cmp, Closed c.toVal
  | .atom _ => ⟨rfl, fun _ => rfl, rfl⟩
  | .pair l r => (cmp_toVal_closed l).pair (cmp_toVal_closed r)

theorem toCmp_ty (v : Val) (c : Cmp) (h : v.toCmp = some c) : v.typeOf = c.ty := by
  fun_induction Val.toCmp v generalizing c with
  | case1 a => cases h; rfl
  | case2 l r a b hr hl ihl ihr => cases h; exact congr (congrArg Ty.pair (ihl a hl)) (ihr b hr)
  | case3 | case4 => cases h

theorem split_eq (c : Cfg) (cls : Ty) (tk : String) (ct : Cmp) (A a b : Nat) :
    split c cls tk ct A a b
      = if a + b = A ∧ (c.splitRejectsZero = true → 0 < a ∧ 0 < b) then
          some (.ticket (if c.splitKeeps then cls else .ticketBare) tk ct a,
            .ticket (if c.splitKeeps then cls else .ticketBare) tk ct b)
        else none := by
  have key : (a + b != A || (c.splitRejectsZero && (a == 0 || b == 0))) = true
      ↔ ¬ (a + b = A ∧ (c.splitRejectsZero = true → 0 < a ∧ 0 < b)) := by
    cases c.splitRejectsZero <;> simp <;> omega
  unfold split
  by_cases h : a + b = A ∧ (c.splitRejectsZero = true → 0 < a ∧ 0 < b)
  · rw [if_pos h, if_neg (fun hc => key.mp hc h)]
  · rw [if_neg h, if_pos (key.mpr h)]

theorem join_eq (c : Cfg) (cls : Ty) (tk1 : String) (c1 : Cmp) (a1 : Nat) (tk2 : String) (c2 : Cmp) (a2 : Nat) :
    join c cls tk1 c1 a1 tk2 c2 a2
      = if tk1 = tk2 ∧ c1 = c2 then some (.ticket (if c.joinKeeps then cls else .ticketBare) tk1 c1 (a1 + a2)) else none := by
  have key : (tk1 != tk2 || c1 != c2) = true ↔ ¬ (tk1 = tk2 ∧ c1 = c2) := by
    simp only [Bool.or_eq_true, bne_iff_ne, ne_eq]
    exact Decidable.not_and_iff_not_or_not.symm
  unfold join
  by_cases h : tk1 = tk2 ∧ c1 = c2
  · rw [if_pos h, if_neg (fun hc => key.mp hc h)]
  · rw [if_neg h, if_pos (key.mpr h)]

theorem split_some {c : Cfg} {cls : Ty} {tk : String} {ct : Cmp} {A a b : Nat} {l r : Val}
    (h : split c cls tk ct A a b = some (l, r)) :
    a + b = A ∧ (c.splitRejectsZero = true → 0 < a ∧ 0 < b)
      ∧ l = .ticket (if c.splitKeeps then cls else .ticketBare) tk ct a
      ∧ r = .ticket (if c.splitKeeps then cls else .ticketBare) tk ct b := by
  obtain ⟨hc, h⟩ := guard_some (split_eq .. ▸ h)
  cases h
  exact ⟨hc.1, hc.2, rfl, rfl⟩

theorem join_some {c : Cfg} {cls : Ty} {tk1 tk2 : String} {c1 c2 : Cmp} {a1 a2 : Nat} {r : Val}
    (h : join c cls tk1 c1 a1 tk2 c2 a2 = some r) :
    tk1 = tk2 ∧ c1 = c2 ∧ r = .ticket (if c.joinKeeps then cls else .ticketBare) tk1 c1 (a1 + a2) := by
  obtain ⟨hc, h⟩ := guard_some (join_eq .. ▸ h)
  exact ⟨hc.1, hc.2, h.symm⟩

theorem ticket_class_consistent {cls : Ty} {tk tk' : String} {ct : Cmp} {a a' : Nat} (b : Bool)
    (h : (Val.ticket cls tk ct a).consistent = true) :
    (Val.ticket (if b then cls else .ticketBare) tk' ct a').consistent = true := by
  cases b
  · rfl
  · exact h

theorem nodupB_iff : ∀ ks : List Atom, nodupB ks = true ↔ ks.Nodup
  | [] => by simp [nodupB]
  | k :: ks => by simp [nodupB, nodupB_iff ks, List.nodup_cons]

theorem lookup_mem {key : Atom} {keys : List Atom} {vals : List Val} {v : Val} (h : lookup key keys vals = some v) :
    v ∈ vals := by
  fun_induction lookup key keys vals with
  | case1 k ks x xs hk => cases h; exact List.mem_cons_self
  | case2 k ks x xs hk ih => exact List.mem_cons_of_mem _ (ih h)
  | case3 => cases h

theorem lookup_none_not_mem {key : Atom} {keys : List Atom} {vals : List Val} (hl : keys.length = vals.length)
    (h : lookup key keys vals = none) : key ∉ keys := by
  fun_induction lookup key keys vals with
  | case1 => cases h
  | case2 k ks x xs hk ih =>
    rw [List.mem_cons, not_or]
    exact ⟨fun e => hk (beq_iff_eq.mpr e.symm), ih (Nat.succ.inj hl) h⟩
  | case3 ks vs hne =>
    cases ks with
    | nil => exact List.not_mem_nil
    | cons k ks => cases vs with
      | nil => cases hl
      | cons v vs => exact (hne k ks v vs rfl rfl).elim
theorem replaceVal_absent (key : Atom) (x : Val) : ∀ (ks : List Atom) (vs : List Val), key ∉ ks → ks.length = vs.length →
    replaceVal key x ks vs = vs
  | [], [], _, _ => rfl
  | [], _ :: _, _, hl | _ :: _, [], _, hl => nomatch hl
  | a :: as, b :: bs, hc, hl => by
    rw [List.mem_cons, not_or] at hc
    have hne : (a != key) = true := bne_iff_ne.mpr fun e => hc.1 e.symm
    simp only [replaceVal, hne, if_true, replaceVal_absent key x as bs hc.2 (Nat.succ.inj hl)]

theorem replaceVal_spec (key : Atom) (x : Val) : ∀ (keys : List Atom) (vals : List Val) (p : Val),
    keys.length = vals.length → keys.Nodup → lookup key keys vals = some p →
    ∃ as bs, vals = as ++ p :: bs ∧ replaceVal key x keys vals = as ++ x :: bs
  | [], _, _, _, _, h | _ :: _, [], _, _, _, h => nomatch h
  | k :: ks, v :: vs, p, hl, hn, h => by
    rw [List.nodup_cons] at hn
    simp only [lookup] at h
    by_cases hk : k = key
    · subst hk
      simp only [beq_self_eq_true, if_true, Option.some.injEq] at h
      subst h
      refine ⟨[], vs, rfl, ?_⟩
      simp [replaceVal, replaceVal_absent k x ks vs hn.1 (Nat.succ.inj hl)]
    · simp only [beq_iff_eq, hk, if_false] at h
      obtain ⟨as, bs, rfl, e⟩ := replaceVal_spec key x ks vs p (Nat.succ.inj hl) hn.2 h
      exact ⟨v :: as, bs, rfl, by simp [replaceVal, hk, e]⟩

theorem LS_sublist (k : TKey) {xs ys : List Val} (h : xs.Sublist ys) : LS k xs ≤ LS k ys := by
  induction h with
  | slnil => exact Nat.le_refl _
  | cons x _ ih => rw [LS_cons]; omega
  | cons_cons x _ ih => rw [LS_cons, LS_cons]; omega

theorem removeKey_spec (key : Atom) : ∀ (keys : List Atom) (vals : List Val), keys.length = vals.length →
    (removeKey key keys vals).1.Sublist keys ∧ (removeKey key keys vals).2.Sublist vals
      ∧ (removeKey key keys vals).1.length = (removeKey key keys vals).2.length
      ∧ ∀ k' p, lookup key keys vals = some p → LS k' (removeKey key keys vals).2 + ticketSum k' p ≤ LS k' vals
  | [], _, _ => ⟨.slnil, List.nil_sublist _, rfl, fun _ _ h => nomatch h⟩
  | _ :: _, [], hl => nomatch hl
  | k :: ks, v :: vs, hl => by
    obtain ⟨i1, i2, i3, i4⟩ := removeKey_spec key ks vs (Nat.succ.inj hl)
    by_cases hk : k = key
    · subst hk
      simp only [removeKey, bne_self_eq_false, Bool.false_eq_true, if_false, lookup, beq_self_eq_true, if_true,
        Option.some.injEq, LS_cons]
      refine ⟨i1.cons _, i2.cons _, i3, fun k' p hp => ?_⟩
      have := LS_sublist k' i2
      subst hp; omega
    · have hne : (k != key) = true := bne_iff_ne.mpr hk
      simp only [removeKey, hne, if_true, lookup, beq_iff_eq, hk, if_false, LS_cons, List.length_cons]
      refine ⟨i1.cons_cons _, i2.cons_cons _, congrArg _ i3, fun k' p hp => ?_⟩
      have := i4 k' p hp; omega

theorem insertSorted_spec (key : Atom) (x : Val) : ∀ (keys : List Atom) (vals : List Val), keys.length = vals.length →
    (insertSorted key x keys vals).1.Perm (key :: keys) ∧ (insertSorted key x keys vals).2.Perm (x :: vals)
  | [], [], _ => ⟨.refl _, .refl _⟩
  | [], _ :: _, hl | _ :: _, [], hl => nomatch hl
  | k :: ks, v :: vs, hl => by
    by_cases hlt : key.lt k = true
    · simp only [insertSorted, hlt, if_true]
      exact ⟨.refl _, .refl _⟩
    · obtain ⟨i1, i2⟩ := insertSorted_spec key x ks vs (Nat.succ.inj hl)
      simp only [insertSorted, hlt, Bool.false_eq_true, if_false]
      exact ⟨(i1.cons k).trans (.swap _ _ _), (i2.cons v).trans (.swap _ _ _)⟩

theorem mapGet_some {c : Cfg} {big : Bool} {kt vt : Ty} {keys : List Atom} {vals : List Val} {removed : List Atom}
    {key : Val} {dup : Bool} {r : Option Val} (h : mapGet c big kt vt keys vals removed key dup = .ok r) :
    ∃ k, key = .atom k ∧ k.ty = kt ∧ lookup k keys vals = r := by
  obtain ⟨hk, h⟩ := guard_ok h
  obtain ⟨_, h⟩ := guard_ok h
  cases key with
  | atom k =>
    refine ⟨k, rfl, by simpa [Val.typeOf] using hk, ?_⟩
    dsimp only at h
    cases hl : lookup k keys vals <;> rw [hl] at h <;> cases h <;> rfl
  | _ => cases h

/-- what `optOf` accepts is the option value of what it answers -/
theorem optOf_some {val : Val} {ov : Option Val} (h : optOf val = some ov) : ∃ t, val = optVal t ov := by
  unfold optOf at h
  split at h <;> cases h
  · exact ⟨_, rfl⟩
  · exact ⟨.unit, rfl⟩

def optSum (k : TKey) : Option Val → Nat
  | some v => ticketSum k v
  | none => 0

/-- where the keys and values of the result come from is what type preservation needs; the sums (what left `vals` is in
`prev`, what entered is `ov`) are what conservation needs -/
theorem mapUpdate_spec {c : Cfg} {big : Bool} {kt vt : Ty} {keys : List Atom} {vals : List Val} {removed : List Atom}
    {key : Val} {ov prev : Option Val} {dst : Val}
    (h : mapUpdate c big kt vt keys vals removed key ov = .ok (prev, dst)) (hl : keys.length = vals.length)
    (hn : keys.Nodup) :
    (∀ p, prev = some p → p ∈ vals) ∧ ∃ ks vs rm, dst = .map big kt vt ks vs rm ∧ ks.length = vs.length ∧ ks.Nodup
      ∧ (∀ a ∈ ks, (a.ty = kt ∧ ov.isSome) ∨ a ∈ keys) ∧ (∀ v ∈ vs, ov = some v ∨ v ∈ vals)
      ∧ ∀ k, optSum k prev + LS k vs ≤ LS k vals + optSum k ov := by
  obtain ⟨pv, hg, h⟩ := bind_ok h
  obtain ⟨k, rfl, hkt, hlk⟩ := mapGet_some hg
  subst hlk
  cases hlk : lookup k keys vals with
  | some p =>
    have hp : ∀ q, some p = some q → q ∈ vals := fun _ e => Option.some.inj e ▸ lookup_mem hlk
    simp only [hlk] at h
    cases ov with
    | some x =>
      cases h
      obtain ⟨as, bs, rfl, e⟩ := replaceVal_spec k x keys _ p hl hn hlk
      refine ⟨hp, _, _, _, rfl, by rw [e, hl]; simp, hn, fun a ha => .inr ha, fun v hv => ?_, fun k' => ?_⟩
      · rw [e, List.mem_append, List.mem_cons] at hv
        rw [List.mem_append, List.mem_cons]
        rcases hv with hv | rfl | hv
        · exact .inr (.inl hv)
        · exact .inl rfl
        · exact .inr (.inr (.inr hv))
      · simp only [e, LS_append, LS_cons, optSum]; omega
    | none =>
      simp only [pure, Except.pure, Except.ok.injEq, Prod.mk.injEq] at h
      obtain ⟨rfl, rfl⟩ := h
      obtain ⟨r1, r2, r3, r4⟩ := removeKey_spec k keys vals hl
      refine ⟨hp, _, _, _, rfl, r3, hn.sublist r1, fun a ha => .inr (r1.subset ha), fun v hv => .inr (r2.subset hv),
        fun k' => ?_⟩
      have := r4 k' p hlk
      simp only [optSum]; omega
  | none =>
    simp only [hlk] at h
    cases ov with
    | some x =>
      simp only [pure, Except.pure, Except.ok.injEq, Prod.mk.injEq] at h
      obtain ⟨rfl, rfl⟩ := h
      obtain ⟨r1, r2⟩ := insertSorted_spec k x keys vals hl
      refine ⟨nofun, _, _, _, rfl, by rw [r1.length_eq, r2.length_eq, List.length_cons, List.length_cons, hl],
        r1.nodup_iff.mpr (List.nodup_cons.mpr ⟨lookup_none_not_mem hl hlk, hn⟩), fun a ha => ?_, fun v hv => ?_,
        fun k' => ?_⟩
      · rcases List.mem_cons.mp (r1.mem_iff.mp ha) with rfl | ha
        · exact .inl ⟨hkt, rfl⟩
        · exact .inr ha
      · rcases List.mem_cons.mp (r2.mem_iff.mp hv) with rfl | hv
        · exact .inl rfl
        · exact .inr hv
      · rw [LS_perm k' r2, LS_cons]; simp only [optSum]; omega
    | none =>
      cases h
      exact ⟨nofun, _, _, _, rfl, hl, hn, fun a ha => .inr ha, fun v hv => .inr hv, fun k' => Nat.le_of_eq (Nat.add_comm _ _)⟩

theorem insertAtom_perm (k : Atom) : ∀ xs : List Atom, (insertAtom k xs).Perm (k :: xs)
  | [] => .refl _
  | x :: xs => by
    simp only [insertAtom]
    split
    · exact .refl _
    · exact ((insertAtom_perm k xs).cons x).trans (.swap k x xs)

theorem setAdd_nodup {k : Atom} {xs : List Atom} (h : xs.Nodup) : (setAdd k xs).Nodup := by
  unfold setAdd
  split
  · exact h
  · rename_i hc
    exact (insertAtom_perm k xs).nodup_iff.mpr (List.nodup_cons.mpr ⟨by simpa using hc, h⟩)

theorem setAdd_mem {k a : Atom} {xs : List Atom} (h : a ∈ setAdd k xs) : a = k ∨ a ∈ xs := by
  unfold setAdd at h
  split at h
  · exact .inr h
  · exact List.mem_cons.mp ((insertAtom_perm k xs).mem_iff.mp h)

end Impl.Tickets
