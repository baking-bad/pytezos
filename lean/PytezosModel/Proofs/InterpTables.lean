import PytezosModel.Michelson.Interp.Impl
import PytezosModel.Michelson.Interp.Spec
import PytezosModel.Proofs.InterpDispatch
/-! The tables and numbers `Impl` reads from the source (`Generated.C01`, regenerated by translator/c01.py on every run)
against the reference (`Spec` / `Typing`).

Every theorem here is a finite check of ONE extracted table or number; the refinement proof (`Proofs/InterpStep.lean` …
`exec_refines_spec`) uses the mirror's tables only through these equalities.  Editing a `dispatch_types` mapping, the shift bound, a `from_value` guard, `count >= 2`, `count - 2` or
a stack index in the source changes `Generated.C01`, hence `Impl`, and the corresponding theorem below stops closing —
that obligation, and nothing else in this file, is re-opened. -/
namespace Interp
open Generated.C01 (Conv)

/-- `assert int(b) < 257` in `execute_shift`: a shift by at most 256 bits -/
theorem shiftLimit_eq : Generated.C01.shiftLimit = some 257 := by decide

theorem cast_257 : ((257 : Nat) : Int) = 257 := rfl

/-- `assert count >= 2` in `PairnInstruction` -/
theorem pairnMin_eq : Generated.C01.pairnMin = some 2 := by decide

/-- `assert count >= 2` in `UnpairnInstruction` -/
theorem unpairnMin_eq : Generated.C01.unpairnMin = some 2 := by decide

/-- `pair.unpairn_comb(count - 2)` -/
theorem unpairnCombOffset_eq : Generated.C01.unpairnCombOffset = some 2 := by decide

/-- `MichelsonStack.push`: `self.items.insert(self.protected, item)` -/
theorem pushIndex_eq : Generated.C01.pushIndex = some .atProtected := by decide

/-- `MichelsonStack.pop`: `self.items.pop(self.protected)` -/
theorem popIndex_eq : Generated.C01.popIndex = some .atProtected := by decide

/-- `MichelsonStack.peek`: `self.items[self.protected]` -/
theorem peekIndex_eq : Generated.C01.peekIndex = some .atProtected := by decide

/-- the `from_value` guards of `int` / `nat` / `mutez` / `timestamp` (`assert value >= 0`, `value.bit_length() > 63`) are
the ranges of the reference: `nat` holds a natural number, `mutez` a natural number below `2^63` -/
theorem numFromValue_eq : Impl.numFromValue = Spec.numOk := by
  funext t v
  cases t <;> try rfl
  · -- nat
    show (if [Generated.C01.Guard.assertNonneg].all (Impl.guardOk v) then _ else _) = _
    simp [Impl.guardOk, Spec.numOk]
  · -- mutez
    show (if [Generated.C01.Guard.assertNonneg, .overflowIfBitsGt 63].all (Impl.guardOk v) then _ else _) = _
    have h : (0 ≤ v ∧ -(2 ^ 63) < v ∧ v < 2 ^ 63) ↔ (0 ≤ v ∧ v < 2 ^ 63) := by omega
    simp only [List.all_cons, List.all_nil, Impl.guardOk, Bool.and_true, Spec.numOk, Bool.and_eq_true, decide_eq_true_eq, h]

/-! `dispatch_types` tables.  A first operand whose class heads no row of the mapping (`Proofs/InterpDispatch.lean`) has no rule in the reference either,
whatever the second operand is; only for the classes that head a row is the second operand split. -/

theorem addTy_eq : Impl.addTy = Spec.addTy := by
  funext a b
  cases a
  case int | nat | mutez | timestamp => all_goals cases b <;> rfl
  all_goals exact dispatch1_noRow _ _ _ rfl
theorem subTy_eq : Impl.subTy = Spec.subTy := by
  funext a b
  cases a
  case int | nat | mutez | timestamp => all_goals cases b <;> rfl
  all_goals exact dispatch1_noRow _ _ _ rfl
theorem mulTy_eq : Impl.mulTy = Spec.mulTy := by
  funext a b
  cases a
  case int | nat | mutez | timestamp => all_goals cases b <;> rfl
  all_goals exact dispatch1_noRow _ _ _ rfl
theorem edivTy_eq : Impl.edivTy = Spec.edivTy := by
  funext a b
  cases a
  case int | nat | mutez | timestamp => all_goals cases b <;> rfl
  all_goals
    unfold Impl.edivTy
    rw [show Generated.C01.edivTable = some _ from rfl, dispatch_noRow _ _ _ rfl]
    rfl

/-- result class of a one-slot typing rule -/
def ruleTy1 (i : Instr) (args : List Ty) : Option Ty :=
  match Typing.step i args with
  | some (.ok [t]) => some t
  | _ => none

/-- NEG: the table has the rows of the typing rule (`int → int`, `nat → int`) -/
theorem negTy_eq (a : Ty) : Impl.negTy a = ruleTy1 .NEG [a] := by cases a <;> rfl

/-- AND: the result classes are those of the typing rule; the converter is `bool` on the boolean row, `int` on the others -/
theorem andRow_eq (a b : Ty) :
    Impl.convRow Generated.C01.andTable [a, b] = (Typing.andTy a b).map fun t => (t, if t = Ty.bool then Conv.bool else Conv.int) := by
  cases a
  case bool | nat | int => all_goals cases b <;> rfl
  all_goals exact convRow_noRow _ _ _ rfl

/-- OR / XOR (`execute_boolean_add`) -/
theorem orRow_eq (a b : Ty) :
    Impl.convRow Generated.C01.boolAddTable [a, b] = (Typing.orTy a b).map fun t => (t, if t = Ty.bool then Conv.bool else Conv.int) := by
  cases a
  case bool | nat => all_goals cases b <;> rfl
  all_goals exact convRow_noRow _ _ _ rfl

/-- NOT: `bool → bool` by `not bool(x)`, `nat → int` and `int → int` by `~int(x)` -/
theorem notRow_eq (a : Ty) :
    Impl.convRow Generated.C01.notTable [a] = (ruleTy1 .NOT [a]).map fun t => (t, if t = Ty.bool then Conv.not else Conv.invert) := by
  cases a <;> rfl

/-- CONCAT on a list: lists of strings / of byte sequences, joined with the converter of their class -/
theorem concatListRow_eq (t : Ty) :
    Impl.convRow Generated.C01.concatListTable [t]
      = (ruleTy1 .CONCAT [.list t]).map fun r => (r, if r = Ty.string then Conv.str else Conv.bytes) := by
  cases t <;> rfl

/-- CONCAT on two operands: two strings / two byte sequences -/
theorem concatPairRow_eq (a b : Ty) :
    Impl.convRow Generated.C01.concatPairTable [a, b]
      = (match a with | .list _ => none | _ => ruleTy1 .CONCAT [a, b]).map fun r => (r, if r = Ty.string then Conv.str else Conv.bytes) := by
  cases a
  case string | bytes => all_goals cases b <;> rfl
  all_goals exact convRow_noRow _ _ _ rfl

/-- SIZE: the classes `assert_type_in` accepts are the types the typing rule accepts -/
theorem sizeClasses_eq (t : Ty) : Impl.classIn Generated.C01.sizeClasses t = (Typing.step .SIZE [t]).isSome := by
  cases t <;> rfl

/-- SLICE: offset and length are `nat`, the sliced value a string or a byte sequence -/
theorem sliceOffsetClass_eq (t : Ty) : Impl.classIn Generated.C01.sliceOffsetClass t = decide (t = .nat) := by
  cases t <;> rfl
theorem sliceLengthClass_eq (t : Ty) : Impl.classIn Generated.C01.sliceLengthClass t = decide (t = .nat) := by
  cases t <;> rfl
theorem sliceClasses_eq (t : Ty) : Impl.classIn Generated.C01.sliceClasses t = (Typing.step .SLICE [.nat, .nat, t]).isSome := by
  cases t <;> rfl

end Interp
