import PytezosModel.Proofs.C20Simple
/-! C20: every successful evaluation is a `Good` step — induction on the fuel, mutually over instructions, sequences,
the ITER loop and the MAP loop.  While a loop runs, the elements not yet pushed and the results already popped are
"in hand": `withExtra` counts them as part of the stack. -/
namespace Impl.Tickets

/-- the state with some values "in hand" (popped from a container, not yet pushed) counted as part of the stack -/
def State.withExtra (s : State) (xs : List Val) : State := { s with items := xs ++ s.items }

theorem withExtra_fields (s : State) (xs : List Val) :
    (s.withExtra xs).self = s.self ∧ (s.withExtra xs).typedStores = s.typedStores ∧ (s.withExtra xs).minted = s.minted
      ∧ (s.withExtra xs).items = xs ++ s.items := ⟨rfl, rfl, rfl, rfl⟩

theorem Good.lift {a b : State} (xs : List Val) (g : Good a b) : Good (a.withExtra xs) (b.withExtra xs) :=
  ⟨g.self_eq, g.typed_mono, g.minted_ext, fun ht => measures_frame List.perm_append_comm List.perm_append_comm (g.inv ht)⟩

theorem Popped.extra {s s1 : State} {ops : List Val} (hpop : Popped s ops s1) (res : List Val) (hv : Acc [] ops res) :
    Good s (s1.withExtra res) :=
  hpop.good res [] true (.refl _) rfl rfl rfl fun _ => hv

theorem good_load {s : State} {ys : List Val} {v : Val} (hv : Acc [] ys [v]) : Good (s.withExtra ys) (s.push v) :=
  Good.frame s.items [] true (.refl _) (push_perm _ _) rfl rfl rfl fun _ => hv

theorem good_dup {c : Cfg} (ok : CfgOk c) {s t : State} {top r : Val} (hpeek : s.peek = .ok top)
    (hd : duplicate c top = .ok r) (hc : SameCore s t) : Good s (t.push r) := by
  obtain ⟨rfl, hfree⟩ := duplicate_spec ok hd
  obtain ⟨rest, hrest⟩ := peek_perm hpeek
  exact Good.frame rest [] true hrest ((push_perm t r).trans ((List.Perm.of_eq hc.1).trans hrest |>.cons r)) hc.2.1
    hc.2.2.1 hc.2.2.2 fun _ => acc_dup hfree

theorem sameTypes_iff (t : Ty) (ys : List Val) : sameTypes t ys = true ↔ ∀ v ∈ ys, v.typeOf = t := by
  simp [sameTypes]

theorem mapLoop_length {c : Cfg} : ∀ (f : Nat) (body : List Instr) (xs acc : List Val) (s : State) (ys : List Val) (s' : State),
    mapLoop c f body xs acc s = .ok (ys, s') → ys.length = acc.length + xs.length
  | 0, _, _, _, _, _, _, h => nomatch h
  | f + 1, _, [], acc, s, ys, s', h => by cases h; exact List.length_reverse
  | f + 1, body, x :: xs, acc, s, ys, s', h => by
    obtain ⟨sb, _, h⟩ := bind_ok h
    obtain ⟨⟨y, sc⟩, _, h⟩ := bind_ok h
    have := mapLoop_length f body xs (y :: acc) sc ys s' h
    simp only [List.length_cons] at this ⊢; omega

mutual
  theorem exec_good {c : Cfg} (ok : CfgOk c) : ∀ (f : Nat) (i : Instr) (s s' : State), exec c f i s = .ok s' → Good s s'
    | 0, _, _, _, h => nomatch h
    | f + 1, i, s, s', h => by
      cases hs : simple c s i with
      | some r => exact simple_good ok i (hs.trans (congrArg some ((exec_simple hs).symm.trans h)))
      | none =>
      cases i with
      | dup =>
        obtain ⟨top, hpk, h⟩ := bind_ok h
        obtain ⟨r, hd, h⟩ := bind_ok h
        cases h
        exact good_dup ok hpk hd ⟨rfl, rfl, rfl, rfl⟩
      | dupN n =>
        obtain ⟨_, h⟩ := guard_ok h
        obtain ⟨s1, hp, h⟩ := bind_ok h
        obtain ⟨top, hpk, h⟩ := bind_ok h
        obtain ⟨r, hd, h⟩ := bind_ok h
        obtain ⟨s2, hr, h⟩ := bind_ok h
        cases h
        exact (Good.of_sameCore (protect_sameCore hp)).trans (good_dup ok hpk hd (restore_sameCore hr))
      | dig n =>
        obtain ⟨s1, hp, h⟩ := bind_ok h
        obtain ⟨⟨r, s2⟩, hpop, h⟩ := bind_ok h
        obtain ⟨s3, hr, h⟩ := bind_ok h
        cases h
        exact (Good.of_sameCore (protect_sameCore hp)).trans
          (((pop1_spec hpop).core (restore_sameCore hr)).push [r] (Acc.refl _))
      | dug n =>
        obtain ⟨⟨r, s1⟩, hpop, h⟩ := bind_ok h
        obtain ⟨s2, hp, h⟩ := bind_ok h
        exact (((pop1_spec hpop).core (protect_sameCore hp)).push [r] (Acc.refl _)).trans
          (Good.of_sameCore (restore_sameCore h))
      | dip body | dipN _ body =>
        obtain ⟨s1, hp, h⟩ := bind_ok h
        obtain ⟨s2, hb, h⟩ := bind_ok h
        exact (Good.of_sameCore (protect_sameCore hp)).trans
          ((execSeq_good ok f body s1 s2 hb).trans (Good.of_sameCore (restore_sameCore h)))
      | seq body => exact execSeq_good ok f body s s' h
      | ifNone bt bf =>
        obtain ⟨⟨o, s1⟩, hpop, h⟩ := bind_ok h
        cases o with
        | none t => exact ((pop1_spec hpop).push [] (acc_nil _)).trans (execSeq_good ok f bt s1 s' h)
        | some v => exact ((pop1_spec hpop).push [v] (acc_unsome v)).trans (execSeq_good ok f bf (s1.push v) s' h)
        | _ => cases h
      | ifLeft bt bf =>
        obtain ⟨⟨o, s1⟩, hpop, h⟩ := bind_ok h
        cases o with
        | left v rt => exact ((pop1_spec hpop).push [v] (acc_unleft v rt)).trans (execSeq_good ok f bt (s1.push v) s' h)
        | right lt v => exact ((pop1_spec hpop).push [v] (acc_unright lt v)).trans (execSeq_good ok f bf (s1.push v) s' h)
        | _ => cases h
      | exec =>
        obtain ⟨⟨param, lam, s1⟩, hpop, h⟩ := bind_ok h
        cases lam with
        | lam a b body =>
          obtain ⟨_, h⟩ := guard_ok h
          obtain ⟨ls, hb, h⟩ := bind_ok h
          obtain ⟨⟨res, ls'⟩, hp1, h⟩ := bind_ok h
          obtain ⟨_, h⟩ := guard_ok h
          obtain ⟨hempty, h⟩ := guard_ok h
          cases h
          obtain ⟨q1, _, q3, q4⟩ := pop1_spec hp1
          -- the body runs on `[param]` while the rest of the stack is kept in hand; it leaves exactly `[res]`
          have gb := execSeq_good ok f body _ ls hb
          have g0 : Good s (State.withExtra { s1 with items := [param], prot := 0 } s1.items) :=
            (pop2_spec hpop).good [param] [] true List.perm_append_comm rfl rfl rfl
              fun _ => (acc_swap param (.lam a b body)).tail
          refine g0.trans ((gb.lift s1.items).trans (Good.perm ?_ gb.self_eq.symm q3 q4))
          have hnil : ls'.items = [] := List.isEmpty_iff.mp (by simpa using hempty)
          rw [hnil] at q1
          exact ((List.Perm.append_left s1.items q1).trans List.perm_append_comm).trans (push_perm _ res).symm
        | _ => cases h
      | iter body =>
        obtain ⟨⟨src, s1⟩, hpop, h⟩ := bind_ok h
        obtain ⟨els, he, h⟩ := bind_ok h
        exact ((pop1_spec hpop).extra els (elements_vals he)).trans (iterLoop_good ok f body els s1 s' h)
      | map body =>
        obtain ⟨⟨src, s1⟩, hpop, h⟩ := bind_ok h
        cases src with
        | list t xs =>
          obtain ⟨⟨ys, s2⟩, hm, h⟩ := bind_ok h
          have g := ((pop1_spec hpop).extra xs (acc_unlist t xs)).trans (mapLoop_good ok f body xs [] s1 ys s2 hm)
          have hlen := mapLoop_length f body xs [] s1 ys s2 hm
          match ys, h with
          | [], h =>
            cases h
            -- nothing came back, so nothing went in: the source list pushed again is empty
            obtain rfl : xs = [] := by simpa using hlen.symm
            exact g.trans (good_load (acc_list fun _ hv => nomatch hv))
          | y :: ys', h =>
            obtain ⟨hst, h⟩ := guard_ok' h
            cases h
            exact g.trans (good_load (acc_list ((sameTypes_iff _ _).mp hst)))
        | map big kt vt keys vals removed =>
          cases big with
          | true =>
            obtain ⟨_, h⟩ := guard_ok' h
            cases h
            exact (pop1_spec hpop).push [_] (Acc.refl _)
          | false =>
          obtain ⟨els, he, h⟩ := bind_ok h
          obtain ⟨⟨ys, s2⟩, hm, h⟩ := bind_ok h
          have g2 := mapLoop_good ok f body els [] s1 ys s2 hm
          match ys, h with
          | [], h =>
            cases h
            -- nothing came back, so the loop ran over nothing: the source map is carried along in hand and pushed again
            obtain rfl : els = [] := by simpa using (mapLoop_length f body els [] s1 [] s2 hm).symm
            exact ((pop1_spec hpop).extra [_] (Acc.refl _)).trans ((g2.lift [_]).trans (good_load (Acc.refl _)))
          | y :: ys', h =>
            obtain ⟨hst, h⟩ := guard_ok' h
            cases h
            simp only [Bool.and_eq_true, beq_iff_eq] at hst
            -- the keys travel along in hand as a set: its consistency is their distinctness, which the new map needs
            have g1 : Good s ((s1.withExtra els).withExtra [.set kt keys]) :=
              (pop1_spec hpop).extra (.set kt keys :: els) ((elements_vals he).cons_closed fun hc =>
                ⟨(nodupB_iff keys).mpr (map_consistent_iff.mp (LC_cons.mp hc).1).2.1, fun _ => rfl, rfl⟩)
            exact g1.trans ((g2.lift [.set kt keys]).trans (good_load (acc_map hst.1.symm ((sameTypes_iff _ _).mp hst.2))))
        | set t xs =>
          obtain ⟨_, h⟩ := guard_ok' h
          cases h
          exact (pop1_spec hpop).push [_] (Acc.refl _)
        | _ => cases h
      | _ => cases hs          -- the other instructions are `simple`'s own: it does not answer `none`
  theorem execSeq_good {c : Cfg} (ok : CfgOk c) : ∀ (f : Nat) (is : List Instr) (s s' : State),
      execSeq c f is s = .ok s' → Good s s'
    | 0, _, _, _, h => nomatch h
    | f + 1, [], s, s', h => by cases h; exact Good.refl _
    | f + 1, i :: is, s, s', h => by
      obtain ⟨s1, h1, h⟩ := bind_ok h
      exact (exec_good ok f i s s1 h1).trans (execSeq_good ok f is s1 s' h)
  theorem iterLoop_good {c : Cfg} (ok : CfgOk c) : ∀ (f : Nat) (body : List Instr) (xs : List Val) (s s' : State),
      iterLoop c f body xs s = .ok s' → Good (s.withExtra xs) s'
    | 0, _, _, _, _, h => nomatch h
    | f + 1, _, [], s, s', h => by cases h; exact Good.perm (.refl _) rfl rfl rfl
    | f + 1, body, x :: xs, s, s', h => by
      obtain ⟨sb, hb, h⟩ := bind_ok h
      have g0 : Good (s.withExtra (x :: xs)) ((s.push x).withExtra xs) :=
        Good.perm (List.perm_middle.symm.trans (List.Perm.append_left xs (push_perm s x).symm)) rfl rfl rfl
      exact g0.trans (((execSeq_good ok f body (s.push x) sb hb).lift xs).trans (iterLoop_good ok f body xs sb s' h))
  theorem mapLoop_good {c : Cfg} (ok : CfgOk c) : ∀ (f : Nat) (body : List Instr) (xs acc : List Val) (s : State)
      (ys : List Val) (s' : State), mapLoop c f body xs acc s = .ok (ys, s') →
      Good ((s.withExtra xs).withExtra acc) (s'.withExtra ys)
    | 0, _, _, _, _, _, _, h => nomatch h
    | f + 1, _, [], acc, s, ys, s', h => by
      cases h
      exact Good.perm (List.Perm.append_right _ (List.reverse_perm acc).symm) rfl rfl rfl
    | f + 1, body, x :: xs, acc, s, ys, s', h => by
      obtain ⟨sb, hb, h⟩ := bind_ok h
      obtain ⟨⟨y, sc⟩, hp, h⟩ := bind_ok h
      obtain ⟨p1, p2, p3, p4⟩ := pop1_spec hp
      have g0 : Good ((s.withExtra (x :: xs)).withExtra acc) (((s.push x).withExtra xs).withExtra acc) :=
        Good.perm (List.Perm.append_left acc (List.perm_middle.symm.trans (List.Perm.append_left xs (push_perm s x).symm)))
          rfl rfl rfl
      have g1 := ((execSeq_good ok f body (s.push x) sb hb).lift xs).lift acc
      have g2 : Good ((sb.withExtra xs).withExtra acc) ((sc.withExtra xs).withExtra (y :: acc)) :=
        Good.perm (((List.Perm.append_left xs p1).trans List.perm_middle |>.append_left acc).trans List.perm_middle) p2 p3 p4
      exact g0.trans (g1.trans (g2.trans (mapLoop_good ok f body xs (y :: acc) sc ys s' h)))
end

end Impl.Tickets
