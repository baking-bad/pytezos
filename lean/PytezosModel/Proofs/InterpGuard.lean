import PytezosModel.Proofs.InterpSpec
/-! The guard of `Spec.eval` only removes behaviours: as long as the guarded reference semantics does not answer
`offguard`, the unguarded one (the plain Michelson reference) computes exactly the same outcome — stack, FAILWITH value,
runtime failure, out of fuel, or stuck. -/
namespace Interp

theorem listOf_guard (body : Instr) (t : Ty) (st ys : List Val)
    (h : Spec.listOf true body t st ys ≠ .offguard) : Spec.listOf false body t st ys = Spec.listOf true body t st ys := by
  cases ys with
  | nil =>
    simp only [Spec.listOf] at h ⊢
    cases hm : Spec.mapOutTy body t st with
    | none => rfl
    | some t' =>
      simp only [hm] at h ⊢
      by_cases ht : t' = t
      · subst ht; simp
      · simp [ht] at h
  | cons y rest => simp [Spec.listOf]

theorem mapOf_guard (body : Instr) (k v : Ty) (st ys : List Val)
    (h : Spec.mapOf true body k v st ys ≠ .offguard) : Spec.mapOf false body k v st ys = Spec.mapOf true body k v st ys := by
  cases ys with
  | nil =>
    simp only [Spec.mapOf] at h ⊢
    cases hm : Spec.mapOutTy body (.pair k v) st with
    | none => rfl
    | some t' =>
      simp only [hm] at h ⊢
      by_cases ht : t' = v
      · subst ht; simp
      · simp [ht] at h
  | cons y rest => cases y <;> simp [Spec.mapOf]

def GEval (env : Env) (f : Nat) : Prop :=
  ∀ i st, Spec.eval true env f i st ≠ .offguard → Spec.eval false env f i st = Spec.eval true env f i st
def GSeq (env : Env) (f : Nat) : Prop :=
  ∀ is st, Spec.evalSeq true env f is st ≠ .offguard → Spec.evalSeq false env f is st = Spec.evalSeq true env f is st
def GIter (env : Env) (f : Nat) : Prop :=
  ∀ b xs st, Spec.evalIter true env f b xs st ≠ .offguard → Spec.evalIter false env f b xs st = Spec.evalIter true env f b xs st
def GMap (env : Env) (f : Nat) : Prop :=
  ∀ b m xs st, Spec.evalMap true env f b m xs st ≠ .offguard → Spec.evalMap false env f b m xs st = Spec.evalMap true env f b m xs st

theorem bind_guard {α β : Type} {a b : Res α} {k k' : α → Res β} (hab : b ≠ .offguard → a = b)
    (hk : ∀ x, k' x ≠ .offguard → k x = k' x) (h : b.bind k' ≠ .offguard) : a.bind k = b.bind k' := by
  rw [hab (bind_ne_offguard h)]
  cases b <;> first | rfl | exact hk _ h

theorem bind_congr_guard {α β : Type} (a b : Res α) (k : α → Res β) (hab : b ≠ .offguard → a = b) (h : b.bind k ≠ .offguard) :
    a.bind k = b.bind k :=
  bind_guard hab (fun _ _ => rfl) h

/-- by the rule induction of the reference evaluators (one case per equation of `Spec.eval`, `evalMap`, `evalIter`, `evalSeq`,
in that order): both evaluators apply the same rule to their sub-evaluations; in the last case of `eval` both run `Spec.step` -/
theorem guard_all (env : Env) : (∀ f, GEval env f) ∧ (∀ f, GMap env f) ∧ (∀ f, GIter env f) ∧ (∀ f, GSeq env f) := by
  apply Spec.eval.mutual_induct
    (motive_1 := fun f i st => Spec.eval true env f i st ≠ .offguard → Spec.eval false env f i st = Spec.eval true env f i st)
    (motive_2 := fun f b m xs st =>
      Spec.evalMap true env f b m xs st ≠ .offguard → Spec.evalMap false env f b m xs st = Spec.evalMap true env f b m xs st)
    (motive_3 := fun f b xs st =>
      Spec.evalIter true env f b xs st ≠ .offguard → Spec.evalIter false env f b xs st = Spec.evalIter true env f b xs st)
    (motive_4 := fun f is st =>
      Spec.evalSeq true env f is st ≠ .offguard → Spec.evalSeq false env f is st = Spec.evalSeq true env f is st)
  all_goals intros
  -- out of fuel, the exit of LOOP / LOOP_LEFT, nothing more to run
  case case1 | case14 | case16 | case26 | case29 | case32 => rfl
  case case25 | case28 | case31 => cases ‹Nat› <;> rfl
  -- seq, IF, IF_NONE, IF_LEFT, IF_CONS, ITER: one sub-evaluation, whose outcome is the outcome
  case case2 | case6 | case7 | case8 | case9 | case10 | case11 | case12 | case17 | case18 | case19 =>
    rename_i ih hr
    exact ih hr
  -- DIP; LOOP / LOOP_LEFT going round, the next element of ITER, the next instruction of a sequence
  case case3 ih hr => exact bind_congr_guard _ _ _ ih hr
  case case13 | case15 | case30 | case33 =>
    rename_i ih1 ih2 hr
    exact bind_guard ih1 ih2 hr
  -- DIPN, MAP, EXEC
  case case4 hn ih hr =>
    change (if _ then _ else _) ≠ _ at hr
    show (if _ then _ else _) = (if _ then _ else _)
    rw [if_pos hn] at hr
    rw [if_pos hn, if_pos hn]
    exact bind_congr_guard _ _ _ ih hr
  case case5 hn hr =>
    show (if _ then _ else _) = (if _ then _ else _)
    rw [if_neg hn, if_neg hn]
  case case20 body t xs st ih hr =>
    exact bind_guard ih (fun p hp => bind_congr_guard _ _ _ (listOf_guard body t st p.1) hp) hr
  case case21 body k v xs st ih hr =>
    exact bind_guard ih (fun p hp => bind_congr_guard _ _ _ (mapOf_guard body k v st p.1) hp) hr
  case case22 ih hr =>
    change (if _ then _ else _) ≠ _ at hr
    show (if _ then _ else _) = (if _ then _ else _)
    rw [if_pos rfl] at hr
    rw [if_pos rfl, if_pos rfl]
    exact bind_congr_guard _ _ _ ih hr
  case case23 hn hr =>
    show (if _ then _ else _) = (if _ then _ else _)
    rw [if_neg hn, if_neg hn]
  -- no rule with a sub-program applies
  case case24 =>
    rw [Spec.eval.eq_22, Spec.eval.eq_22]
    all_goals assumption
  -- the next element of MAP: the body and the rest are sub-evaluations; the item kept in between is computed alike by both
  case case27 ih1 ih2 hr =>
    refine bind_guard ih1 (fun r hr' => ?_) hr
    cases r with
    | nil => simp only
    | cons y st' =>
      simp only at hr' ⊢
      exact bind_guard (fun _ => rfl) (fun item hi => bind_congr_guard _ _ _ (ih2 st') hi) hr'

theorem all_guard (env : Env) : ∀ f, GEval env f ∧ GSeq env f ∧ GIter env f ∧ GMap env f :=
  fun f => ⟨(guard_all env).1 f, (guard_all env).2.2.2 f, (guard_all env).2.2.1 f, (guard_all env).2.1 f⟩

/-- the guard only removes behaviours -/
theorem eval_guard (env : Env) (fuel : Nat) (i : Instr) (st : List Val) (h : Spec.eval true env fuel i st ≠ .offguard) :
    Spec.eval false env fuel i st = Spec.eval true env fuel i st :=
  (all_guard env fuel).1 i st h

end Interp
