import PytezosModel.Proofs.C11Value
/-! C11 — the round trip, by induction over typed values.  `RT` says of a value the call renders faithfully:
(1) `from_micheline_value (to_micheline_value v) = v`, and if it is a pair (2) the comb invariant: the sequence of the
rendered `iter_comb` items (hence their flat `Pair`, `pairOfMich_pairOf`) parses back to the same pair (this is what the
enclosing pair relies on when it splices the right component in). -/
namespace Impl.Value
open VC Core

def RT (env : Env) (mode : Mode) (τ : Ty) (v : Val) : Prop :=
  ∀ lz, faithful mode lz τ v = true →
    ofMichCore env τ (render env mode lz v).1 = .ok v ∧
    ∀ n a b, v = .pair n a b →
      ofMichCore env τ (.seq (render env mode lz v).2) = .ok v ∧ 2 ≤ (render env mode lz v).2.length

theorem dom_rt (env : Env) (hl : env.Lawful) (mode : Mode) (k : DomKind) (d : DomVal)
    (hv : env.valid k d = true) (hn : mode = .readable ∨ binNorm k d = d) :
    domOfMich env k (domToMich env mode k d) = .ok (.dom k d) := by
  by_cases hm : mode = .readable
  · simp [domToMich, hm, domOfMich, (lit_dom k).2, hl.text_rt k d hv]
  · simp [domToMich, hm, domOfMich, (lit_dom k).1, hl.bin_rt k d hv, hn.resolve_left hm]

/-- a timestamp is read back from the text inside the guard (this is all the round trip needs of the clock) and from
the integer elsewhere -/
theorem tsToMich_rt (env : Env) (hts : ∀ t : Int, rfcLo ≤ t → t ≤ rfcHi → env.parseTs (env.fmtTs t) = some t)
    (mode : Mode) (a : Annot) (t : Int) :
    ofMichCore env (.leaf .timestamp a) (tsToMich env mode t) = .ok (.timestamp t) := by
  unfold tsToMich
  split
  · split
    next hg =>
      obtain ⟨h1, h2⟩ := (inGuard_iff t).1 hg
      simp [ofMichCore, leafOfMich, lit_ok, hts t h1 h2]
    · simp [ofMichCore, leafOfMich, lit_ok]
  · simp [ofMichCore, leafOfMich, lit_ok]

theorem render_pair (env : Env) (mode : Mode) (lz : Option Bool) (n : Bool) (a b : Val) :
    render env mode lz (.pair n a b) =
      (pairNode mode (render env mode lz a).1 (render env mode lz b).1
          ((render env mode lz a).1 :: (if flattens b then (render env mode lz b).2 else [(render env mode lz b).1])),
        (render env mode lz a).1 :: (if flattens b then (render env mode lz b).2 else [(render env mode lz b).1])) := by
  rw [render]

/-- the comb `pair address (pair τ nat)` of a ticket is laid out as any other -/
theorem render_ticket (env : Env) (mode : Mode) (lz : Option Bool) (d : DomVal) (item : Val) (amount : Int) :
    (render env mode lz (.ticket d item amount)).1 = pairNode mode (domToMich env mode .address d)
      (pairOf [(render env mode (some false) item).1, .int amount])
      [domToMich env mode .address d, (render env mode (some false) item).1, .int amount] := by
  cases mode <;> rfl

theorem pair_rt (env : Env) (mode : Mode) (l r : Ty) (a : Annot) (x y : Val) (hy : Typed env r y)
    (ihl : RT env mode l x) (ihr : RT env mode r y) : RT env mode (.pair l r a) (.pair a.named x y) := by
  intro lz hf
  simp only [faithful, Bool.and_eq_true] at hf
  have fx := (ihl lz hf.1).1
  obtain ⟨fy, cy⟩ := ihr lz hf.2
  rw [render_pair]
  refine (pairNode_read mode a.named r.isPair _ _ _ _ _ x y fx fy ?_).imp id fun h _ _ _ _ => h
  by_cases hfl : flattens y = true
  · -- the right component is spliced in: it is a pair, of a pair class, and its comb invariant applies
    obtain ⟨ny, c, d, rfl⟩ : ∃ ny c d, y = .pair ny c d := by
      revert hfl
      fun_cases flattens y
      · exact fun _ => ⟨_, _, _, rfl⟩
      · nofun
    obtain ⟨hs, hlen⟩ := cy ny c d rfl
    obtain ⟨l', r', a', rfl⟩ : ∃ l' r' a', r = .pair l' r' a' := by cases hy; exact ⟨_, _, _, rfl⟩
    rw [if_pos hfl]
    exact .inr ⟨rfl, hlen, hs, (pairOfMich_pairOf ..).trans hs⟩
  · rw [if_neg hfl]
    exact .inl rfl

theorem elts_rt {env : Env} {mode : Mode} {lz : Option Bool} {k v : Ty} {kvs : List (Val × Val)}
    (ihk : ∀ kv ∈ kvs, RT env mode k kv.1) (ihv : ∀ kv ∈ kvs, RT env mode v kv.2)
    (hf : kvs.all (fun kv => faithful mode lz k kv.1 && faithful mode lz v kv.2) = true) :
    mapElts (ofMichCore env k) (ofMichCore env v) (renderE env mode lz kvs) = .ok kvs := by
  rw [renderE_eq_map]
  exact mapElts_render _ _ (fun x => (render env mode lz x).1) kvs fun kv hkv =>
    have f := all_and _ _ kvs hf kv hkv
    ⟨(ihk kv hkv lz f.1).1, (ihv kv hkv lz f.2).1⟩

theorem list_rt {env : Env} {mode : Mode} {lz : Option Bool} {t : Ty} {xs : List Val} (ih : ∀ x ∈ xs, RT env mode t x)
    (hf : xs.all (faithful mode lz t) = true) : mapMich (ofMichCore env t) (renderL env mode lz xs) = .ok xs := by
  rw [renderL_eq_map]
  exact mapMich_render _ _ xs fun x hx => (ih x hx lz (List.all_eq_true.mp hf x hx)).1

/-- `faithful` at a big_map and at a sapling state: the part that `lazy_diff` selects is the one that is there -/
theorem faithful_bigMap {mode : Mode} {lz : Option Bool} {k v : Ty} {a : Annot} {ptr : Option Int} {kvs : List (Val × Val)}
    (hf : faithful mode lz (.bigMap k v a) (.bigMap ptr kvs) = true) :
    kvs.all (fun kv => faithful mode (some false) k kv.1 && faithful mode (some false) v kv.2) = true ∧
      (bigMapLazy lz ptr = true ∧ ptr = none ∨ bigMapLazy lz ptr = false ∧ kvs = [] ∧ ∃ p, ptr = some p) := by
  simp only [faithful, Bool.and_eq_true] at hf
  refine ⟨hf.1, ?_⟩
  by_cases hz : bigMapLazy lz ptr = true
  · simpa [hz] using hf.2
  · simpa [hz, Option.isSome_iff_exists, and_comm] using hf.2

theorem faithful_sapling {mode : Mode} {lz : Option Bool} {m : Nat} {a : Annot} {ptr : Option Int}
    (hf : faithful mode lz (.saplingState m a) (.sapling ptr) = true) :
    lz = some true ∧ ptr = none ∨ lz ≠ some true ∧ ∃ p, ptr = some p := by
  simp only [faithful] at hf
  by_cases hz : lz = some true
  · simpa [hz] using hf
  · simpa [hz, Option.isSome_iff_exists] using hf

theorem rt (env : Env) (hl : env.Lawful) (mode : Mode) {τ : Ty} {v : Val} (h : Typed env τ v) : RT env mode τ v := by
  induction h
  case pair hy ihl ihr => exact pair_rt env mode _ _ _ _ _ hy ihl ihr
  -- a value that is not a pair has no comb to speak of
  all_goals
    intro lz hf
    refine ⟨?_, nofun⟩
  -- closed renderings: the reader evaluates on them
  case unit | int | none => rfl
  case bool b => cases b <;> rfl
  case nat h | string h => exact if_pos h
  case mutez h0 h1 => simp [render, ofMichCore, leafOfMich, intLit, lit_ok, gen_mutezBits, h0, h1]
  case timestamp t => exact tsToMich_rt env hl.ts_rt mode _ t
  case bytes h => rcases h with rfl | rfl | rfl | rfl | rfl <;> rfl
  case blsFr v h0 h1 h2 =>
    have hmod : v % (frModulus : Int) = v := Int.emod_eq_of_lt h0 h1
    by_cases hm : mode = .readable
    · simp [render, hm, ofMichCore, leafOfMich, lit_ok, gen_frModulus, hmod]
    · have hv : ((v.toNat : Nat) : Int) = v := Int.toNat_of_nonneg h0
      have hlt : v.toNat < 256 ^ 32 := by
        have : (v.toNat : Int) < (2 : Int) ^ 256 := by rw [hv]; omega
        have h256 : (256 : Nat) ^ 32 = 2 ^ 256 := by decide
        rw [h256]; exact_mod_cast this
      simp [render, hm, ofMichCore, leafOfMich, lit_ok, gen_frModulus, natToLE_length,
        leToNat_natToLE, Nat.mod_eq_of_lt hlt, hv, hmod]
  case dom k _ d hv =>
    have hn : mode = .readable ∨ binNorm k d = d := by
      by_cases hk : k = .signature
      · subst hk
        simpa [faithful] using hf
      · exact Or.inr (binNorm_ne k d hk)
    exact dom_rt env hl mode k d hv hn
  case some ih => exact congrArg (Except.map Val.some) (ih lz hf).1
  case left ih => exact congrArg (Except.map Val.left) (ih lz hf).1
  case right ih => exact congrArg (Except.map Val.right) (ih lz hf).1
  case list ih => simp [render, ofMichCore, list_rt ih hf, Except.map]
  case set hk _ ih => simp [render, ofMichCore, list_rt ih hf, hk]
  case map hk _ _ ihk ihv => simp [render, ofMichCore, elts_rt ihk ihv hf, hk]
  case bigMap ptr hk _ _ ihk ihv =>
    obtain ⟨hfk, ⟨hz, rfl⟩ | ⟨hz, rfl, p, rfl⟩⟩ := faithful_bigMap hf
    · simp [render, hz, ofMichCore, elts_rt ihk ihv hfk, hk]
    · simp [render, hz, ofMichCore, intLit, lit_ok, Except.map]
  case lambda code h => simp [render, ofMichCore, hl.lambda_rt code h]
  case contract d hv =>
    exact dom_rt env hl mode .contract d hv (Or.inr (binNorm_ne _ d (by decide)))
  case ticket t _ item d amount hv ha _ ih =>
    have fa := dom_rt env hl mode .address d hv (Or.inr (binNorm_ne _ d (by decide)))
    have fn : leafOfMich env .nat (.int amount) = .ok (.int amount) := by
      simp [leafOfMich, intLit, lit_ok, ha]
    have inner := pairOfMich_two false false (ofMichCore env t) (leafOfMich env .nat) _ _ item (.int amount)
      (ih (some false) hf).1 fn
    have outer := (pairNode_read mode false true _ _ _ _ [_, _] _ _ fa ((pairOfMich_pairOf ..).trans inner)
      (.inr ⟨rfl, Nat.le_refl 2, inner, (pairOfMich_pairOf ..).trans inner⟩)).1
    simp only [render_ticket, ofMichCore, outer, ticketOfComb]
  case sapling ptr =>
    obtain ⟨hz, rfl⟩ | ⟨hz, p, rfl⟩ := faithful_sapling hf
    · simp [render, hz, ofMichCore]
    · simp [render, hz, ofMichCore, intLit, lit_ok, Except.map]

theorem raisesL_false (mode : Mode) (lz : Option Bool) (xs : List Val) (h : ∀ x ∈ xs, raises mode lz x = false) :
    raisesL mode lz xs = false := by
  induction xs with
  | nil => simp [raisesL]
  | cons x xs ih =>
    simp [raisesL, h x (by simp), ih (fun y hy => h y (by simp [hy]))]

theorem raisesE_false (mode : Mode) (lz : Option Bool) (kvs : List (Val × Val))
    (h : ∀ kv ∈ kvs, raises mode lz kv.1 = false ∧ raises mode lz kv.2 = false) :
    raisesE mode lz kvs = false := by
  induction kvs with
  | nil => simp [raisesE]
  | cons kv kvs ih =>
    obtain ⟨k, v⟩ := kv
    have hx := h (k, v) (by simp)
    simp [raisesE, hx.1, hx.2, ih (fun y hy => h y (by simp [hy]))]

/-- a timestamp is rendered as text only inside the guard, where `format_timestamp` works -/
theorem raises_timestamp (mode : Mode) (lz : Option Bool) (t : Int) : raises mode lz (.timestamp t) = false := by
  by_cases hg : inGuard t = true
  · simp [raises, (inGuard_iff t).1 hg]
  · simp [raises, hg]

theorem toMich_timestamp (env : Env) (mode : Mode) (lz : Option Bool) (t : Int) :
    toMich env mode lz (.timestamp t) = .ok (tsToMich env mode t) :=
  toMich_of_not_raises (raises_timestamp mode lz t)

/-- a typed field element fits in 32 bytes -/
theorem raises_blsFr (mode : Mode) (lz : Option Bool) (n : Int) (h0 : 0 ≤ n) (h1 : n < (frModulus : Int))
    (h2 : frModulus ≤ 2 ^ 256) : raises mode lz (.blsFr n) = false := by
  have : ((VC.frModulus : Nat) : Int) ≤ ((2 ^ 256 : Nat) : Int) := by exact_mod_cast h2
  have h3 : ((2 ^ 256 : Nat) : Int) = (2 : Int) ^ 256 := by norm_cast
  simp [raises, h0]
  intro _
  omega

theorem no_raise {env : Env} (mode : Mode) {τ : Ty} {v : Val} (h : Typed env τ v) :
    ∀ lz, faithful mode lz τ v = true → raises mode lz v = false := by
  induction h
  case timestamp t => exact fun lz _ => raises_timestamp mode lz t
  case blsFr n h0 h1 h2 => exact fun lz _ => raises_blsFr mode lz n h0 h1 h2
  all_goals
    intro lz hf
    simp only [raises]
  case some ih | left ih | right ih => exact ih lz hf
  case ticket ih => exact ih _ hf
  case pair ihl ihr =>
    simp only [faithful, Bool.and_eq_true] at hf
    simp [ihl lz hf.1, ihr lz hf.2]
  case list ih | set ih => exact raisesL_false mode lz _ fun x hx => ih x hx lz (List.all_eq_true.mp hf x hx)
  case map ihk ihv =>
    exact raisesE_false mode lz _ fun kv hkv =>
      have f := all_and _ _ _ hf kv hkv
      ⟨ihk kv hkv lz f.1, ihv kv hkv lz f.2⟩
  case bigMap ptr _ _ _ ihk ihv =>
    obtain ⟨hfk, ⟨hz, rfl⟩ | ⟨hz, rfl, p, rfl⟩⟩ := faithful_bigMap hf
    · simp only [hz, if_true]
      exact raisesE_false mode _ _ fun kv hkv =>
        have f := all_and _ _ _ hfk kv hkv
        ⟨ihk kv hkv _ f.1, ihv kv hkv _ f.2⟩
    · simp [hz]
  case sapling ptr =>
    obtain ⟨hz, rfl⟩ | ⟨hz, p, rfl⟩ := faithful_sapling hf
    · simp [hz]
    · simp

theorem toMich_typed {env : Env} (mode : Mode) {τ : Ty} {v : Val} (h : Typed env τ v) (lz : Option Bool)
    (hf : faithful mode lz τ v = true) : toMich env mode lz v = .ok (render env mode lz v).1 :=
  toMich_of_not_raises (no_raise mode h lz hf)

theorem ofMich_render {env : Env} (hl : env.Lawful) (mode : Mode) {τ : Ty} {v : Val} (h : Typed env τ v) (lz : Option Bool)
    (hf : faithful mode lz τ v = true) : ofMich env τ (render env mode lz v).1 = .ok v :=
  (ofMich_eq env τ _).trans (rt env hl mode h lz hf).1

end Impl.Value
