import PytezosModel.Proofs.Base58
import PytezosModel.Proofs.C03Impl
/-! C03 — the text ↔ structure bridge.  pytezos compares key_hash / address / chain_id values as base58check TEXT
(`StringType.__lt__`, `AddressType.__lt__`); the model compares (kind tag, payload bytes).  Here: for two base58 texts of the
same length whose byte strings do not start with a zero byte, Python's string order of the texts is the lexicographic order
of the byte strings; and for byte strings `prefix ‖ payload ‖ checksum` with parts of equal lengths, that order is decided
by `prefix ‖ payload` whenever these differ (the checksum never decides). -/
namespace Order
open Base58

/-- one more leading digit: the leading digits decide, then the rests (both below the weight `B` of the leading digit) -/
theorem cmpNat_digit {x y X Y B : Nat} (hX : X < B) (hY : Y < B) :
    (cmpNat x y).then (cmpNat X Y) = cmpNat (x * B + X) (y * B + Y) := by
  rcases Nat.lt_trichotomy x y with h | rfl | h
  · have := Nat.mul_le_mul_right B (Nat.succ_le_of_lt h)
    rw [Nat.succ_mul] at this
    rw [cmpNat_eq_lt.2 h, cmpNat_eq_lt.2 (show x * B + X < y * B + Y by omega)]; rfl
  · rw [cmpNat_eq_eq.2 rfl]
    rcases Nat.lt_trichotomy X Y with h | rfl | h
    · rw [cmpNat_eq_lt.2 h, cmpNat_eq_lt.2 (show x * B + X < x * B + Y by omega)]; rfl
    · rw [cmpNat_eq_eq.2 rfl, cmpNat_eq_eq.2 rfl]; rfl
    · rw [cmpNat_eq_gt.2 h, cmpNat_eq_gt.2 (show x * B + Y < x * B + X by omega)]; rfl
  · have := Nat.mul_le_mul_right B (Nat.succ_le_of_lt h)
    rw [Nat.succ_mul] at this
    rw [cmpNat_eq_gt.2 h, cmpNat_eq_gt.2 (show y * B + Y < x * B + X by omega)]; rfl

/-- equal-length big-endian digit strings: lexicographic order = numeric order -/
theorem lexCmp_eq_cmpNat_ofDigits (b : Nat) : ∀ (xs ys : List Nat), xs.length = ys.length →
    (∀ d ∈ xs, d < b) → (∀ d ∈ ys, d < b) → lexCmp xs ys = cmpNat (ofDigits b xs) (ofDigits b ys)
  | [], [], _, _, _ => rfl
  | x :: xs, y :: ys, hl, hx, hy => by
    have hl' : xs.length = ys.length := Nat.succ.inj hl
    have hx' : ∀ d ∈ xs, d < b := fun d hd => hx d (List.mem_cons_of_mem _ hd)
    have hy' : ∀ d ∈ ys, d < b := fun d hd => hy d (List.mem_cons_of_mem _ hd)
    have tx := ofDigits_lt_pow b xs hx'
    rw [hl'] at tx
    rw [lexCmp, ofDigits_cons, ofDigits_cons, lexCmp_eq_cmpNat_ofDigits b xs ys hl' hx' hy', hl']
    exact cmpNat_digit tx (ofDigits_lt_pow b ys hy')

/-- the base-58 alphabet is strictly increasing in the code points -/
theorem digitChar_step : ∀ d < 57, digitChar d < digitChar (d + 1) := by decide

theorem digitChar_lt {d e : Nat} (hde : d < e) (he : e < 58) : digitChar d < digitChar e := by
  induction e with
  | zero => omega
  | succ e ih =>
    have hs := digitChar_step e (by omega)
    by_cases h : d = e
    · subst h; exact hs
    · exact Nat.lt_trans (ih (by omega) (by omega)) hs

theorem digitChar_mono : ∀ d < 58, ∀ e < 58, cmpNat (digitChar d) (digitChar e) = cmpNat d e := by
  intro d hd e he
  rcases Nat.lt_trichotomy d e with h | rfl | h
  · rw [cmpNat_eq_lt.2 h, cmpNat_eq_lt.2 (digitChar_lt h he)]
  · rw [cmpNat_eq_eq.2 rfl, cmpNat_eq_eq.2 rfl]
  · rw [cmpNat_eq_gt.2 h, cmpNat_eq_gt.2 (digitChar_lt h hd)]

theorem lexCmp_map_digitChar : ∀ (xs ys : List Nat), (∀ d ∈ xs, d < 58) → (∀ d ∈ ys, d < 58) →
    lexCmp (xs.map digitChar) (ys.map digitChar) = lexCmp xs ys
  | [], [], _, _ => rfl
  | [], _ :: _, _, _ => rfl
  | _ :: _, [], _, _ => rfl
  | x :: xs, y :: ys, hx, hy => by
    simp only [List.map_cons, lexCmp]
    rw [digitChar_mono x (hx x (by simp)) y (hy y (by simp)),
      lexCmp_map_digitChar xs ys (fun d hd => hx d (by simp [hd])) (fun d hd => hy d (by simp [hd]))]

/-- Python `str` order of two base58 texts of the same length = lexicographic order of the encoded byte strings
(no leading zero byte: every Tezos binary prefix starts with a non-zero byte) -/
theorem b58enc_order (bs bs' : List Nat) (hb : ∀ x ∈ bs, x < 256) (hb' : ∀ x ∈ bs', x < 256)
    (h0 : bs.head? ≠ some 0) (h0' : bs'.head? ≠ some 0) (hbl : bs.length = bs'.length)
    (htl : (b58enc bs).length = (b58enc bs').length) :
    lexCmp (b58enc bs) (b58enc bs') = lexCmp bs bs' := by
  rw [b58enc_of_head_ne bs h0, b58enc_of_head_ne bs' h0'] at htl ⊢
  simp only [List.length_map] at htl
  have l1 := toDigits_lt 58 (ofDigits 256 bs) (by omega)
  have l2 := toDigits_lt 58 (ofDigits 256 bs') (by omega)
  -- characters → base-58 digits → the number → its base-256 digits; each step keeps the order of strings of equal length
  rw [lexCmp_map_digitChar _ _ l1 l2, lexCmp_eq_cmpNat_ofDigits 58 _ _ htl l1 l2,
    ofDigits_toDigits _ _ (by omega), ofDigits_toDigits _ _ (by omega),
    ← lexCmp_eq_cmpNat_ofDigits 256 bs bs' hbl hb hb']

theorem lexCmp_append : ∀ (a a' c c' : List Nat), a.length = a'.length →
    lexCmp (a ++ c) (a' ++ c') = (lexCmp a a').then (lexCmp c c')
  | [], [], _, _, _ => rfl
  | [], _ :: _, _, _, h => nomatch h
  | _ :: _, [], _, _, h => nomatch h
  | x :: xs, y :: ys, c, c', hl => by
    simp only [List.cons_append, lexCmp]
    rw [lexCmp_append xs ys c c' (Nat.succ.inj hl), Ordering.then_assoc]

theorem head_append_ne {a : List Nat} (h0 : a.head? ≠ some 0) (hne : a ≠ []) (b c : List Nat) :
    (a ++ b ++ c).head? ≠ some 0 := by
  cases a with
  | nil => exact absurd rfl hne
  | cons x xs => exact h0

/-- **bridge**: for two base58check texts `b58enc (prefix ‖ payload ‖ checksum)` of the same length (binary prefixes of
equal length starting with a non-zero byte, payloads of equal length, 4-byte checksums), Python's string order of the
texts is the lexicographic order of `prefix ‖ payload` whenever these differ. -/
theorem b58_text_order (pfx pfx' p p' ck ck' : List Nat)
    (hb : ∀ x ∈ pfx ++ p ++ ck, x < 256) (hb' : ∀ x ∈ pfx' ++ p' ++ ck', x < 256)
    (h0 : pfx.head? ≠ some 0) (h0' : pfx'.head? ≠ some 0) (hne0 : pfx ≠ []) (hne0' : pfx' ≠ [])
    (hpl : pfx.length = pfx'.length) (hl : p.length = p'.length) (hcl : ck.length = ck'.length)
    (htl : (b58enc (pfx ++ p ++ ck)).length = (b58enc (pfx' ++ p' ++ ck')).length)
    (hne : pfx ++ p ≠ pfx' ++ p') :
    lexCmp (b58enc (pfx ++ p ++ ck)) (b58enc (pfx' ++ p' ++ ck')) = lexCmp (pfx ++ p) (pfx' ++ p') := by
  have hh := head_append_ne h0 hne0 p ck
  have hh' := head_append_ne h0' hne0' p' ck'
  rw [b58enc_order _ _ hb hb' hh hh' (by simp [hpl, hl, hcl]) htl, lexCmp_append _ _ _ _ (by simp [hpl, hl])]
  cases h : lexCmp (pfx ++ p) (pfx' ++ p') with
  | eq => exact absurd (lexCmp_eq_eq.1 h) hne
  | lt | gt => rfl

theorem b58_text_order_same_kind (pfx p p' ck ck' : List Nat)
    (hb : ∀ x ∈ pfx ++ p ++ ck, x < 256) (hb' : ∀ x ∈ pfx ++ p' ++ ck', x < 256)
    (h0 : pfx.head? ≠ some 0) (hne0 : pfx ≠ []) (hl : p.length = p'.length) (hcl : ck.length = ck'.length)
    (htl : (b58enc (pfx ++ p ++ ck)).length = (b58enc (pfx ++ p' ++ ck')).length) (hne : p ≠ p') :
    lexCmp (b58enc (pfx ++ p ++ ck)) (b58enc (pfx ++ p' ++ ck')) = lexCmp p p' := by
  rw [b58_text_order pfx pfx p p' ck ck' hb hb' h0 h0 hne0 hne0 rfl hl hcl htl (fun h => hne (List.append_cancel_left h)),
    lexCmp_append _ _ _ _ rfl, lexCmp_refl]
  rfl

/-- binary base58check prefix of an address kind (tz1 tz2 tz3 tz4 KT1 sr1) -/
def binPrefix : Nat → List Nat
  | 0 => [6, 161, 159] | 1 => [6, 161, 161] | 2 => [6, 161, 164] | 3 => [6, 161, 166] | 4 => [2, 90, 121] | _ => [6, 124, 117]

open Impl.Order in
theorem prefix_orders_agree : ∀ k₁ < 6, ∀ k₂ < 6, lexCmp (pfx k₁) (pfx k₂) = lexCmp (binPrefix k₁) (binPrefix k₂) := by decide

theorem binPrefix_inj : ∀ k₁ < 6, ∀ k₂ < 6, binPrefix k₁ = binPrefix k₂ → k₁ = k₂ := by decide

theorem binPrefix_facts : ∀ k < 6, (binPrefix k).length = 3 ∧ (binPrefix k).head? ≠ some 0 ∧ binPrefix k ≠ [] ∧
    ∀ x ∈ binPrefix k, x < 256 := by decide

open Impl.Order in
/-- Python's comparison of two address / key_hash texts (kind `k`, payload `p`, checksum `ck`) is the comparison of
(text prefix of the kind, payload) -/
theorem b58_text_cmp (k₁ k₂ : Nat) (p₁ p₂ ck₁ ck₂ : List Nat) (h₁ : k₁ < 6) (h₂ : k₂ < 6)
    (hp₁ : ∀ x ∈ p₁, x < 256) (hp₂ : ∀ x ∈ p₂, x < 256) (hc₁ : ∀ x ∈ ck₁, x < 256) (hc₂ : ∀ x ∈ ck₂, x < 256)
    (hl : p₁.length = p₂.length) (hcl : ck₁.length = ck₂.length)
    (hck : k₁ = k₂ → p₁ = p₂ → ck₁ = ck₂)
    (htl : (b58enc (binPrefix k₁ ++ p₁ ++ ck₁)).length = (b58enc (binPrefix k₂ ++ p₂ ++ ck₂)).length) :
    lexCmp (b58enc (binPrefix k₁ ++ p₁ ++ ck₁)) (b58enc (binPrefix k₂ ++ p₂ ++ ck₂))
      = (lexCmp (pfx k₁) (pfx k₂)).then (lexCmp p₁ p₂) := by
  have f₁ := binPrefix_facts k₁ h₁
  have f₂ := binPrefix_facts k₂ h₂
  have hlen : (binPrefix k₁).length = (binPrefix k₂).length := by rw [f₁.1, f₂.1]
  rw [prefix_orders_agree k₁ h₁ k₂ h₂, ← lexCmp_append _ _ _ _ hlen]
  by_cases hne : binPrefix k₁ ++ p₁ = binPrefix k₂ ++ p₂
  · -- same kind, same payload: the checksums agree too
    obtain rfl := binPrefix_inj k₁ h₁ k₂ h₂ (List.append_inj_left hne hlen)
    obtain rfl := List.append_cancel_left hne
    rw [hck rfl rfl, lexCmp_refl, lexCmp_refl]
  · exact b58_text_order _ _ _ _ _ _ (List.forall_mem_append.2 ⟨List.forall_mem_append.2 ⟨f₁.2.2.2, hp₁⟩, hc₁⟩)
      (List.forall_mem_append.2 ⟨List.forall_mem_append.2 ⟨f₂.2.2.2, hp₂⟩, hc₂⟩) f₁.2.1 f₂.2.1
      f₁.2.2.1 f₂.2.2.1 hlen hl hcl htl hne

open Impl.Order in
/-- hence the structured comparison used by the model equals the string comparison pytezos performs on the base58check
texts.  `htl` (both texts have the same number of characters) holds for these kinds by the C09 table obligations (all are
36 characters). -/
theorem textLt_is_string_lt (k₁ k₂ : Nat) (p₁ p₂ ck₁ ck₂ : List Nat) (h₁ : k₁ < 6) (h₂ : k₂ < 6)
    (hp₁ : ∀ x ∈ p₁, x < 256) (hp₂ : ∀ x ∈ p₂, x < 256) (hc₁ : ∀ x ∈ ck₁, x < 256) (hc₂ : ∀ x ∈ ck₂, x < 256)
    (hl : p₁.length = p₂.length) (hcl : ck₁.length = ck₂.length)
    (hck : k₁ = k₂ → p₁ = p₂ → ck₁ = ck₂)
    (htl : (b58enc (binPrefix k₁ ++ p₁ ++ ck₁)).length = (b58enc (binPrefix k₂ ++ p₂ ++ ck₂)).length) :
    textLt (pfx k₁) p₁ (pfx k₂) p₂ = (lexCmp (b58enc (binPrefix k₁ ++ p₁ ++ ck₁)) (b58enc (binPrefix k₂ ++ p₂ ++ ck₂))).isLT
    ∧ textEq (pfx k₁) p₁ (pfx k₂) p₂ = (lexCmp (b58enc (binPrefix k₁ ++ p₁ ++ ck₁)) (b58enc (binPrefix k₂ ++ p₂ ++ ck₂)) == .eq) := by
  rw [text_lt, text_eq, b58_text_cmp k₁ k₂ p₁ p₂ ck₁ ck₂ h₁ h₂ hp₁ hp₂ hc₁ hc₂ hl hcl hck htl]
  exact ⟨rfl, rfl⟩

end Order
