/-! The names in the tables read from the source are string literals.  The kernel reads a literal as `String.ofList` of its
characters, and `String.decEq`, `String.toList`, `toUTF8` on it go through the UTF-8 bytes: thousands of steps a call, paid
again at every comparison of a check that compares names.  Two ways round it, one per kind of check: `nameCode` (a name as a
number, computed once per name) where names are only compared, `Spelt` (literals against their characters, found by
unification) where the check looks at the characters. -/
namespace StrTable

def nameCode (s : String) : Nat := s.toUTF8.data.toList.foldl (fun a b => a * 256 + b.toNat) 0

/-- compared with `Nat.beq`, which the kernel evaluates on literals directly -/
def distinct : List Nat → Bool
  | [] => true
  | x :: xs => xs.all (fun y => !Nat.beq x y) && distinct xs

theorem pairwise_of_distinct : ∀ l : List Nat, distinct l = true → l.Pairwise fun x y => x = y → False
  | [], _ => .nil
  | x :: xs, h => by
    simp only [distinct, Bool.and_eq_true, List.all_eq_true, Bool.not_eq_true'] at h
    exact .cons (fun y hy => Nat.ne_of_beq_eq_false (h.1 y hy)) (pairwise_of_distinct xs h.2)

theorem names_ne {l : List String} (h : distinct (l.map nameCode) = true) : l.Pairwise (· ≠ ·) :=
  (List.pairwise_map.mp (pairwise_of_distinct _ h)).imp fun hr e => hr (congrArg nameCode e)

/-- `ss` are the strings whose characters are `ls`; for a list of literals a derivation is found by unification alone -/
inductive Spelt : List String → List (List Char) → Prop
  | nil : Spelt [] []
  | cons (l : List Char) {ss ls} : Spelt ss ls → Spelt (String.ofList l :: ss) (l :: ls)

theorem Spelt.all {ss ls} (h : Spelt ss ls) (g : String → Bool) : ss.all g = ls.all fun l => g (String.ofList l) := by
  induction h with
  | nil => rfl
  | cons l _ ih => rw [List.all_cons, List.all_cons, ih]

end StrTable
