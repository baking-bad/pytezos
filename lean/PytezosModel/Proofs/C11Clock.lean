import PytezosModel.Michelson.ValueEnv
import PytezosModel.Proofs.C11Civil
/-! C11 — the RFC 3339 law of `Env.Lawful` is a theorem for the concrete clock (`VC.Inst.fmtTs` / `VC.Inst.parseTs`,
i.e. `Civil.fmtTimestamp` with the year padding the translator read from the source, and `Civil.parseTimestamp`). -/
namespace VC.Inst
open VC

/-- the range of the model (`rfcLo`, `rfcHi`) is the range on which `datetime` works -/
theorem rfc_bounds : rfcLo = Civil.tsMin ∧ rfcHi = Civil.tsMax := ⟨rfl, rfl⟩

/-- the source pads the year (`f'{dt.year:04d}'`): on the pinned tree (`%Y`) this does not close -/
theorem year_padded : (Generated.C11.yearPadded == some true) = true := by decide

theorem clock_rt (t : Int) (h0 : rfcLo ≤ t) (h1 : t ≤ rfcHi) : parseTs (fmtTs t) = some t := by
  -- `h0`, `h1` are taken as bounds by `Civil.tsMin` / `tsMax`: the same literals (`rfc_bounds`)
  obtain ⟨s, hs, hp⟩ := Civil.parse_fmt t h0 h1
  simp only [fmtTs, parseTs, year_padded, hs, String.toList_ofList]
  exact hp

theorem fmtTs_eq (t : Int) (cs : List Char) (h : Civil.fmtTimestamp true t = some cs) : fmtTs t = String.ofList cs := by
  simp only [fmtTs, year_padded, h]

theorem withCivilClock_lawful (env : Env) (hc : env.LawfulCodecs) : (withCivilClock env).Lawful where
  text_rt := hc.text_rt
  bin_rt := hc.bin_rt
  ts_rt := clock_rt
  lambda_rt := hc.lambda_rt

theorem env_eq_withCivilClock : withCivilClock env = env := rfl

end VC.Inst
