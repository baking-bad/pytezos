import PytezosModel.Michelson.Constants
/-! The mirror `expandWith` against the reference `substWith`, level by level: one run of `_resolve` in closed form over
the list of its lookups (`expand_eq`), from it one level (`level_step`), then induction on the fuel along a rank function
of the acyclic registry (`level`). -/
namespace Proofs.C33
open Impl.Constants Spec.Constants Generated.C33

/-- the shape the proofs are written for (what the pinned source contains) -/
def S0 : ResolveShape := { constPrim := "constant", hashArg := 0, hashField := "string" }

/-- expansion to depth `k`: references are followed `k` times -/
def expandK (reg : Registry) : Nat → Mich → Mich
  | 0, e => e
  | k + 1, e => substWith (fun h => (reg.lookup h).map (expandK reg k)) e

mutual
  theorem substWith_none : (e : Mich) → substWith (fun _ => none) e = e
    | .prim p args an => by
      simp only [substWith]
      split
      · cases refOf (.prim p args an) <;> rfl
      · rw [substWithList_none args]
    | .seq xs => by simp only [substWith, substWithList_none xs]
    | .int _ => rfl
    | .str _ => rfl
    | .bytes _ => rfl
  theorem substWithList_none : (es : List Mich) → substWithList (fun _ => none) es = es
    | [] => rfl
    | e :: es => by simp only [substWithList, substWith_none e, substWithList_none es]
end

mutual
  /-- two rounds fuse: substituting `G` after `L` = substituting `L` with `G` applied to the inserted expressions -/
  theorem substWith_comp (L G : String → Option Mich) (hLG : ∀ h, L h = none → G h = none) :
      (e : Mich) → substWith G (substWith L e) = substWith (fun h => (L h).map (substWith G)) e
    | .prim p args an => by
      by_cases hp : p = "constant"
      · simp only [substWith, hp, if_true]
        cases hr : refOf (.prim "constant" args an) with
        | none => simp [substWith, hr]
        | some h =>
          simp only [Option.bind_some]
          cases hl : L h with
          | none => simp [substWith, hr, hLG h hl]
          | some v => simp
      · simp only [substWith, hp, if_false]
        rw [substWithList_comp L G hLG args]
    | .seq xs => by simp only [substWith, substWithList_comp L G hLG xs]
    | .int _ => rfl
    | .str _ => rfl
    | .bytes _ => rfl
  theorem substWithList_comp (L G : String → Option Mich) (hLG : ∀ h, L h = none → G h = none) :
      (es : List Mich) → substWithList G (substWithList L es) = substWithList (fun h => (L h).map (substWith G)) es
    | [] => rfl
    | e :: es => by simp only [substWithList, substWith_comp L G hLG e, substWithList_comp L G hLG es]
end

theorem iter_eq_expandK (reg : Registry) : ∀ k e, iter (subst1 reg) k e = expandK reg k e := by
  intro k
  induction k with
  | zero => intro e; rfl
  | succ k ih =>
    intro e
    rw [iter, ih]
    -- a round in front of `k` levels is `k + 1` levels: the two substitutions fuse
    cases k with
    | zero =>
      simp only [expandK, subst1]
      congr 1
      funext h
      cases reg.lookup h <;> rfl
    | succ k =>
      simp only [subst1]
      rw [expandK, substWith_comp (fun h => reg.lookup h) (fun h => (reg.lookup h).map (expandK reg k))
        (by intro h hl; simp [hl]) e]
      rfl

mutual
  theorem substWith_noConstant (g : String → Option Mich) : (e : Mich) → noConstant e = true → substWith g e = e
    | .prim p args an => by
      intro h
      simp only [noConstant, Bool.and_eq_true, bne_iff_ne, ne_eq] at h
      simp only [substWith, h.1, if_false, substWithList_noConstant g args h.2]
    | .seq xs => by intro h; simp only [noConstant] at h; simp only [substWith, substWithList_noConstant g xs h]
    | .int _ => fun _ => rfl
    | .str _ => fun _ => rfl
    | .bytes _ => fun _ => rfl
  theorem substWithList_noConstant (g : String → Option Mich) : (es : List Mich) → noConstantList es = true → substWithList g es = es
    | [] => fun _ => rfl
    | e :: es => by
      intro h
      simp only [noConstantList, Bool.and_eq_true] at h
      simp only [substWithList, substWith_noConstant g e h.1, substWithList_noConstant g es h.2]
end

theorem wf_constant {args : List Mich} {an : List String} (h : wf (.prim "constant" args an) = true) :
    ∃ h, args = [.str h] ∧ an = [] := by
  simp only [wf, if_true, refOf] at h
  split at h
  · next p h' heq =>
    cases heq
    exact ⟨h', rfl, rfl⟩
  · cases h

theorem expandWith_ref (kf : String → Except Err Mich) (h : String) :
    expandWith S0 kf (.prim "constant" [.str h] []) = kf h := by
  simp [expandWith, S0, hashOf]

theorem refs_ref (h : String) : refs (.prim "constant" [.str h] []) = [h] := by
  simp [refs, refOf]

/-- on a node that is not a reference the mirror maps itself over the arguments (the shortcut for a node without
arguments returns what the general branch would) -/
theorem expandWith_prim (kf : String → Except Err Mich) {p : String} (hp : p ≠ "constant") (args : List Mich)
    (an : List String) :
    expandWith S0 kf (.prim p args an) = (expandList S0 kf args).map fun args' => .prim p args' an := by
  have hp' : (p == S0.constPrim) = false := by show (p == "constant") = false; simpa using hp
  cases args with
  | nil => simp [expandWith, hp', expandList, Except.map]
  | cons a as =>
    simp only [expandWith, hp', Bool.false_eq_true, if_false, List.isEmpty_cons]
    cases expandList S0 kf (a :: as) <;> rfl

theorem expandWith_seq (kf : String → Except Err Mich) (xs : List Mich) :
    expandWith S0 kf (.seq xs) = (expandList S0 kf xs).map .seq := by
  simp only [expandWith]
  cases expandList S0 kf xs <;> rfl

def raised {α : Type} : Except Err α → Option Err
  | .error e => some e
  | .ok _ => none

/-- `v` after the lookups of `hs` from left to right: the first exception one of them raises, else `v` -/
def afterLookups {α : Type} (kf : String → Except Err Mich) (hs : List String) (v : α) : Except Err α :=
  match hs.findSome? fun h => raised (kf h) with
  | some err => .error err
  | none => .ok v

theorem afterLookups_map {α β : Type} (kf : String → Except Err Mich) (hs : List String) (v : α) (f : α → β) :
    (afterLookups kf hs v).map f = afterLookups kf hs (f v) := by
  unfold afterLookups
  cases hs.findSome? fun h => raised (kf h) <;> rfl

/-- the left side is the body of `expandList` on a cons, word for word -/
theorem afterLookups_cons (kf : String → Except Err Mich) (a b : List String) (x : Mich) (xs : List Mich) :
    (match afterLookups kf a x with
      | .error e => .error e
      | .ok x' =>
        match afterLookups kf b xs with
        | .error e => .error e
        | .ok xs' => .ok (x' :: xs')) = afterLookups kf (a ++ b) (x :: xs) := by
  unfold afterLookups
  rw [List.findSome?_append]
  cases a.findSome? fun h => raised (kf h) with
  | some e => rfl
  | none => cases b.findSome? fun h => raised (kf h) <;> rfl

theorem afterLookups_ok {α : Type} {kf : String → Except Err Mich} {hs : List String} (v : α)
    (h : ∀ h ∈ hs, ∃ r, kf h = .ok r) : afterLookups kf hs v = .ok v := by
  unfold afterLookups
  rw [List.findSome?_eq_none_iff.mpr fun x hx => by obtain ⟨r, hr⟩ := h x hx; rw [hr]; rfl]

mutual
  /-- the mirror in closed form; `g` is any substitution that agrees with the lookups that return -/
  theorem expand_eq (kf : String → Except Err Mich) (g : String → Option Mich) : (e : Mich) → wf e = true →
      (∀ h ∈ refs e, ∀ r, kf h = .ok r → g h = some r) →
      expandWith S0 kf e = afterLookups kf (refs e) (substWith g e)
    | .prim p args an => by
      intro hwf hg
      by_cases hp : p = "constant"
      · subst hp
        obtain ⟨h, rfl, rfl⟩ := wf_constant hwf
        rw [expandWith_ref, refs_ref] at *
        cases hk : kf h with
        | error err => simp [afterLookups, raised, hk]
        | ok r => simp [afterLookups, raised, substWith, refOf, hk, hg h (List.mem_singleton.mpr rfl) r hk]
      · simp only [wf, hp, if_false] at hwf
        simp only [refs, hp, if_false] at hg
        rw [expandWith_prim kf hp, expandList_eq kf g args hwf hg, afterLookups_map]
        simp only [refs, substWith, hp, if_false]
    | .seq xs => by
      intro hwf hg
      simp only [wf] at hwf
      simp only [refs] at hg
      rw [expandWith_seq, expandList_eq kf g xs hwf hg, afterLookups_map]
      simp only [refs, substWith]
    | .int _ => fun _ _ => rfl
    | .str _ => fun _ _ => rfl
    | .bytes _ => fun _ _ => rfl
  theorem expandList_eq (kf : String → Except Err Mich) (g : String → Option Mich) : (es : List Mich) → wfList es = true →
      (∀ h ∈ refsList es, ∀ r, kf h = .ok r → g h = some r) →
      expandList S0 kf es = afterLookups kf (refsList es) (substWithList g es)
    | [] => fun _ _ => rfl
    | e :: es => by
      intro hwf hg
      simp only [wfList, Bool.and_eq_true] at hwf
      simp only [refsList, List.mem_append] at hg
      simp only [expandList, refsList, substWithList]
      rw [expand_eq kf g e hwf.1 fun h hh => hg h (Or.inl hh), expandList_eq kf g es hwf.2 fun h hh => hg h (Or.inr hh)]
      exact afterLookups_cons kf _ _ _ _
end

mutual
  theorem noConstant_substWith (g : String → Option Mich) : (e : Mich) → wf e = true →
      (∀ h ∈ refs e, ∃ r, g h = some r ∧ noConstant r = true) → noConstant (substWith g e) = true
    | .prim p args an => by
      intro hwf hg
      by_cases hp : p = "constant"
      · subst hp
        obtain ⟨h, rfl, rfl⟩ := wf_constant hwf
        obtain ⟨r, h1, h2⟩ := hg h (by simp [refs_ref])
        simpa [substWith, refOf, h1] using h2
      · simp only [wf, hp, if_false] at hwf
        simp only [refs, hp, if_false] at hg
        simpa [substWith, noConstant, hp] using noConstantList_substWith g args hwf hg
    | .seq xs => by
      intro hwf hg
      simp only [wf] at hwf
      simp only [refs] at hg
      simpa [substWith, noConstant] using noConstantList_substWith g xs hwf hg
    | .int _ => fun _ _ => rfl
    | .str _ => fun _ _ => rfl
    | .bytes _ => fun _ _ => rfl
  theorem noConstantList_substWith (g : String → Option Mich) : (es : List Mich) → wfList es = true →
      (∀ h ∈ refsList es, ∃ r, g h = some r ∧ noConstant r = true) → noConstantList (substWithList g es) = true
    | [] => fun _ _ => rfl
    | e :: es => by
      intro hwf hg
      simp only [wfList, Bool.and_eq_true] at hwf
      simp only [refsList, List.mem_append] at hg
      simp only [substWithList, noConstantList, Bool.and_eq_true]
      exact ⟨noConstant_substWith g e hwf.1 fun h hh => hg h (Or.inl hh),
        noConstantList_substWith g es hwf.2 fun h hh => hg h (Or.inr hh)⟩
end

/-- all references resolve: the mirror returns the substituted tree, and no `constant` node is left -/
theorem expand_ok (kf : String → Except Err Mich) (g : String → Option Mich) : (e : Mich) → wf e = true →
    (∀ h ∈ refs e, ∃ r, kf h = .ok r ∧ g h = some r ∧ noConstant r = true) →
    expandWith S0 kf e = .ok (substWith g e) ∧ noConstant (substWith g e) = true := by
  intro e hwf href
  refine ⟨?_, noConstant_substWith g e hwf fun h hh => (href h hh).imp fun _ hr => hr.2⟩
  rw [expand_eq kf g e hwf fun h hh r hr => by obtain ⟨r', h1, h2, _⟩ := href h hh; cases h1.symm.trans hr; exact h2,
    afterLookups_ok _ fun h hh => (href h hh).imp fun _ hr => hr.1]

/-- the result is the error "unknown hash `h'`" for an `h'` satisfying `Q` -/
def Fails {α : Type} (Q : String → Prop) (x : Except Err α) : Prop := ∃ h', x = .error (.unknown h') ∧ Q h'

def OkOrFails {α : Type} (Q : String → Prop) (x : Except Err α) : Prop := (∃ r, x = .ok r) ∨ Fails Q x

theorem afterLookups_fails {α : Type} {kf : String → Except Err Mich} {Q : String → Prop} {hs : List String} (v : α)
    (href : ∀ h ∈ hs, OkOrFails Q (kf h)) :
    OkOrFails Q (afterLookups kf hs v) ∧ ((∃ h ∈ hs, Fails Q (kf h)) → Fails Q (afterLookups kf hs v)) := by
  unfold afterLookups
  cases hf : hs.findSome? fun h => raised (kf h) with
  | some err =>
    -- the exception comes from a lookup, so it is one of the allowed failures
    obtain ⟨h, hh, he⟩ := List.exists_of_findSome?_eq_some hf
    have : Fails Q (.error err : Except Err α) := by
      rcases href h hh with ⟨r, hr⟩ | ⟨h', hk, hq⟩
      · rw [hr] at he; cases he
      · rw [hk] at he; cases he; exact ⟨h', rfl, hq⟩
    exact ⟨Or.inr this, fun _ => this⟩
  | none =>
    refine ⟨Or.inl ⟨v, rfl⟩, ?_⟩
    rintro ⟨h, hh, h', hk, _⟩
    have := List.findSome?_eq_none_iff.mp hf h hh
    rw [hk] at this
    cases this

/-- if every reference either resolves or fails with an unknown hash, so does the whole expansion, and it fails as
soon as one reference does -/
theorem expand_fail (kf : String → Except Err Mich) (Q : String → Prop) : (e : Mich) → wf e = true →
    (∀ h ∈ refs e, OkOrFails Q (kf h)) →
    OkOrFails Q (expandWith S0 kf e) ∧ ((∃ h ∈ refs e, Fails Q (kf h)) → Fails Q (expandWith S0 kf e)) := by
  intro e hwf href
  rw [expand_eq kf (fun h => (kf h).toOption) e hwf fun _ _ _ hr => by rw [hr]; rfl]
  exact afterLookups_fails _ href

theorem expandList_fail (kf : String → Except Err Mich) (Q : String → Prop) : (es : List Mich) → wfList es = true →
    (∀ h ∈ refsList es, OkOrFails Q (kf h)) →
    OkOrFails Q (expandList S0 kf es) ∧ ((∃ h ∈ refsList es, Fails Q (kf h)) → Fails Q (expandList S0 kf es)) := by
  intro es hwf href
  rw [expandList_eq kf (fun h => (kf h).toOption) es hwf fun _ _ _ hr => by rw [hr]; rfl]
  exact afterLookups_fails _ href

theorem reach_mono (reg : Registry) {e v : Mich} {h h' : String} (hh : h ∈ refs e) (hl : reg.lookup h = some v)
    (hr : Reach reg v h') : Reach reg e h' := by
  induction hr with
  | direct hm => exact .step (.direct hh) hl hm
  | step _ hl2 hm ih => exact .step ih hl2 hm

theorem reach_first (reg : Registry) {e : Mich} {h : String} (hr : Reach reg e h) :
    h ∈ refs e ∨ ∃ h1 ∈ refs e, ∃ v1, reg.lookup h1 = some v1 ∧ Reach reg v1 h := by
  induction hr with
  | direct hm => exact Or.inl hm
  | step _ hl hm ih =>
    rcases ih with h0 | ⟨h1, hh1, v1, hl1, hr1⟩
    · exact Or.inr ⟨_, h0, _, hl, .direct hm⟩
    · exact Or.inr ⟨h1, hh1, v1, hl1, .step hr1 hl hm⟩

/-- `_resolve_constant` as the continuation of `_resolve`: an unknown hash raises, the value of a known one is handed to `R` -/
def kont (reg : Registry) (R : Mich → Except Err Mich) (h : String) : Except Err Mich :=
  match reg.lookup h with
  | none => .error (.unknown h)
  | some v => R v

/-- what a run `x` of the mirror on `e` has to deliver: the expansion `r`, free of `constant` nodes, when every hash
`e` reaches is registered; otherwise `KeyError` for an unregistered hash that `e` reaches -/
def LevelSpec (reg : Registry) (x : Except Err Mich) (r e : Mich) : Prop :=
  (AllRegistered reg e → x = .ok r ∧ noConstant r = true) ∧
  (¬ AllRegistered reg e → Fails (fun h' => Reach reg e h' ∧ reg.lookup h' = none) x)

/-- one level: if `R` meets the specification on the registered expressions `e` refers to directly (with `E` as their
expansion), `_resolve` with `R` behind the lookups meets it on `e` -/
theorem level_step (reg : Registry) (R : Mich → Except Err Mich) (E : Mich → Mich) (g : String → Option Mich) (e : Mich)
    (hwf : wf e = true) (hg : ∀ h ∈ refs e, g h = (reg.lookup h).map E)
    (hR : ∀ h ∈ refs e, ∀ v, reg.lookup h = some v → LevelSpec reg (R v) (E v) v) :
    LevelSpec reg (expandWith S0 (kont reg R) e) (substWith g e) e := by
  constructor
  · intro hall
    refine expand_ok (kont reg R) g e hwf fun h hh => ?_
    cases hl : reg.lookup h with
    | none => exact absurd hl (hall h (.direct hh))
    | some v =>
      obtain ⟨h1, h2⟩ := (hR h hh v hl).1 fun h2 hr2 => hall h2 (reach_mono reg hh hl hr2)
      exact ⟨E v, by simp [kont, hl, h1], by simp [hg h hh, hl], h2⟩
  · intro hnall
    obtain ⟨h, hr, hl⟩ : ∃ h, Reach reg e h ∧ reg.lookup h = none :=
      Classical.byContradiction fun hc => hnall fun h hr hl => hc ⟨h, hr, hl⟩
    have hf := expand_fail (kont reg R) (fun h' => Reach reg e h' ∧ reg.lookup h' = none) e hwf (by
      intro h2 hh2
      cases hl2 : reg.lookup h2 with
      | none => exact Or.inr ⟨h2, by simp [kont, hl2], .direct hh2, hl2⟩
      | some v =>
        by_cases hallv : AllRegistered reg v
        · exact Or.inl ⟨E v, by simp [kont, hl2, ((hR h2 hh2 v hl2).1 hallv).1]⟩
        · obtain ⟨h', he, hr', hl'⟩ := (hR h2 hh2 v hl2).2 hallv
          exact Or.inr ⟨h', by simp [kont, hl2, he], reach_mono reg hh2 hl2 hr', hl'⟩)
    apply hf.2
    rcases reach_first reg hr with h0 | ⟨h1, hh1, v1, hl1, hr1⟩
    · exact ⟨h, h0, h, by simp [kont, hl], hr, hl⟩
    · obtain ⟨h', he, hr', hl'⟩ := (hR h1 hh1 v1 hl1).2 fun ha => ha h hr1 hl
      exact ⟨h1, hh1, h', by simp [kont, hl1, he], reach_mono reg hh1 hl1 hr', hl'⟩

/-- induction on the fuel, which a rank function of the reference graph keeps above the rank of every direct reference -/
theorem level (reg : Registry) (rank : String → Nat)
    (hrank : ∀ h v, reg.lookup h = some v → ∀ h' ∈ refs v, reg.lookup h' ≠ none → rank h' < rank h) :
    ∀ k e, wf e = true → (∀ h v, Reach reg e h → reg.lookup h = some v → wf v = true) →
      (∀ h ∈ refs e, reg.lookup h ≠ none → rank h < k) →
      LevelSpec reg (resolveFuel S0 reg k e) (expandK reg k e) e := by
  intro k
  -- by definition `resolveFuel S0 reg 0` is `expandWith S0 (kont reg fun _ => .error .recursion)` and
  -- `resolveFuel S0 reg (k + 1)` is `expandWith S0 (kont reg (resolveFuel S0 reg k))`: both cases are instances of `level_step`
  induction k with
  | zero =>
    intro e hwf _ hk
    -- rank below 0: no direct reference is registered, so the continuation is never entered
    have hnoreg : ∀ h ∈ refs e, reg.lookup h = none := fun h hh =>
      Classical.byContradiction fun hne => Nat.not_lt_zero _ (hk h hh hne)
    have := level_step reg (fun _ => .error .recursion) id (fun _ => none) e hwf (fun h hh => by simp [hnoreg h hh])
      (fun h hh v hl => by rw [hnoreg h hh] at hl; cases hl)
    rw [substWith_none] at this
    exact this
  | succ k ih =>
    intro e hwf hwfr hk
    exact level_step reg (resolveFuel S0 reg k) (expandK reg k) _ e hwf (fun _ _ => rfl) fun h hh v hl =>
      ih v (hwfr h v (.direct hh) hl) (fun h2 v2 hr2 hl2 => hwfr h2 v2 (reach_mono reg hh hl hr2) hl2)
        fun h2 hh2 hl2 => by
          have h1 := hrank h v hl h2 hh2 hl2
          have h3 := hk h hh (by simp [hl])
          omega

/-- … with the fuel `resolve` starts from: the registry size bounds every rank of an acyclic registry -/
theorem resolve_level (reg : Registry) (e : Mich) (hA : Acyclic reg) (hW : WellFormed reg e) :
    LevelSpec reg (resolveFuel S0 reg reg.length e) (expandK reg reg.length e) e := by
  obtain ⟨rank, hrank⟩ := hA
  refine level reg rank (fun h v hl => (hrank h v hl).2) reg.length e hW.1 hW.2 fun h _ hne => ?_
  cases hl : reg.lookup h with
  | none => exact absurd hl hne
  | some v => exact (hrank h v hl).1

/-! ### the example registry used for the non-vacuity instances in `Props/C33.lean` -/

def regEx : Registry :=
  [("hB", .prim "pair" [.prim "constant" [.str "hA"] [], .prim "nat" [] ["%n"]] ["%p"]), ("hA", .prim "int" [] [])]

def scriptEx : Mich :=
  .seq [.prim "storage" [.prim "or" [.prim "constant" [.str "hB"] [], .prim "constant" [.str "hA"] []] [":t"]] []]

theorem regEx_lookup (h : String) (v : Mich) (hl : regEx.lookup h = some v) :
    (h = "hB" ∧ v = .prim "pair" [.prim "constant" [.str "hA"] [], .prim "nat" [] ["%n"]] ["%p"]) ∨ (h = "hA" ∧ v = .prim "int" [] []) := by
  simp only [regEx, List.lookup] at hl
  split at hl
  · next heq => left; exact ⟨by simpa using heq, by cases hl; rfl⟩
  · split at hl
    · next heq => right; exact ⟨by simpa using heq, by cases hl; rfl⟩
    · cases hl

end Proofs.C33
