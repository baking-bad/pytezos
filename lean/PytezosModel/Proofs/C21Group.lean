import PytezosModel.Michelson.Bls
/-! C21 helper lemmas: consequences of the assumed group laws (`CurveLaws`) and of bilinearity (`PairingLaws`),
and the modular-arithmetic identities behind the Fr instructions. -/
namespace Bls

section group
variable {K : CurveOps} {n : Nat} (hK : CurveLaws K n)
include hK

theorem add_zero' (P : K.G) : K.add P K.zero = P := by rw [hK.add_comm, hK.zero_add]

theorem add_neg' (P : K.G) : K.add P (K.neg P) = K.zero := by rw [hK.add_comm, hK.neg_add]

theorem add_left_cancel' (P Q R : K.G) (h : K.add P Q = K.add P R) : Q = R := by
  have := congrArg (K.add (K.neg P)) h
  rwa [← hK.add_assoc, ← hK.add_assoc, hK.neg_add, hK.zero_add, hK.zero_add] at this

theorem eq_neg_of_add_eq_zero (P Q : K.G) (h : K.add Q P = K.zero) : Q = K.neg P := by
  apply add_left_cancel' hK P
  rw [hK.add_comm P Q, h, add_neg' hK]

theorem neg_zero' : K.neg K.zero = K.zero := by
  have := hK.neg_add K.zero
  rwa [add_zero' hK] at this

theorem neg_neg' (P : K.G) : K.neg (K.neg P) = P :=
  (eq_neg_of_add_eq_zero hK (K.neg P) P (add_neg' hK P)).symm

theorem mul_one' (P : K.G) : K.mul P 1 = P := by
  have := hK.mul_succ P 0
  rwa [hK.mul_zero, hK.zero_add] at this

theorem mul_add' (P : K.G) (a b : Nat) : K.mul P (a + b) = K.add (K.mul P a) (K.mul P b) := by
  induction b with
  | zero => rw [Nat.add_zero, hK.mul_zero, add_zero' hK]
  | succ b ih => rw [← Nat.add_assoc, hK.mul_succ, ih, hK.mul_succ, hK.add_assoc]

theorem mul_mul' (P : K.G) (a b : Nat) : K.mul P (a * b) = K.mul (K.mul P a) b := by
  induction b with
  | zero => rw [Nat.mul_zero, hK.mul_zero, hK.mul_zero]
  | succ b ih => rw [Nat.mul_succ, mul_add' hK, ih, hK.mul_succ]

theorem mul_zero_pt (a : Nat) : K.mul K.zero a = K.zero := by
  induction a with
  | zero => exact hK.mul_zero _
  | succ a ih => rw [hK.mul_succ, ih, hK.zero_add]

theorem mul_add_pt (P Q : K.G) (a : Nat) : K.mul (K.add P Q) a = K.add (K.mul P a) (K.mul Q a) := by
  induction a with
  | zero => rw [hK.mul_zero, hK.mul_zero, hK.mul_zero, hK.zero_add]
  | succ a ih =>
    rw [hK.mul_succ, ih, hK.mul_succ, hK.mul_succ]
    -- (pa + qa) + (p + q) = (pa + p) + (qa + q)
    rw [hK.add_assoc, hK.add_assoc]
    congr 1
    rw [← hK.add_assoc, ← hK.add_assoc, hK.add_comm (K.mul Q a) P]

theorem mul_mod' (P : K.G) (a : Nat) : K.mul P (a % r) = K.mul P a := by
  conv => rhs; rw [← Nat.div_add_mod a r]
  rw [mul_add' hK, mul_mul' hK, hK.order, mul_zero_pt hK, hK.zero_add]

theorem mul_neg_one (P : K.G) : K.mul P (r - 1) = K.neg P := by
  apply eq_neg_of_add_eq_zero hK
  have : r - 1 + 1 = r := by have : 0 < r := by decide
                             omega
  rw [← hK.mul_succ, this, hK.order]

end group

section pairing
variable {E : Env} (hE : PairingLaws E)
include hE

theorem t_mul_one (x : E.T.GT) : E.T.mul x E.T.one = x := by rw [hE.mul_comm, hE.one_mul]

theorem pair_mul_swap (h1 : CurveLaws E.K1 2) (h2 : CurveLaws E.K2 4) (Q : E.K2.G) (P : E.K1.G) (n : Nat) :
    E.pairing (E.K2.mul Q n) P = E.pairing Q (E.K1.mul P n) := by
  induction n with
  | zero => rw [h1.mul_zero, h2.mul_zero, hE.pair_zero_left, hE.pair_zero_right]
  | succ n ih => rw [h1.mul_succ, h2.mul_succ, hE.pair_add_left, hE.pair_add_right, ih]

theorem pair_neg_right (h1 : CurveLaws E.K1 2) (Q : E.K2.G) (P : E.K1.G) :
    E.T.mul (E.pairing Q P) (E.pairing Q (E.K1.neg P)) = E.T.one := by
  rw [← hE.pair_add_right, add_neg' h1, hE.pair_zero_right]

end pairing

/-! Python's `%` with a positive modulus is `Int.emod`. -/

theorem emod_add_assoc (a b c m : Int) : ((a + b) % m + c) % m = (a + (b + c) % m) % m := by
  rw [Int.emod_add_emod, Int.add_emod_emod, Int.add_assoc]

theorem emod_mul_emod' (a c m : Int) : (a % m * c) % m = (a * c) % m := by
  rw [Int.mul_emod, Int.emod_emod, ← Int.mul_emod]

theorem mul_emod_emod' (a c m : Int) : (a * (c % m)) % m = (a * c) % m := by
  rw [Int.mul_emod, Int.emod_emod, ← Int.mul_emod]

theorem emod_mul_assoc (a b c m : Int) : ((a * b) % m * c) % m = (a * ((b * c) % m)) % m := by
  rw [emod_mul_emod', mul_emod_emod', Int.mul_assoc]

theorem emod_distrib (a b c m : Int) : ((a + b) % m * c) % m = ((a * c) % m + (b * c) % m) % m := by
  rw [emod_mul_emod', Int.emod_add_emod, Int.add_emod_emod, Int.add_mul]

theorem neg_emod_emod' (z m : Int) : (-(z % m)) % m = (-z) % m := by
  have h1 := Int.sub_emod 0 z m
  have h2 := Int.sub_emod 0 (z % m) m
  rw [Int.emod_emod] at h2
  rw [Int.zero_sub] at h1 h2
  rw [h1, h2]

theorem emod_add_neg (a m : Int) : (a + (-a) % m) % m = 0 := by
  rw [Int.add_emod_emod, Int.add_right_neg, Int.zero_emod]

end Bls
