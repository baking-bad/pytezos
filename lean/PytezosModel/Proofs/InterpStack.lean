import PytezosModel.Michelson.Interp.Impl
import PytezosModel.Proofs.InterpTables
/-! The protected-prefix stack of pytezos against plain lists: a stack whose protected prefix is `pre` and whose
visible part is `st` behaves, for every primitive, like the list `st`. -/
namespace Interp

/-- the `MichelsonStack` with items `pre ++ st` and `protected = |pre|` -/
def stk (pre st : List Val) : Stack := ⟨pre ++ st, pre.length⟩

theorem drop_of_getElem? {α : Type} {l : List α} {n : Nat} {x : α} (h : l[n]? = some x) :
    n < l.length ∧ l.drop n = x :: l.drop (n + 1) := by
  obtain ⟨hlt, rfl⟩ := List.getElem?_eq_some_iff.1 h
  exact ⟨hlt, List.drop_eq_getElem_cons hlt⟩

namespace Stack

/-- the three index expressions of stack.py are `self.protected` (`Proofs/InterpTables.lean`) -/
@[simp] theorem idx_push (s : Stack) : s.idx Generated.C01.pushIndex = s.protected_ := by rw [pushIndex_eq]; rfl
@[simp] theorem idx_pop (s : Stack) : s.idx Generated.C01.popIndex = s.protected_ := by rw [popIndex_eq]; rfl
@[simp] theorem idx_peek (s : Stack) : s.idx Generated.C01.peekIndex = s.protected_ := by rw [peekIndex_eq]; rfl

@[simp] theorem push_mk (pre st : List Val) (v : Val) : (stk pre st).push v = stk pre (v :: st) := by
  simp [push, stk]

@[simp] theorem peek_mk_cons (pre st : List Val) (a : Val) : (stk pre (a :: st)).peek = .ok a := by
  simp [peek, stk]

theorem pop_mk (pre st : List Val) (n : Nat) :
    (stk pre st).pop n = if st.length < n then .stuck else .ok (st.take n, stk pre (st.drop n)) := by
  simp only [pop, idx_pop, stk, List.length_append, Nat.add_sub_cancel_left, List.drop_left, List.take_left]
  split <;> rfl

@[simp] theorem pop1_mk_cons (pre st : List Val) (a : Val) : (stk pre (a :: st)).pop1 = .ok (a, stk pre st) := by
  simp [pop1, pop_mk]

@[simp] theorem pop1_mk_nil (pre : List Val) : (stk pre []).pop1 = .stuck := by
  simp [pop1, pop_mk]

@[simp] theorem pop2_mk_cons (pre st : List Val) (a b : Val) :
    (stk pre (a :: b :: st)).pop2 = .ok (a, b, stk pre st) := by
  have h : ¬ (st.length + 1 + 1 < 2) := by omega
  simp [pop2, pop_mk, h]

@[simp] theorem pop2_mk_one (pre : List Val) (a : Val) : (stk pre [a]).pop2 = .stuck := by
  simp [pop2, pop_mk]

@[simp] theorem pop2_mk_nil (pre : List Val) : (stk pre []).pop2 = .stuck := by
  simp [pop2, pop_mk]

@[simp] theorem pop3_mk_cons (pre st : List Val) (a b c : Val) :
    (stk pre (a :: b :: c :: st)).pop3 = .ok (a, b, c, stk pre st) := by
  have h : ¬ (st.length + 1 + 1 + 1 < 3) := by omega
  simp [pop3, pop_mk, h]

theorem protect_mk (pre st : List Val) (n : Nat) (h : n ≤ st.length) :
    (stk pre st).protect n = .ok (stk (pre ++ st.take n) (st.drop n)) := by
  have h1 : ¬ (pre.length + st.length < n) := by omega
  simp [protect, stk, h1, List.length_take, Nat.min_eq_left h]

theorem restore_mk (pre xs st : List Val) :
    (stk (pre ++ xs) st).restore xs.length = .ok (stk pre (xs ++ st)) := by
  simp [restore, stk]

theorem restore_take (pre st st' : List Val) (n : Nat) (h : n ≤ st.length) :
    (stk (pre ++ st.take n) st').restore n = .ok (stk pre (st.take n ++ st')) := by
  have := restore_mk pre (st.take n) st'
  rwa [List.length_take, Nat.min_eq_left h] at this

end Stack
end Interp
