import PytezosModel.Michelson.BigMap
import PytezosModel.Props.C14
/-! helper lemmas for C15 (big maps): lookup in association lists, and `BigMapType.update` (repaired shape) against the
layered dictionary.  On the stored items `update` is `MapType.update` (`updateWith_items`), so sortedness and the lookups
after it are those of C14. -/
namespace Proofs.C15
open Impl.BigMap Spec.BigMap Generated.C15
variable {K V : Type} [DecidableEq K]

theorem lookup_nil (k : K) : lookup ([] : List (K × Option V)) k = none := rfl

theorem lookup_cons (e : K × Option V) (xs : List (K × Option V)) (k : K) :
    lookup (e :: xs) k = if e.1 = k then some e.2 else lookup xs k := by
  simp only [lookup, List.find?_cons]
  by_cases h : e.1 = k
  · simp only [h, beq_self_eq_true, if_true, Option.map_some]
  · simp only [beq_false_of_ne h, if_neg h]

theorem lookup_append (xs ys : List (K × Option V)) (k : K) :
    lookup (xs ++ ys) k = match lookup xs k with | some v => some v | none => lookup ys k := by
  simp only [lookup, List.find?_append]
  cases List.find? (fun e => e.1 == k) xs <;> rfl

theorem lookup_removed (rs : List K) (k : K) :
    lookup (rs.map fun r => (r, (none : Option V))) k = if k ∈ rs then some none else none := by
  induction rs with
  | nil => rfl
  | cons r rs ih => simp only [List.map_cons, lookup_cons, ih, List.mem_cons, eq_comm (a := k)]; split <;> simp [*]

theorem lookup_none_iff (xs : List (K × Option V)) (k : K) : lookup xs k = none ↔ ∀ e ∈ xs, e.1 ≠ k := by
  simp [lookup]

theorem lookup_some_mem (xs : List (K × Option V)) (k : K) (v : Option V) (h : lookup xs k = some v) : (k, v) ∈ xs := by
  simp only [lookup, Option.map_eq_some_iff] at h
  obtain ⟨e, he, rfl⟩ := h
  have := List.find?_some he
  simp only [beq_iff_eq] at this
  exact this ▸ List.mem_of_find?_eq_some he

theorem overlay_eq (b : BM K V) (k : K) :
    overlay b k = if k ∈ b.removed then some none else lookup b.items k := by
  simp only [overlay, lookup]
  by_cases h : k ∈ b.removed
  · simp [h]
  · simp only [h, if_false]
    cases List.find? (fun e => e.1 == k) b.items <;> rfl

theorem findLocal_eq_overlay {b : BM K V} (hd : ∀ k ∈ b.removed, ∀ e ∈ b.items, e.1 ≠ k) (k : K) :
    findLocal b k = overlay b k := by
  simp only [findLocal, selfIter, lookup_append, lookup_removed, overlay_eq]
  by_cases h : k ∈ b.removed
  · have : lookup b.items k = none := (lookup_none_iff _ _).2 (hd k h)
    simp [h, this]
  · simp only [h, if_false]
    cases lookup b.items k <;> rfl

theorem get_eq_dict {b : BM K V} (hd : ∀ k ∈ b.removed, ∀ e ∈ b.items, e.1 ≠ k) (chain : K → Option V) (k : K) :
    get chain b k = dict chain b k := by
  simp only [Impl.BigMap.get, dict, layered, findLocal_eq_overlay hd]

theorem dict_eq (chain : K → Option V) (b : BM K V) (k : K) :
    dict chain b k = if k ∈ b.removed then none else match lookup b.items k with | some x => x | none => chain k := by
  simp only [dict, layered, overlay_eq]
  by_cases h : k ∈ b.removed
  · simp [h]
  · simp only [h, if_false]
    cases lookup b.items k <;> rfl

theorem lookup_of_mem {xs : List (K × Option V)} (h : xs.Pairwise (fun a b => a.1 ≠ b.1)) {e : K × Option V} (he : e ∈ xs) :
    lookup xs e.1 = some e.2 := by
  induction xs with
  | nil => cases he
  | cons x xs ih =>
    have hx := List.pairwise_cons.1 h
    rw [lookup_cons]
    rcases List.mem_cons.1 he with rfl | he
    · rw [if_pos rfl]
    · rw [if_neg (hx.1 e he), ih hx.2 he]

theorem any_key_eq (xs : List (K × Option V)) (k : K) : xs.any (fun e => e.1 == k) = (lookup xs k).isSome := by
  rw [lookup, Option.isSome_map, Bool.eq_iff_iff, List.any_eq_true, List.find?_isSome]

theorem applyUpdates_eq (d : Dict K V) (us : List (K × Option V)) (h : us.Pairwise (fun a c => a.1 ≠ c.1)) (k : K) :
    applyUpdates d us k = match lookup us k with | some v => v | none => d k := by
  induction us generalizing d with
  | nil => rfl
  | cons u us ih =>
    have hu := List.pairwise_cons.1 h
    have := ih (d.set u.1 u.2) hu.2
    simp only [applyUpdates, List.foldl_cons] at this ⊢
    rw [this, lookup_cons]
    by_cases hk : u.1 = k
    · rw [(lookup_none_iff _ _).2 fun e he hek => hu.1 e he (hk.trans hek.symm)]
      simp [hk, Dict.set]
    · simp only [hk, if_false, Dict.set, Ne.symm hk]

theorem toSet_mem (xs : List K) (k : K) : k ∈ toSet xs ↔ k ∈ xs := by
  induction xs with
  | nil => simp [toSet]
  | cons x xs ih =>
    simp only [toSet]
    split
    · exact ⟨fun h => List.mem_cons_of_mem _ (ih.1 h), fun h => (List.mem_cons.1 h).elim (· ▸ ‹x ∈ toSet xs›) ih.2⟩
    · simp [ih]

theorem toSet_nodup (xs : List K) (h : xs.Nodup) : toSet xs = xs := by
  induction xs with
  | nil => rfl
  | cons x xs ih =>
    have hx := List.nodup_cons.1 h
    simp only [toSet, ih hx.2, hx.1, if_false]

theorem toSet_length_le (xs : List K) : (toSet xs).length ≤ xs.length := by
  induction xs with
  | nil => simp [toSet]
  | cons x xs ih =>
    simp only [toSet]
    split <;> simp <;> omega

theorem nodup_of_toSet_length (xs : List K) (h : (toSet xs).length = xs.length) : xs.Nodup := by
  induction xs with
  | nil => exact List.nodup_nil
  | cons x xs ih =>
    simp only [toSet] at h
    have hle := toSet_length_le xs
    by_cases hx : x ∈ toSet xs
    · simp only [hx, if_true, List.length_cons] at h; omega
    · simp only [hx, if_false, List.length_cons] at h
      exact List.nodup_cons.2 ⟨fun hm => hx ((toSet_mem xs x).2 hm), ih (by omega)⟩

omit [DecidableEq K] in
theorem keys_ne_of_sorted {lt : K → K → Bool} (hs : StrictTotal lt) {xs : List (K × Option V)}
    (h : xs.Pairwise (fun a b => lt a.1 b.1 = true)) : xs.Pairwise (fun a b => a.1 ≠ b.1) := by
  refine h.imp ?_
  intro a b hab e
  rw [e, hs.irrefl] at hab
  cases hab

variable {lt : K → K → Bool}

theorem mem_dropKey (rs : List K) (k r : K) : r ∈ (if k ∈ rs then setRemove rs k else rs) ↔ r ∈ rs ∧ r ≠ k := by
  split
  · simp [setRemove]
  · exact ⟨fun h => ⟨h, fun e => ‹k ∉ rs› (e ▸ h)⟩, fun h => h.1⟩

omit [DecidableEq K] in
theorem insertByKey_eq {α : Type} (x : K × α) (ys : List (K × α)) : insertByKey lt x ys = Impl.Coll.insBy lt Prod.fst x ys := by
  induction ys with
  | nil => rfl
  | cons y ys ih => simp only [insertByKey, Impl.Coll.insBy, ih]

omit [DecidableEq K] in
theorem sortByKey_eq {α : Type} (xs : List (K × α)) : sortByKey lt xs = Impl.Coll.sortBy lt Prod.fst xs := by
  simp only [sortByKey, Impl.Coll.sortBy, insertByKey_eq]

theorem _root_.Impl.BigMap.StrictTotal.coll (hs : StrictTotal lt) : Coll.StrictTotal (· == ·) lt :=
  ⟨fun _ _ => beq_iff_eq, hs.irrefl, hs.trans, fun a b => (Decidable.em (a = b)).imp_right (hs.total a b)⟩

omit [DecidableEq K] in
theorem _root_.Impl.BigMap.StrictTotal.of_coll {eq : K → K → Bool} (h : Coll.StrictTotal eq lt) : StrictTotal lt :=
  ⟨h.irrefl, h.trans, fun a b hne => (h.total a b).resolve_left hne⟩

/-- iterate the stored items only; a key known from the context only is inserted -/
def shOK : UpdateShape := ⟨.items, true⟩

/-- on the stored items `BigMapType.update` does what `MapType.update` does (replace by `map`, remove by `filter`, insert
by `sorted(items + [(k, v)])`).  It chooses the branch by `prev`, the value of the whole layered dictionary, where
`MapType.update` looks at the items only; the two agree when a key without a value is not stored. -/
theorem updateWith_items (b : BM K V) (k : K) (v prev : Option V) (h : prev = none → lookup b.items k = none) :
    (updateWith shOK lt b k v prev).items = (Impl.Coll.Map.update (· == ·) lt b.items k (v.map some)).2 := by
  have hg : Impl.Coll.Map.get (· == ·) b.items k = lookup b.items k := rfl
  simp only [updateWith, shOK, updIter, if_true, any_key_eq, Impl.Coll.Map.update, hg, sortByKey_eq]
  cases hl : lookup b.items k with
  | some x =>
    cases prev with
    | none => rw [h rfl] at hl; cases hl
    | some p => cases v <;> rfl
  | none =>
    cases prev with
    | none => cases v <;> rfl
    | some p =>
      cases v with
      | none => exact List.filter_eq_self.2 fun e he => bne_iff_ne.2 ((lookup_none_iff _ _).1 hl e he)
      | some nv => rfl

theorem updateWith_removed {b : BM K V} (hn : b.removed.Nodup) (k : K) (v prev : Option V) (hk : prev.isSome → k ∉ b.removed) :
    (updateWith shOK lt b k v prev).removed.Nodup ∧
    ∀ r, r ∈ (updateWith shOK lt b k v prev).removed ↔
      if v.isSome then r ∈ b.removed ∧ r ≠ k else r ∈ b.removed ∨ (r = k ∧ prev.isSome) := by
  cases prev with
  | none =>
    cases v with
    | none => simp only [updateWith, toSet_nodup _ hn]; exact ⟨hn, fun r => by simp⟩
    | some nv =>
      simp only [updateWith, toSet_nodup _ hn]
      refine ⟨?_, mem_dropKey _ _⟩
      split
      · exact hn.filter _
      · exact hn
  | some p =>
    have hk := hk rfl
    cases v with
    | none =>
      simp only [updateWith, toSet_nodup _ hn, setAdd, if_neg hk]
      exact ⟨List.nodup_append.2 ⟨hn, List.pairwise_singleton _ k, fun a ha c hc => by rw [List.mem_singleton.1 hc]; exact fun e => hk (e ▸ ha)⟩,
        fun r => by simp⟩
    | some nv =>
      simp only [updateWith, toSet_nodup _ hn]
      exact ⟨hn, fun r => ⟨fun h => ⟨h, fun e => hk (e ▸ h)⟩, fun h => h.1⟩⟩

theorem inv_iff (hs : StrictTotal lt) (b : BM K V) :
    Inv lt b ↔ b.items.Pairwise (fun x y => lt x.1 y.1 = true) ∧ (∀ k, lookup b.items k ≠ some none) ∧
      (∀ k ∈ b.removed, lookup b.items k = none) ∧ b.removed.Nodup := by
  constructor
  · intro hI
    exact ⟨hI.sorted, fun k hk => hI.noNone _ (lookup_some_mem _ _ _ hk) rfl, fun k hk => (lookup_none_iff _ _).2 (hI.disjoint k hk), hI.nodup⟩
  · intro ⟨h1, h2, h3, h4⟩
    exact ⟨h1, fun e he hn => h2 e.1 (hn ▸ lookup_of_mem (keys_ne_of_sorted hs h1) he), fun k hk => (lookup_none_iff _ _).1 (h3 k hk), h4⟩

theorem updateSh_ok (hs : StrictTotal lt) {b : BM K V} (hI : Inv lt b) (chain : K → Option V) (k : K) (v : Option V) :
    (updateSh shOK lt chain b k v).1 = dict chain b k ∧
    Inv lt (updateSh shOK lt chain b k v).2 ∧
    dict chain (updateSh shOK lt chain b k v).2 = (dict chain b).set k v := by
  have hg := get_eq_dict hI.disjoint chain k
  refine ⟨hg, ?_⟩
  obtain ⟨h1, h2, h3, h4⟩ := (inv_iff hs b).1 hI
  have hd := dict_eq chain b k
  simp only [updateSh, hg]
  generalize dict chain b k = prev at hd ⊢
  -- a key without a value in the dictionary is not among the stored items; one with a value is not among the removed keys
  have hnone : prev = none → lookup b.items k = none := fun hp => by
    rw [hp] at hd
    cases hl : lookup b.items k with
    | none => rfl
    | some x =>
      rw [hl] at hd
      by_cases hr : k ∈ b.removed
      · cases (h3 k hr).symm.trans hl
      · rw [if_neg hr] at hd; exact absurd (hd ▸ hl) (h2 k)
  have hsome : prev.isSome → k ∉ b.removed := fun hp hr => by rw [hd, if_pos hr] at hp; cases hp
  obtain ⟨hr1, hr2⟩ := updateWith_removed (lt := lt) h4 k v prev hsome
  -- the stored items are those of C14's `update`: sorted, and looked up by its two dictionary laws
  have hi := updateWith_items (lt := lt) b k v prev hnone
  have hm : C14.InvMap lt b.items := (List.pairwise_map).2 h1
  have hl : ∀ k', lookup (updateWith shOK lt b k v prev).items k' = if k' = k then v.map some else lookup b.items k' := by
    intro k'
    rw [hi]
    split
    · rw [‹k' = k›]; exact C14.get_update_same hs.coll hm k _
    · exact C14.get_update_other hs.coll hm k k' _ ‹_›
  refine ⟨(inv_iff hs _).2 ⟨?_, ?_, ?_, hr1⟩, ?_⟩
  · exact (List.pairwise_map).1 (hi ▸ C14.step_inv hs.coll hm (.update k (v.map some)) rfl)
  · intro k'
    rw [hl]
    split
    · cases v <;> nofun
    · exact h2 k'
  · intro k' hk'
    have hk' := (hr2 k').1 hk'
    rw [hl]
    cases v with
    | none =>
      split
      · rfl
      · exact h3 k' (hk'.resolve_right fun e => ‹¬k' = k› e.1)
    | some nv => rw [if_neg hk'.2]; exact h3 k' hk'.1
  · funext k'
    simp only [dict_eq, Dict.set, hl, hr2]
    by_cases h : k' = k
    · cases v with
      | none =>
        simp only [h, Option.isSome_none, Bool.false_eq_true, if_false, true_and, Option.map_none, if_true]
        split
        · rfl
        · -- neither removed nor stored, and without a value: the chain has none
          rename_i hn
          have hp : prev = none := Option.not_isSome_iff_eq_none.1 fun h => hn (.inr h)
          rw [if_neg fun h => hn (.inl h), hnone hp, hp] at hd
          exact hd.symm
      | some nv => simp [h]
    · cases v <;> simp [h]

theorem stepSh_ok (hs : StrictTotal lt) {b : BM K V} (hI : Inv lt b) (chain : K → Option V) (op : Op K V) :
    (stepSh shOK lt chain b op).1 = (step (dict chain b) op).1 ∧
    dict chain (stepSh shOK lt chain b op).2 = (step (dict chain b) op).2 ∧ Inv lt (stepSh shOK lt chain b op).2 := by
  cases op with
  | get k => exact ⟨by simp only [stepSh, step, get_eq_dict hI.disjoint], rfl, hI⟩
  | mem k => exact ⟨by simp only [stepSh, step, contains, get_eq_dict hI.disjoint], rfl, hI⟩
  | update k v => exact ⟨rfl, (updateSh_ok hs hI chain k v).2.2, (updateSh_ok hs hI chain k v).2.1⟩
  | getAndUpdate k v =>
    obtain ⟨h1, h2, h3⟩ := updateSh_ok hs hI chain k v
    exact ⟨by simp only [stepSh, step, h1], h3, h2⟩

theorem mergeShape_eq : mergeShape = some .isNotNone := by decide

omit [DecidableEq K] in
/-- `merge_lazy_diff` (shape `is not None`) of the emitted updates gives the local layer back, when no stored item holds `None` -/
theorem mergeLazyDiff_emitted {b : BM K V} (hn : ∀ e ∈ b.items, e.2 ≠ none) (falsy : V → Bool) (p : Int) :
    mergeLazyDiff falsy p (diffUpdates b) = some ⟨b.items, b.removed, some p⟩ := by
  have hv : ∀ o : Option V, hasValue .isNotNone falsy o = o.isSome := fun o => by cases o <;> rfl
  have hi : ∀ e ∈ b.items, e.2.isSome = true := fun e he => Option.isSome_iff_ne_none.2 (hn e he)
  have h1 : b.items.filter (fun u => u.2.isSome) = b.items := List.filter_eq_self.2 hi
  have h2 : b.items.filter (fun u => u.2.isNone) = [] :=
    List.filter_eq_nil_iff.2 fun e he => by simp [hn e he]
  simp [mergeLazyDiff, mergeShape_eq, mergeWith, diffUpdates, selfIter, hv, h1, h2, List.filter_map, Function.comp_def]

theorem updateWith_ptr (sh : UpdateShape) (b : BM K V) (k : K) (v prev : Option V) :
    (updateWith sh lt b k v prev).ptr = b.ptr := by
  unfold updateWith
  cases prev <;> cases v <;> rfl

theorem stepSh_ptr (sh : UpdateShape) (chain : K → Option V) (b : BM K V) (op : Op K V) :
    (stepSh sh lt chain b op).2.ptr = b.ptr := by
  cases op <;> simp only [stepSh, updateSh, updateWith_ptr]

theorem runSh_ptr (sh : UpdateShape) (chain : K → Option V) (ops : List (Op K V)) (b : BM K V) :
    (runSh sh lt chain b ops).2.ptr = b.ptr := by
  induction ops generalizing b with
  | nil => rfl
  | cons op ops ih => simp only [runSh, ih, stepSh_ptr]

theorem run_ptr (chain : K → Option V) (ops : List (Op K V)) (b : BM K V) (r : List (Obs V) × BM K V)
    (h : Impl.BigMap.run lt chain b ops = some r) : r.2.ptr = b.ptr := by
  unfold Impl.BigMap.run at h
  obtain ⟨sh, _, rfl⟩ := Option.map_eq_some_iff.1 h
  exact runSh_ptr sh chain ops b

theorem fromLiteral_inv (hs : StrictTotal lt) (items : List (K × V)) (b : BM K V) (h : fromLiteral lt items = some b) :
    Inv lt b := by
  simp only [fromLiteral] at h
  split at h
  · rename_i hc
    cases h
    simp only [checkConstraints, Bool.and_eq_true, beq_iff_eq, sortByKey_eq] at hc
    -- the keys are duplicate-free and equal to their sorted copy, so they ascend strictly
    have hsorted := Coll.sortBy_sorted hs.coll Prod.fst ((items.map (·.1)).map fun k => (k, ()))
    have hstrict := Coll.strict_of_sortedBy hs.coll Prod.fst hsorted (hc.2 ▸ nodup_of_toSet_length _ hc.1)
    rw [← hc.2] at hstrict
    refine ⟨?_, ?_, by simp, List.nodup_nil⟩
    · exact (List.pairwise_map).2 ((List.pairwise_map).1 hstrict)
    · intro e he
      obtain ⟨x, _, rfl⟩ := List.mem_map.1 he
      simp
  · cases h

end Proofs.C15
