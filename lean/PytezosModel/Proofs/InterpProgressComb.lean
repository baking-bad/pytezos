import PytezosModel.Proofs.InterpProgressStep
set_option linter.unusedSectionVars false   -- `[Mode]` is a section variable of every lemma here; some do not use it
/-! Progress for the right-comb instructions (`PAIR n`, `UNPAIR n`, `GET n`, `UPDATE n`), for the unary rules `Spec.unV`
(`unV_safe`), TRANSFER_TOKENS, CHECK_SIGNATURE and NEVER; `step_safe`: all the rules without sub-programs, instruction by
instruction. -/
namespace Interp
variable [Mode]
open Typing

theorem pairN_safe : ∀ (n : Nat) (st : List Val) (p : Ty × List Ty), GoodStack st → pairNTy n (st.map typeOf) = some p →
    ∃ r st', Spec.pairN n st = some (r, st') ∧ litOk r = true ∧ GoodStack st' := by
  intro n st p hg h
  generalize hts : st.map typeOf = ts at h
  fun_induction pairNTy n ts generalizing st p with
  | case1 a b s =>
    obtain ⟨x, st, rfl, -, hts⟩ := List.map_eq_cons_iff.mp hts
    obtain ⟨y, st, rfl, -, -⟩ := List.map_eq_cons_iff.mp hts
    rw [goodStack_cons, goodStack_cons] at hg
    exact ⟨_, _, rfl, (litOk_pair x y).mpr ⟨hg.1, hg.2.1⟩, hg.2.2⟩
  | case2 n a s ih =>
    obtain ⟨x, st, rfl, -, hts⟩ := List.map_eq_cons_iff.mp hts
    rw [goodStack_cons] at hg
    obtain ⟨q, hq, -⟩ := Option.map_eq_some_iff.mp h
    obtain ⟨r, st', h1, h2, h3⟩ := ih st q hg.2 hts hq
    exact ⟨.pair x r, st', by simp [Spec.pairN, h1], (litOk_pair x r).mpr ⟨hg.1, h2⟩, h3⟩
  | case3 => cases h

theorem unpairN_safe : ∀ (n : Nat) (v : Val) (ts : List Ty), WF v → litOk v = true → unpairNTy n (typeOf v) = some ts →
    ∃ xs, Spec.unpairN n v = some xs ∧ GoodStack xs := by
  intro n v ts hw hg h
  generalize hv : typeOf v = tv at h
  fun_induction unpairNTy n tv generalizing v ts with
  | case1 a b =>
    obtain ⟨x, y, rfl, _, _⟩ := canon_pair hw hv
    rw [litOk_pair] at hg
    exact ⟨[x, y], rfl, goodStack_cons.mpr ⟨hg.1, goodStack_cons.mpr ⟨hg.2, goodStack_nil⟩⟩⟩
  | case2 n a b ih =>
    obtain ⟨x, y, rfl, _, hy⟩ := canon_pair hw hv
    rw [litOk_pair] at hg
    obtain ⟨q, hq, -⟩ := Option.map_eq_some_iff.mp h
    obtain ⟨xs, h1, h2⟩ := ih y q hy.1 hg.2 hy.2 hq
    exact ⟨x :: xs, by simp [Spec.unpairN, h1], goodStack_cons.mpr ⟨hg.1, h2⟩⟩
  | case3 => cases h

theorem getN_safe : ∀ (n : Nat) (v : Val) (t : Ty), WF v → litOk v = true → getNTy n (typeOf v) = some t →
    ∃ r, Spec.getN n v = some r ∧ litOk r = true := by
  intro n v t hw hg h
  generalize hv : typeOf v = tv at h
  fun_induction getNTy n tv generalizing v with
  | case1 => exact ⟨v, rfl, hg⟩
  | case2 a b =>
    obtain ⟨x, y, rfl, _, _⟩ := canon_pair hw hv
    exact ⟨x, rfl, ((litOk_pair x y).mp hg).1⟩
  | case3 n a b ih =>
    obtain ⟨x, y, rfl, _, hy⟩ := canon_pair hw hv
    exact ih y hy.1 ((litOk_pair x y).mp hg).2 hy.2 h
  | case4 => cases h

theorem updateN_safe : ∀ (n : Nat) (e v : Val) (t : Ty), WF v → litOk e = true → litOk v = true →
    updateNTy n (typeOf e) (typeOf v) = some t → ∃ r, Spec.updateN n e v = some r ∧ litOk r = true := by
  intro n e v t hw hge hg h
  generalize hv : typeOf v = tv at h
  generalize typeOf e = te at h
  fun_induction updateNTy n te tv generalizing v t with
  | case1 => exact ⟨e, rfl, hge⟩
  | case2 _ a b =>
    obtain ⟨x, y, rfl, _, _⟩ := canon_pair hw hv
    exact ⟨.pair e y, rfl, (litOk_pair e y).mpr ⟨hge, ((litOk_pair x y).mp hg).2⟩⟩
  | case3 n _ a b ih =>
    obtain ⟨x, y, rfl, _, hy⟩ := canon_pair hw hv
    rw [litOk_pair] at hg
    obtain ⟨q, hq, -⟩ := Option.map_eq_some_iff.mp h
    obtain ⟨r', h1, h2⟩ := ih y q hy.1 hg.2 hy.2 hq
    exact ⟨.pair x r', by simp [Spec.updateN, h1], (litOk_pair x r').mpr ⟨hg.1, h2⟩⟩
  | case4 => cases h
/-- the unary rules `Spec.unV` apply to every well-formed value of an operand type of their typing rule -/
theorem unV_safe (env : Env) (i : Instr) (a : Val) (t : Ty) (hwa : WF a) (_ : litOk a = true)
    (h : unTy i (typeOf a) = some t) : (Spec.unV env i a).Safe (fun r => litOk r = true) := by
  generalize hta : typeOf a = ta at h
  unfold unTy at h
  split at h
  · -- NAT
    unfold natTy at h
    split at h
    · obtain ⟨s, rfl⟩ := canon_bytes hwa hta
      rfl
    · cases h
  · -- BYTES
    unfold bytesTy at h
    split at h
    · obtain ⟨n, rfl, hn⟩ := canon_nat hwa hta
      show Res.Safe _ (if 0 ≤ n then _ else _)
      rw [if_pos hn]; rfl
    · obtain ⟨n, rfl⟩ := canon_int hwa hta
      rfl
    · cases h
  · -- VOTING_POWER
    unfold votingPowerTy at h
    split at h
    · obtain ⟨s, rfl⟩ := canon_keyHash hwa hta
      exact numOk_safe .nat _ isNum_nat
    · cases h
  · -- HASH_KEY
    unfold hashKeyTy at h
    split at h
    · obtain ⟨s, rfl⟩ := canon_key hwa hta
      rfl
    · cases h
  · -- ADDRESS
    unfold addressTy at h
    split at h
    · obtain ⟨s, rfl⟩ := canon_contract hwa hta
      rfl
    · cases h
  · -- IMPLICIT_ACCOUNT
    unfold implicitAccountTy at h
    split at h
    · obtain ⟨s, rfl⟩ := canon_keyHash hwa hta
      rfl
    · cases h
  · -- CONTRACT
    unfold contractTy at h
    split at h
    · obtain ⟨s, rfl⟩ := canon_address hwa hta
      simp only [Spec.unV, Spec.contractV]
      split
      · rfl
      · split
        · split <;> rfl
        · rfl
    · cases h
  · -- SET_DELEGATE
    unfold setDelegateTy at h
    split at h
    · rcases canon_option hwa hta with rfl | ⟨x, rfl, hx, hxt⟩
      · rfl
      · obtain ⟨s, rfl⟩ := canon_keyHash hx hxt
        rfl
    · cases h
  · -- EMIT
    exact .guard h hta.trans fun _ => rfl
  · -- PACK
    have hp := (Option.ite_none_right_eq_some.mp h).1
    obtain ⟨y, hy⟩ := Option.isSome_iff_exists.mp (optBoth_some Mode.strict a ta (by rw [← hta]; exact hwa) hp)
    rw [Spec.unV, packV_of_some (hta ▸ hp) hy]
    cases Spec.encodeM y.1 <;> trivial
  · -- UNPACK
    rename_i t'
    obtain ⟨hbt, hu⟩ := (Option.ite_none_right_eq_some.mp h).1
    obtain ⟨b, rfl⟩ := canon_bytes hwa (hta.trans hbt)
    simp only [Spec.unV, Spec.unpackV, hu, Bool.not_true, Bool.false_eq_true, if_false]
    split
    · split
      · rename_i v hv
        obtain ⟨d, _, hd⟩ := Option.bind_eq_some_iff.mp hv
        exact (readVal_wf env.readTimestamp Mode.strict t' hu d v hd).2
      · rfl
    · rfl
  · cases h

theorem transferTokensV_safe (env : Env) (a b c : Val) (t : Ty) (_ : WF a) (hwb : WF b) (hwc : WF c)
    (_ : litOk a = true) (_ : litOk b = true) (_ : litOk c = true)
    (h : transferTokensTy (typeOf a) (typeOf b) (typeOf c) = some t) :
    (Spec.transferTokensV env a b c).Safe (fun r => litOk r = true) := by
  generalize htb : typeOf b = tb at h
  generalize htc : typeOf c = tc at h
  unfold transferTokensTy at h
  split at h
  · obtain ⟨m, rfl, _⟩ := canon_mutez hwb htb
    obtain ⟨s, rfl⟩ := canon_contract hwc htc
    exact .guard h id fun _ => rfl
  · cases h

theorem checkSignatureV_safe (env : Env) (a b c : Val) (t : Ty) (hwa : WF a) (hwb : WF b) (hwc : WF c)
    (_ : litOk a = true) (_ : litOk b = true) (_ : litOk c = true)
    (h : checkSignatureTy (typeOf a) (typeOf b) (typeOf c) = some t) :
    (Spec.checkSignatureV env a b c).Safe (fun r => litOk r = true) := by
  generalize hta : typeOf a = ta at h
  generalize htb : typeOf b = tb at h
  generalize htc : typeOf c = tc at h
  unfold checkSignatureTy at h
  split at h
  · obtain ⟨k, rfl⟩ := canon_key hwa hta
    obtain ⟨s, rfl⟩ := canon_signature hwb htb
    obtain ⟨m, rfl⟩ := canon_bytes hwc htc
    rfl
  · cases h

section
variable (env : Env) (st : List Val) (tr : TRes) (hw : StackWF st) (hg : GoodStack st)
include hw hg

theorem safe_TRANSFER_TOKENS (hty : Typing.step .TRANSFER_TOKENS (st.map typeOf) = some tr) :
    (Spec.step env .TRANSFER_TOKENS st).Safe GoodStack :=
  safe_ternop env st tr hw hg .TRANSFER_TOKENS (Spec.transferTokensV env) transferTokensTy (fun _ _ _ _ => rfl) rfl
    (fun _ => rfl) (fun _ _ => rfl) (fun _ _ _ _ => rfl) (transferTokensV_safe env) hty

theorem safe_CHECK_SIGNATURE (hty : Typing.step .CHECK_SIGNATURE (st.map typeOf) = some tr) :
    (Spec.step env .CHECK_SIGNATURE st).Safe GoodStack :=
  safe_ternop env st tr hw hg .CHECK_SIGNATURE (Spec.checkSignatureV env) checkSignatureTy (fun _ _ _ _ => rfl) rfl
    (fun _ => rfl) (fun _ _ => rfl) (fun _ _ _ _ => rfl) (checkSignatureV_safe env) hty

/-- NEVER is typed on a stack whose top has type `never`: there is no such stack of well-formed values -/
theorem safe_NEVER (hty : Typing.step .NEVER (st.map typeOf) = some tr) : (Spec.step env .NEVER st).Safe GoodStack := by
  prog_top1
  exact (no_never hwa hta).elim

end

/-- **progress, rules without sub-programs**: on a well-formed stack on which the typing rule of `i` applies, the
reference rule of `i` is not stuck, and every set / map in its result stack is well-formed again.  (`PUSH` and `LAMBDA`,
whose typing rule looks into the literal, are treated with the control instructions.) -/
theorem step_safe (env : Env) (i : Instr) (st : List Val) (tr : TRes) (hw : StackWF st) (hg : GoodStack st)
    (hty : Typing.step i (st.map typeOf) = some tr) : (Spec.step env i st).Safe GoodStack := by
  cases i
  -- instructions with a sub-program or a literal: `Typing.step` has no rule for them
  case seq | DIP | DIPN | IF | IF_NONE | IF_LEFT | IF_CONS | LOOP | LOOP_LEFT | ITER | MAP | EXEC | PUSH | LAMBDA =>
    cases st <;> cases hty
  -- constants and readings of the environment: the value pushed holds no collection, or an empty one
  case UNIT | NONE | NIL | SENDER | SOURCE | SELF_ADDRESS | NOW | CHAIN_ID | SELF =>
    exact goodStack_cons.mpr ⟨rfl, hg⟩
  case EMPTY_MAP k v => exact goodStack_cons.mpr ⟨(litOk_map k v []).mpr ⟨goodMap_nil, goodStack_nil⟩, hg⟩
  case EMPTY_SET t =>
    exact .guard hty id fun h => goodStack_cons.mpr ⟨(litOk_set t []).mpr ⟨goodSet_nil h, goodStack_nil⟩, hg⟩
  case EMPTY_BIG_MAP k v =>
    exact .guard hty id fun _ => goodStack_cons.mpr ⟨(litOk_map k v []).mpr ⟨goodMap_nil, goodStack_nil⟩, hg⟩
  case AMOUNT => exact safe_numEnv env st hg _ .mutez env.amount isNum_mutez fun _ => rfl
  case BALANCE => exact safe_numEnv env st hg _ .mutez env.balance isNum_mutez fun _ => rfl
  case LEVEL => exact safe_numEnv env st hg _ .nat env.level isNum_nat fun _ => rfl
  case TOTAL_VOTING_POWER => exact safe_numEnv env st hg _ .nat env.totalVotingPower isNum_nat fun _ => rfl
  case MIN_BLOCK_TIME => exact safe_numEnv env st hg _ .nat env.minBlockTime isNum_nat fun _ => rfl
  case DROP => exact safe_depth1 env _ st tr hg hty rfl fun _ _ _ hs => hs
  case DUP => exact safe_depth1 env _ st tr hg hty rfl fun _ _ ha hs => goodStack_cons.mpr ⟨ha, goodStack_cons.mpr ⟨ha, hs⟩⟩
  case SOME | LEFT | RIGHT | RENAME =>
    exact safe_depth1 env _ st tr hg hty rfl fun _ _ ha hs => goodStack_cons.mpr ⟨ha, hs⟩
  case FAILWITH => exact safe_depth1 env _ st tr hg hty rfl fun _ _ _ _ => trivial
  case CAST t =>
    rcases st with _ | ⟨a, st⟩
    · cases hty
    exact .guard hty id fun _ => hg
  case SWAP =>
    rcases st with _ | ⟨a, _ | ⟨b, st⟩⟩
    · cases hty
    · cases hty
    rw [goodStack_cons, goodStack_cons] at hg
    exact goodStack_cons.mpr ⟨hg.2.1, goodStack_cons.mpr ⟨hg.1, hg.2.2⟩⟩
  case PAIR =>
    rcases st with _ | ⟨a, _ | ⟨b, st⟩⟩
    · cases hty
    · cases hty
    rw [goodStack_cons, goodStack_cons] at hg
    exact goodStack_cons.mpr ⟨(litOk_pair a b).mpr ⟨hg.1, hg.2.1⟩, hg.2.2⟩
  case DROPN n => exact .guard hty (fun h => List.length_map typeOf ▸ h) fun _ => goodStack_drop hg n
  case DUPN n =>
    by_cases hn : n = 0
    · exact absurd ((if_pos hn).symm.trans hty) nofun
    obtain ⟨t, ht, -⟩ := Option.map_eq_some_iff.mp ((if_neg hn).symm.trans hty)
    obtain ⟨x, hx, -⟩ := Option.map_eq_some_iff.mp ((List.getElem?_map ..).symm.trans ht)
    show Res.Safe GoodStack (if n = 0 then .stuck else match st[n - 1]? with | some x => .ok (x :: st) | none => .stuck)
    rw [if_neg hn, hx]
    exact goodStack_cons.mpr ⟨goodStack_get hg _ x hx, hg⟩
  case DIG n =>
    obtain ⟨t, ht, -⟩ := Option.map_eq_some_iff.mp hty
    obtain ⟨x, hx, -⟩ := Option.map_eq_some_iff.mp ((List.getElem?_map ..).symm.trans ht)
    show Res.Safe GoodStack (match st[n]? with | some x => .ok (x :: (st.take n ++ st.drop (n + 1))) | none => .stuck)
    rw [hx]
    exact goodStack_cons.mpr ⟨goodStack_get hg _ x hx, goodStack_append.mpr ⟨goodStack_take hg n, goodStack_drop hg (n + 1)⟩⟩
  case DUG n =>
    rcases st with _ | ⟨a, st⟩
    · cases hty
    · rw [goodStack_cons] at hg
      exact .guard hty (fun h => List.length_map typeOf ▸ h) fun _ =>
        goodStack_append.mpr ⟨goodStack_take hg.2 n, goodStack_cons.mpr ⟨hg.1, goodStack_drop hg.2 n⟩⟩
  case PAIRN n =>
    obtain ⟨p, hq, -⟩ := Option.map_eq_some_iff.mp hty
    obtain ⟨r, st', h1, h2, h3⟩ := pairN_safe n st p hg hq
    show Res.Safe GoodStack (match Spec.pairN n st with | some (r, st') => .ok (r :: st') | none => .stuck)
    rw [h1]
    exact goodStack_cons.mpr ⟨h2, h3⟩
  case UNPAIRN n =>
    rcases st with _ | ⟨v, st⟩
    · cases hty
    rw [stackWF_cons] at hw
    rw [goodStack_cons] at hg
    obtain ⟨ts, hq, -⟩ := Option.map_eq_some_iff.mp hty
    obtain ⟨xs, h1, h2⟩ := unpairN_safe n v ts hw.1 hg.1 hq
    show Res.Safe GoodStack (match Spec.unpairN n v with | some xs => .ok (xs ++ st) | none => .stuck)
    rw [h1]
    exact goodStack_append.mpr ⟨h2, hg.2⟩
  case GETN n =>
    rcases st with _ | ⟨v, st⟩
    · cases hty
    rw [stackWF_cons] at hw
    rw [goodStack_cons] at hg
    obtain ⟨t, hq, -⟩ := Option.map_eq_some_iff.mp hty
    obtain ⟨r, h1, h2⟩ := getN_safe n v t hw.1 hg.1 hq
    show Res.Safe GoodStack (match Spec.getN n v with | some r => .ok (r :: st) | none => .stuck)
    rw [h1]
    exact goodStack_cons.mpr ⟨h2, hg.2⟩
  case UPDATEN n =>
    rcases st with _ | ⟨e, _ | ⟨v, st⟩⟩
    · cases hty
    · cases hty
    rw [stackWF_cons, stackWF_cons] at hw
    rw [goodStack_cons, goodStack_cons] at hg
    obtain ⟨t, hq, -⟩ := Option.map_eq_some_iff.mp hty
    obtain ⟨r, h1, h2⟩ := updateN_safe n e v t hw.2.1 hg.1 hg.2.1 hq
    show Res.Safe GoodStack (match Spec.updateN n e v with | some r => .ok (r :: st) | none => .stuck)
    rw [h1]
    exact goodStack_cons.mpr ⟨h2, hg.2.2⟩
  case UNPAIR =>
    prog_top1
    obtain ⟨x, y, rfl, _, _⟩ := canon_pair hwa hta
    rw [litOk_pair] at hga
    exact goodStack_cons.mpr ⟨hga.1, goodStack_cons.mpr ⟨hga.2, hg⟩⟩
  case CAR =>
    prog_top1
    obtain ⟨x, y, rfl, _, _⟩ := canon_pair hwa hta
    exact goodStack_cons.mpr ⟨((litOk_pair x y).mp hga).1, hg⟩
  case CDR =>
    prog_top1
    obtain ⟨x, y, rfl, _, _⟩ := canon_pair hwa hta
    exact goodStack_cons.mpr ⟨((litOk_pair x y).mp hga).2, hg⟩
  case SIZE =>
    prog_top1
    · obtain ⟨s, rfl⟩ := canon_string hwa hta
      exact goodStack_cons.mpr ⟨rfl, hg⟩
    · obtain ⟨s, rfl⟩ := canon_bytes hwa hta
      exact goodStack_cons.mpr ⟨rfl, hg⟩
    · obtain ⟨xs, rfl, _⟩ := canon_list hwa hta
      exact goodStack_cons.mpr ⟨rfl, hg⟩
    · obtain ⟨xs, rfl, _⟩ := canon_map hwa hta
      exact goodStack_cons.mpr ⟨rfl, hg⟩
    · obtain ⟨xs, rfl, _⟩ := canon_set hwa hta
      exact goodStack_cons.mpr ⟨rfl, hg⟩
  case ABS | EQ | NEQ | LT | GT | LE | GE =>
    prog_top1
    obtain ⟨n, rfl⟩ := canon_int hwa hta
    exact goodStack_cons.mpr ⟨rfl, hg⟩
  case ISNAT =>
    prog_top1
    obtain ⟨n, rfl⟩ := canon_int hwa hta
    refine goodStack_cons.mpr ⟨?_, hg⟩
    split <;> rfl
  case NEG =>
    prog_top1
    · obtain ⟨n, rfl⟩ := canon_int hwa hta
      exact goodStack_cons.mpr ⟨rfl, hg⟩
    · obtain ⟨n, rfl, _⟩ := canon_nat hwa hta
      exact goodStack_cons.mpr ⟨rfl, hg⟩
  case INT =>
    prog_top1
    · obtain ⟨n, rfl, _⟩ := canon_nat hwa hta
      exact goodStack_cons.mpr ⟨rfl, hg⟩
    · obtain ⟨s, rfl⟩ := canon_bytes hwa hta
      exact goodStack_cons.mpr ⟨rfl, hg⟩
  case NOT =>
    prog_top1
    · obtain ⟨b, rfl⟩ := canon_bool hwa hta
      exact goodStack_cons.mpr ⟨rfl, hg⟩
    · obtain ⟨n, rfl⟩ := canon_int hwa hta
      exact goodStack_cons.mpr ⟨rfl, hg⟩
    · obtain ⟨n, rfl, _⟩ := canon_nat hwa hta
      exact goodStack_cons.mpr ⟨rfl, hg⟩
  case BLAKE2B | SHA256 | SHA512 | KECCAK | SHA3 =>
    prog_top1
    obtain ⟨s, rfl⟩ := canon_bytes hwa hta
    exact goodStack_cons.mpr ⟨rfl, hg⟩
  case NAT | BYTES | VOTING_POWER | HASH_KEY | ADDRESS | IMPLICIT_ACCOUNT | CONTRACT | SET_DELEGATE | EMIT | PACK | UNPACK =>
    exact safe_unop env st tr hw hg _ (Spec.unV env _) (unTy _) (fun _ _ => rfl) rfl (fun _ _ => rfl) (unV_safe env _) hty
  case ADD =>
    exact safe_arith env st tr hw hg .ADD Spec.addTy Typing.addTy (· + ·) typing_addTy_eq (fun _ _ _ => addTy_num)
      (fun _ _ _ _ _ => rfl) rfl (fun _ => rfl) (fun _ _ _ => rfl) hty
  case SUB =>
    exact safe_arith env st tr hw hg .SUB Spec.subTy Typing.subTy (· - ·) typing_subTy_eq (fun _ _ _ => subTy_num)
      (fun _ _ _ _ _ => rfl) rfl (fun _ => rfl) (fun _ _ _ => rfl) hty
  case MUL =>
    exact safe_arith env st tr hw hg .MUL Spec.mulTy Typing.mulTy (· * ·) typing_mulTy_eq (fun _ _ _ => mulTy_num)
      (fun _ _ _ _ _ => rfl) rfl (fun _ => rfl) (fun _ _ _ => rfl) hty
  case EDIV =>
    exact safe_binop env st tr hw hg .EDIV Spec.edivV edivResTy (fun _ _ _ => rfl) rfl (fun _ => rfl) (fun _ _ _ => rfl)
      edivV_safe hty
  case LSL =>
    exact safe_binop env st tr hw hg .LSL Spec.lslV shiftTy (fun _ _ _ => rfl) rfl (fun _ => rfl) (fun _ _ _ => rfl)
      (shiftV_safe _ (fun x n => x * 2 ^ n) fun _ _ => rfl) hty
  case LSR =>
    exact safe_binop env st tr hw hg .LSR Spec.lsrV shiftTy (fun _ _ _ => rfl) rfl (fun _ => rfl) (fun _ _ _ => rfl)
      (shiftV_safe _ (fun x n => x / 2 ^ n) fun _ _ => rfl) hty
  case SUB_MUTEZ =>
    exact safe_binop env st tr hw hg .SUB_MUTEZ Spec.subMutezV subMutezTy (fun _ _ _ => rfl) rfl (fun _ => rfl)
      (fun _ _ _ => rfl) subMutezV_safe hty
  case AND =>
    exact safe_binop env st tr hw hg .AND Spec.andV andTy (fun _ _ _ => rfl) rfl (fun _ => rfl) (fun _ _ _ => rfl)
      andV_safe hty
  case OR =>
    exact safe_binop env st tr hw hg .OR Spec.orV orTy (fun _ _ _ => rfl) rfl (fun _ => rfl) (fun _ _ _ => rfl)
      (bitV_safe _ (· || ·) (· ||| ·) (fun _ _ => rfl) fun _ _ => rfl) hty
  case XOR =>
    exact safe_binop env st tr hw hg .XOR Spec.xorV orTy (fun _ _ _ => rfl) rfl (fun _ => rfl) (fun _ _ _ => rfl)
      (bitV_safe _ xor (· ^^^ ·) (fun _ _ => rfl) fun _ _ => rfl) hty
  case MEM =>
    exact safe_binop env st tr hw hg .MEM Spec.memB memTyB (fun _ _ _ => rfl) rfl (fun _ => rfl) (fun _ _ _ => rfl)
      memB_safe hty
  case GET =>
    exact safe_binop env st tr hw hg .GET Spec.getB getTyB (fun _ _ _ => rfl) rfl (fun _ => rfl) (fun _ _ _ => rfl)
      getB_safe hty
  case UPDATE =>
    exact safe_ternop env st tr hw hg .UPDATE Spec.updateB updateTyB (fun _ _ _ _ => rfl) rfl (fun _ => rfl) (fun _ _ => rfl)
      (fun _ _ _ _ => rfl)
      (fun a b c t hwa hwb hwc hga hgb hgc h => (updateB_safe a b c t hwa hwb hwc hga hgb hgc h).mono fun _ _ hr => hr.1) hty
  case TRANSFER_TOKENS => exact safe_TRANSFER_TOKENS env st tr hw hg hty
  case CHECK_SIGNATURE => exact safe_CHECK_SIGNATURE env st tr hw hg hty
  case GET_AND_UPDATE =>
    rcases st with _ | ⟨a, _ | ⟨b, _ | ⟨c, st⟩⟩⟩
    · cases hty
    · cases hty
    · cases hty
    rw [stackWF_cons, stackWF_cons, stackWF_cons] at hw
    rw [goodStack_cons, goodStack_cons, goodStack_cons] at hg
    obtain ⟨t, htf, hty⟩ := Option.bind_eq_some_iff.mp hty
    obtain ⟨o, htg, -⟩ := Option.map_eq_some_iff.mp hty
    -- the updated map has the type of the old one, so GET is typed on the old map
    rw [updateTyB_keeps_type htf] at htg
    refine Res.Safe.bind (P := fun r : Val × Val => litOk r.1 = true ∧ litOk r.2 = true) ?_
      fun r _ hr => goodStack_cons.mpr ⟨hr.1, goodStack_cons.mpr ⟨hr.2, hg.2.2.2⟩⟩
    exact (getB_safe a c o hw.1 hw.2.2.1 hg.1 hg.2.2.1 htg).bind fun old _ hold =>
      (updateB_safe a b c t hw.1 hw.2.1 hw.2.2.1 hg.1 hg.2.1 hg.2.2.1 htf).bind fun m' _ hm' => ⟨hold, hm'.1⟩
  case COMPARE =>
    rcases st with _ | ⟨a, _ | ⟨b, st⟩⟩
    · cases hty
    · cases hty
    rw [stackWF_cons, stackWF_cons] at hw
    rw [goodStack_cons, goodStack_cons] at hg
    refine .guard hty (·.1) fun h => ?_
    obtain ⟨c, hc⟩ := compare_isSome (isKey_of_wf hw.1 rfl h.2) (isKey_of_wf hw.2.1 h.1.symm h.2)
    rw [hc]
    exact goodStack_cons.mpr ⟨rfl, hg.2.2⟩
  case CONS =>
    rcases st with _ | ⟨x, st⟩
    · cases hty
    rw [stackWF_cons] at hw
    rw [goodStack_cons] at hg
    obtain ⟨-, hw⟩ := hw
    obtain ⟨hgx, hg⟩ := hg
    rw [List.map_cons] at hty
    generalize htx : typeOf x = tx at hty
    prog_top1
    obtain ⟨xs, rfl, _⟩ := canon_list hwa hta
    exact .guard hty htx.trans fun _ =>
      goodStack_cons.mpr ⟨(litOk_list _ _).mpr (goodStack_cons.mpr ⟨hgx, (litOk_list _ _).mp hga⟩), hg⟩
  case APPLY => exact safe_APPLY env st tr hw hg hty
  case CONCAT =>
    prog_top1
    · -- string, string
      obtain ⟨x, rfl⟩ := canon_string hwa hta
      prog_top1
      obtain ⟨y, rfl⟩ := canon_string hwa hta
      exact goodStack_cons.mpr ⟨rfl, hg⟩
    · -- bytes, bytes
      obtain ⟨x, rfl⟩ := canon_bytes hwa hta
      prog_top1
      obtain ⟨y, rfl⟩ := canon_bytes hwa hta
      exact goodStack_cons.mpr ⟨rfl, hg⟩
    · -- list string / list bytes
      rename_i t
      obtain ⟨xs, rfl, hxs⟩ := canon_list hwa hta
      cases t <;> first | (cases hty; done) | skip
      · obtain ⟨r, hr⟩ := strs_isSome xs hxs
        show Res.Safe GoodStack (match Spec.strs xs with | some s => .ok (.str s :: st) | none => .stuck)
        rw [hr]
        exact goodStack_cons.mpr ⟨rfl, hg⟩
      · obtain ⟨r, hr⟩ := bytess_isSome xs hxs
        show Res.Safe GoodStack (match Spec.bytess xs with | some s => .ok (.bytes s :: st) | none => .stuck)
        rw [hr]
        exact goodStack_cons.mpr ⟨rfl, hg⟩
  case SLICE =>
    prog_top1
    obtain ⟨off, rfl, _⟩ := canon_nat hwa hta
    prog_top1
    obtain ⟨len, rfl, _⟩ := canon_nat hwa hta
    prog_top1
    · obtain ⟨x, rfl⟩ := canon_string hwa hta
      refine goodStack_cons.mpr ⟨?_, hg⟩
      split <;> rfl
    · obtain ⟨x, rfl⟩ := canon_bytes hwa hta
      refine goodStack_cons.mpr ⟨?_, hg⟩
      split <;> rfl
  case NEVER => exact safe_NEVER env st tr hw hg hty

end Interp
