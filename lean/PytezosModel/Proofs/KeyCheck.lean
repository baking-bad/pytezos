import PytezosModel.Proofs.KeySign
/-! The outcomes of `Key.verify`, in one case analysis (Props/C07: what acceptance means, CHECK_SIGNATURE). -/
namespace Impl.Key

/-- the P256 branch of `Key.verify` turns fastecdsa's `EcdsaError` into the documented ValueError
(not so on a tree where the call is unguarded: the obligation is then open) -/
theorem catches_true : Generated.C07.verifyP256CatchesRangeError = some true := by decide

theorem scrub_error (v : PyIn) (e : Err) (h : scrub v = .error e) : e = .valueError .scrubAscii := by
  unfold scrub at h
  simp only [scrubRecognised_true, Bool.not_true, Bool.false_eq_true, if_false] at h
  split at h
  · cases h
  · split at h
    · cases h
    · split at h <;> cases h
      rfl

/-- the ValueError is raised when an input does not scrub, there is no public key, the curve tag is foreign, the text does
not decode, or the primitive rejects; `.other .keyError` is fastecdsa's `InvalidSEC1PublicKey`, the one exception that
passes through -/
theorem verify_cases (P : Prims) (C : Codec) (k : Key) (sig msg : PyIn) :
    (∃ s, verify P C k sig msg = .error (.valueError s)) ∨
      ∃ es em raw, scrub sig = .ok es ∧ scrub msg = .ok em ∧ k.pub ≠ [] ∧
        (es.take 3 = sigTag ∨ es.take 2 = k.curve.tag) ∧ C.decode es = some raw ∧
        (P.verify k.curve k.pub (if k.curve = .bl then em else P.blake2b 32 em) raw = .accept ∧
            verify P C k sig msg = .ok true ∨
          P.verify k.curve k.pub (if k.curve = .bl then em else P.blake2b 32 em) raw = .keyError ∧
            verify P C k sig msg = .error (.other .keyError)) := by
  obtain ⟨dg, _, hdg, hpay⟩ := payloadKinds k.curve
  unfold verify
  split
  next e hs => exact .inl ⟨_, congrArg _ (scrub_error _ _ hs)⟩
  next es hs =>
    split
    next e hm => exact .inl ⟨_, congrArg _ (scrub_error _ _ hm)⟩
    next em hm =>
      split
      · exact .inl ⟨_, rfl⟩
      next hpub =>
        split
        · exact .inl ⟨_, rfl⟩
        next hpre =>
          split
          · exact .inl ⟨_, rfl⟩
          next raw hdec =>
            have hpub' : k.pub ≠ [] := fun h0 => hpub (by rw [h0]; rfl)
            have hpre' := (precheck_iff k.curve es).mp (Bool.eq_false_iff.mpr hpre)
            simp only [hdg, catches_true, hpay, if_true]
            cases hv : P.verify k.curve k.pub (if k.curve = .bl then em else P.blake2b 32 em) raw
            case accept => exact .inr ⟨es, em, raw, hs, hm, hpub', hpre', hdec, .inl ⟨hv, rfl⟩⟩
            case keyError => exact .inr ⟨es, em, raw, hs, hm, hpub', hpre', hdec, .inr ⟨hv, rfl⟩⟩
            all_goals exact .inl ⟨_, rfl⟩

end Impl.Key
