import PytezosModel.Michelson.Interp.Typing
import PytezosModel.Michelson.Interp.Spec
set_option linter.unusedSectionVars false   -- `[Mode]` is a section variable of every lemma here; some do not use it
/-! Well-typed values and stacks for the modelled core: the class `Mode`, `HasTy` / `StackTy` / `WF`, inversion lemmas for
`Typing.checkVal`, and `strict_imp_lax` (what the strict typing rules accept, the Michelson typing rules accept). -/
namespace Interp

/-- **mode** of the whole soundness / progress development.

* `strict = false`: the judgements are those of `Typing.typeInstr false` (the Michelson typing rules);
  `strict = true`: those of `Typing.typeInstr true`, which additionally require every MAP body — in the program, in
  PUSHed lambdas and in the lambda values on the stack — to keep the element type.
* `guard`: which reference evaluator the progress theorem talks about (`Spec.eval guard`); the guarded one
  (`offguard` on MAP over an empty collection with a type-changing body) only together with strict typing.

Every lemma of Proofs/InterpTyping … InterpProgress holds in every mode (the typing rules differ in the MAP case only);
Props/C01.lean and Props/C02.lean instantiate them with `⟨false, false, _⟩` (Michelson typing, plain reference
semantics) and `⟨true, true, _⟩` (strict typing, guarded reference semantics: the guard never fires). -/
class Mode where
  strict : Bool
  guard : Bool
  guard_strict : guard = true → strict = true

/-- the Michelson typing rules and the plain reference semantics -/
@[reducible] def Mode.lax : Mode := ⟨false, false, fun h => by cases h⟩

/-- strict typing (MAP bodies keep the element type) and the *guarded* reference semantics -/
@[reducible] def Mode.strictGuarded : Mode := ⟨true, true, fun _ => rfl⟩

variable [Mode]
open Typing

/-- `v` is a well-formed value of type `t` (deep) -/
def HasTy (v : Val) (t : Ty) : Prop := checkVal Mode.strict v t = true

/-- every element is a well-formed value of type `t` -/
def AllTy (xs : List Val) (t : Ty) : Prop := checkVals Mode.strict xs t = true

/-- pointwise typing of a stack -/
inductive StackTy : List Val → List Ty → Prop where
  | nil : StackTy [] []
  | cons {v t st ts} : HasTy v t → StackTy st ts → StackTy (v :: st) (t :: ts)

theorem allTy_nil (t : Ty) : AllTy [] t := by simp [AllTy, checkVals]
theorem allTy_cons {x : Val} {xs : List Val} {t : Ty} : AllTy (x :: xs) t ↔ HasTy x t ∧ AllTy xs t := by
  simp [AllTy, HasTy, checkVals]

/-- along the equations of `checkVal`: each one that can answer `true` has a value whose `typeOf` is, given the
recursive checks, the type checked against -/
theorem hasTy_typeOf (v : Val) (t : Ty) : checkVal Mode.strict v t = true → typeOf v = t := by
  apply checkVal.induct Mode.strict (motive_1 := fun _ _ => True) (motive_3 := fun _ _ => True) (motive_4 := fun _ _ => True)
    (motive_2 := fun v t => checkVal Mode.strict v t = true → typeOf v = t)
  all_goals intros
  -- the last equation of `checkVal`: on a pair of shapes none of the others speaks of, the check answers `false`
  case case28 h =>
    rw [checkVal.eq_28] at h
    · cases h
    all_goals assumption
  all_goals first | trivial | rfl | simp_all [checkVal, typeOf]

theorem HasTy.typeOf_eq {v : Val} {t : Ty} (h : HasTy v t) : typeOf v = t := hasTy_typeOf v t h

theorem StackTy.map_typeOf {st : List Val} {ts : List Ty} (h : StackTy st ts) : st.map typeOf = ts := by
  induction h with
  | nil => rfl
  | cons hv _ ih => simp [hv.typeOf_eq, ih]

/-- given `h : HasTy v t` with `t` a constructor application: the runtime type of `v` is `t`, which leaves the shapes of
that type — and `num t _` / `atom t _`, whose runtime type is the class they carry; on those the check `h` computes to
`false` -/
syntax "val_shapes" : tactic
set_option hygiene false in
macro_rules
  | `(tactic| val_shapes) => `(tactic| (
      have ht := h.typeOf_eq
      cases v <;> cases ht <;> try cases h))

theorem hasTy_pair {v : Val} {a b : Ty} (h : HasTy v (.pair a b)) : ∃ x y, v = .pair x y ∧ HasTy x a ∧ HasTy y b := by
  val_shapes
  simp only [HasTy, checkVal, Bool.and_eq_true] at h
  exact ⟨_, _, rfl, h⟩

theorem hasTy_option {v : Val} {a : Ty} (h : HasTy v (.option a)) : v = .none a ∨ ∃ x, v = .some x ∧ HasTy x a := by
  val_shapes
  · exact Or.inr ⟨_, rfl, h⟩
  · exact Or.inl rfl

theorem hasTy_or {v : Val} {l r : Ty} (h : HasTy v (.or l r)) :
    (∃ x, v = .left x r ∧ HasTy x l) ∨ (∃ x, v = .right l x ∧ HasTy x r) := by
  val_shapes
  · simp [HasTy, checkVal] at h
    exact Or.inl ⟨_, rfl, h⟩
  · simp [HasTy, checkVal] at h
    exact Or.inr ⟨_, rfl, h⟩

theorem hasTy_list {v : Val} {t : Ty} (h : HasTy v (.list t)) : ∃ xs, v = .list t xs ∧ AllTy xs t := by
  val_shapes
  simp [HasTy, checkVal] at h
  exact ⟨_, rfl, h⟩

theorem hasTy_map {v : Val} {k w : Ty} (h : HasTy v (.map k w)) : ∃ xs, v = .map k w xs ∧ AllTy xs (.pair k w) := by
  val_shapes
  simp [HasTy, checkVal] at h
  exact ⟨_, rfl, h⟩

theorem hasTy_set {v : Val} {t : Ty} (h : HasTy v (.set t)) : ∃ xs, v = .set t xs ∧ AllTy xs t := by
  val_shapes
  simp [HasTy, checkVal] at h
  exact ⟨_, rfl, h⟩

theorem hasTy_bool {v : Val} (h : HasTy v .bool) : ∃ b, v = .bool b := by
  val_shapes
  exact ⟨_, rfl⟩

/-- body typing carried by a lambda value -/
def BodyTy (body : Instr) (a b : Ty) : Prop :=
  typeInstr Mode.strict body [a] = some (.ok [b]) ∨ typeInstr Mode.strict body [a] = some .failed

theorem hasTy_lambda {v : Val} {a b : Ty} (h : HasTy v (.lambda a b)) : ∃ body, v = .lam a b body ∧ BodyTy body a b := by
  val_shapes
  rename_i body
  simp only [HasTy, checkVal, decide_true, Bool.true_and] at h
  refine ⟨body, rfl, ?_⟩
  unfold BodyTy
  split at h
  · rename_i b'' heq
    simp at h
    subst h
    exact Or.inl heq
  · rename_i heq
    exact Or.inr heq
  · cases h

/-- deep well-formedness: a value is a well-formed value of its own runtime type -/
def WF (v : Val) : Prop := HasTy v (typeOf v)

def StackWF (st : List Val) : Prop := ∀ v ∈ st, WF v

theorem hasTy_iff {v : Val} {t : Ty} : HasTy v t ↔ WF v ∧ typeOf v = t := by
  constructor
  · intro h
    have := h.typeOf_eq
    subst this
    exact ⟨h, rfl⟩
  · rintro ⟨h, rfl⟩
    exact h

theorem stackTy_iff {st : List Val} {ts : List Ty} : StackTy st ts ↔ StackWF st ∧ st.map typeOf = ts := by
  constructor
  · intro h
    refine ⟨?_, h.map_typeOf⟩
    induction h with
    | nil =>
      intro v hv
      simp at hv
    | cons hx _ ih =>
      intro v hv
      simp only [List.mem_cons] at hv
      rcases hv with rfl | hv
      · exact (hasTy_iff.mp hx).1
      · exact ih v hv
  · rintro ⟨hw, rfl⟩
    induction st with
    | nil => exact .nil
    | cons x xs ih =>
      exact .cons (hasTy_iff.mpr ⟨hw x (by simp), rfl⟩) (ih fun v hv => hw v (by simp [hv]))

theorem stackWF_cons {v : Val} {st : List Val} : StackWF (v :: st) ↔ WF v ∧ StackWF st := by
  simp [StackWF]

theorem stackWF_nil : StackWF [] := by simp [StackWF]

theorem stackWF_append {a b : List Val} : StackWF (a ++ b) ↔ StackWF a ∧ StackWF b := by
  simp only [StackWF, List.mem_append]
  constructor
  · intro h
    exact ⟨fun v hv => h v (Or.inl hv), fun v hv => h v (Or.inr hv)⟩
  · rintro ⟨h1, h2⟩ v (hv | hv)
    exact h1 v hv
    exact h2 v hv

theorem stackWF_take {st : List Val} (h : StackWF st) (n : Nat) : StackWF (st.take n) :=
  fun v hv => h v (List.mem_of_mem_take hv)

theorem stackWF_drop {st : List Val} (h : StackWF st) (n : Nat) : StackWF (st.drop n) :=
  fun v hv => h v (List.mem_of_mem_drop hv)

theorem stackWF_get {st : List Val} (h : StackWF st) (n : Nat) (v : Val) (hv : st[n]? = some v) : WF v :=
  h v (List.mem_of_getElem? hv)

theorem StackTy.length_eq {st : List Val} {ts : List Ty} (h : StackTy st ts) : st.length = ts.length := by
  rw [← h.map_typeOf, List.length_map]

theorem StackTy.append {a b : List Val} {ta tb : List Ty} (h1 : StackTy a ta) (h2 : StackTy b tb) :
    StackTy (a ++ b) (ta ++ tb) := by
  obtain ⟨w1, rfl⟩ := stackTy_iff.mp h1
  obtain ⟨w2, rfl⟩ := stackTy_iff.mp h2
  exact stackTy_iff.mpr ⟨stackWF_append.mpr ⟨w1, w2⟩, List.map_append⟩

theorem StackTy.drop {st : List Val} {ts : List Ty} (h : StackTy st ts) (n : Nat) : StackTy (st.drop n) (ts.drop n) := by
  obtain ⟨w, rfl⟩ := stackTy_iff.mp h
  exact stackTy_iff.mpr ⟨stackWF_drop w n, List.map_drop⟩

theorem StackTy.take {st : List Val} {ts : List Ty} (h : StackTy st ts) (n : Nat) : StackTy (st.take n) (ts.take n) := by
  obtain ⟨w, rfl⟩ := stackTy_iff.mp h
  exact stackTy_iff.mpr ⟨stackWF_take w n, List.map_take⟩

theorem StackTy.get {st : List Val} {ts : List Ty} (h : StackTy st ts) (n : Nat) (v : Val) (t : Ty)
    (hv : st[n]? = some v) (ht : ts[n]? = some t) : HasTy v t := by
  obtain ⟨w, rfl⟩ := stackTy_iff.mp h
  rw [List.getElem?_map, hv] at ht
  exact hasTy_iff.mpr ⟨stackWF_get w n v hv, Option.some.inj ht⟩

@[simp] theorem wf_unit : WF .unit := rfl
@[simp] theorem wf_bool (b : Bool) : WF (.bool b) := rfl
@[simp] theorem wf_str (s : List Nat) : WF (.str s) := rfl
@[simp] theorem wf_bytes (s : List Nat) : WF (.bytes s) := rfl
@[simp] theorem wf_int (v : Int) : WF (.num .int v) := rfl
@[simp] theorem wf_timestamp (v : Int) : WF (.num .timestamp v) := rfl
theorem wf_nat (v : Int) : WF (.num .nat v) ↔ 0 ≤ v := by simp [WF, HasTy, checkVal, typeOf]
theorem wf_mutez (v : Int) : WF (.num .mutez v) ↔ 0 ≤ v ∧ v < 2 ^ 63 := by simp [WF, HasTy, checkVal, typeOf]
@[simp] theorem wf_address (s : List Nat) : WF (.atom .address s) := rfl
@[simp] theorem wf_chainId (s : List Nat) : WF (.atom .chainId s) := rfl
@[simp] theorem wf_pair (a b : Val) : WF (.pair a b) ↔ WF a ∧ WF b := by simp [WF, HasTy, checkVal, typeOf]
@[simp] theorem wf_some (a : Val) : WF (.some a) ↔ WF a := Iff.rfl
@[simp] theorem wf_none (t : Ty) : WF (.none t) := by simp [WF, HasTy, checkVal, typeOf]
@[simp] theorem wf_left (a : Val) (t : Ty) : WF (.left a t) ↔ WF a := by simp [WF, HasTy, checkVal, typeOf]
@[simp] theorem wf_right (a : Val) (t : Ty) : WF (.right t a) ↔ WF a := by simp [WF, HasTy, checkVal, typeOf]
theorem wf_list (t : Ty) (xs : List Val) : WF (.list t xs) ↔ AllTy xs t := by simp [WF, HasTy, AllTy, checkVal, typeOf]
theorem wf_map (k v : Ty) (xs : List Val) : WF (.map k v xs) ↔ AllTy xs (.pair k v) := by
  simp [WF, HasTy, AllTy, checkVal, typeOf]
theorem wf_set (t : Ty) (xs : List Val) : WF (.set t xs) ↔ AllTy xs t := by simp [WF, HasTy, AllTy, checkVal, typeOf]
theorem wf_lam (a b : Ty) (body : Instr) : WF (.lam a b body) ↔ BodyTy body a b := by
  constructor
  · intro h
    obtain ⟨body', he, hb⟩ := hasTy_lambda (v := .lam a b body) (a := a) (b := b) (by simpa [WF, typeOf] using h)
    cases he
    exact hb
  · intro h
    simp only [WF, HasTy, typeOf, checkVal, decide_true, Bool.true_and]
    rcases h with h | h <;> simp [h]

theorem wf_num_ty {t : Ty} {v : Int} (h : WF (.num t v)) : t = .int ∨ t = .nat ∨ t = .mutez ∨ t = .timestamp := by
  cases t <;> try cases h
  all_goals simp

theorem allTy_iff {xs : List Val} {t : Ty} : AllTy xs t ↔ ∀ x ∈ xs, WF x ∧ typeOf x = t := by
  induction xs with
  | nil => simp [allTy_nil]
  | cons x xs ih => simp [allTy_cons, ih, hasTy_iff]

end Interp

-- outside the scope of `variable [Mode]`: the two typing judgements themselves
namespace Interp
open Typing

/-- **strict typing refines typing**: whatever `typeInstr true` (MAP bodies keep the element type) accepts, the Michelson
typing rules `typeInstr false` accept with the same result; likewise for sequences and for values (lambda bodies).  By
the functional induction principle of the four mutually recursive checkers. -/
theorem strict_imp_lax :
    (∀ i s, ∀ r, typeInstr true i s = some r → typeInstr false i s = some r) ∧
    (∀ v t, checkVal true v t = true → checkVal false v t = true) ∧
    (∀ vs t, checkVals true vs t = true → checkVals false vs t = true) ∧
    (∀ is s, ∀ r, typeSeq true is s = some r → typeSeq false is s = some r) := by
  apply typeInstr.mutual_induct true
    (motive_1 := fun i s => ∀ r, typeInstr true i s = some r → typeInstr false i s = some r)
    (motive_2 := fun v t => checkVal true v t = true → checkVal false v t = true)
    (motive_3 := fun vs t => checkVals true vs t = true → checkVals false vs t = true)
    (motive_4 := fun is s => ∀ r, typeSeq true is s = some r → typeSeq false is s = some r)
  all_goals intros
  -- the last equations of `checkVal` and `typeInstr` do not look at the flag
  case case28 h =>
    rw [checkVal.eq_28] at h
    · cases h
    all_goals assumption
  case case77 h =>
    rw [typeInstr.eq_18] at h ⊢
    · exact h
    all_goals assumption
  all_goals try (simp_all [typeInstr, checkVal, checkVals, typeSeq]; done)
  -- left: a lambda value and ITER over a list / set / map, where the hypothesis is needed at the result of the body; DIPN beyond the stack
  case case27 a' b' body a b ih h =>
    cases hb : typeInstr true body [a] with
    | none => simp [checkVal, hb] at h
    | some rb =>
      have := ih rb hb
      simp only [checkVal, hb, this] at h ⊢
      exact h
  case case40 n body s hn r h => simp [typeInstr, hn] at h
  case case57 | case61 | case65 =>
    rename_i x ih r h
    have := ih _ x
    simp only [typeInstr, x, this] at h ⊢
    exact h

theorem typeInstr_lax [Mode] {i : Instr} {s : List Ty} {r : TRes} (h : typeInstr Mode.strict i s = some r) :
    typeInstr false i s = some r := by
  cases hm : Mode.strict with
  | false =>
    rw [hm] at h
    exact h
  | true =>
    rw [hm] at h
    exact strict_imp_lax.1 i s r h

theorem typeSeq_lax [Mode] {is : List Instr} {s : List Ty} {r : TRes} (h : typeSeq Mode.strict is s = some r) :
    typeSeq false is s = some r := by
  cases hm : Mode.strict with
  | false =>
    rw [hm] at h
    exact h
  | true =>
    rw [hm] at h
    exact strict_imp_lax.2.2.2 is s r h

end Interp
