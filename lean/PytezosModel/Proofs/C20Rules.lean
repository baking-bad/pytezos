import PytezosModel.Proofs.C20Basic
/-! C20: the "pop k, push the results" instructions as rules on values.  `Turns c self i ops res flag new`: instruction `i`
turns the operands `ops` (top of the stack first) into the results `res`, and-s `flag` into the ghost flag and logs the
mints `new`.  `simple_turns` reads the rules off `simple` once; conservation and type preservation are facts about the
rules, with no state in sight. -/
namespace Impl.Tickets

/-- `vs` are the first items above the protected part and `s1` is `s` without them -/
inductive Taken (s : State) : List Val → State → Prop
  | none : Taken s [] s
  | pop {n : Nat} {vs : List Val} {s1 : State} : s.pop n = .ok (vs, s1) → Taken s vs s1

/-- push `res` (its head ends on top), and `flag` into the ghost flag, log `new` -/
def State.put (s : State) (res : List Val) (flag : Bool) (new : List (String × Cmp × Nat)) : State :=
  res.foldr (fun v t => t.push v) { s with typedStores := flag && s.typedStores, minted := new ++ s.minted }

inductive Turns (c : Cfg) (self : String) : Instr → List Val → List Val → Bool → List (String × Cmp × Nat) → Prop
  | ticket : item.toCmp = some ct → 0 < n →
    Turns c self .ticket [item, .atom (.nat n)] [.some (.ticket (.ticket item.typeOf) self ct n)] true [(self, ct, n)]
  | ticketZero : Turns c self .ticket [item, .atom (.nat 0)] [.none (.ticket item.typeOf)] true []
  | readTicket :
    Turns c self .readTicket [.ticket cls tk ct a] [.pair (.atom (.addr tk)) (.pair ct.toVal (.atom (.nat a))), .ticket cls tk ct a]
      true []
  | splitNone : split c cls tk ct A a b = none →
    Turns c self .splitTicket [.ticket cls tk ct A, .pair (.atom (.nat a)) (.atom (.nat b))] [.none (.pair cls cls)] true []
  | splitSome : split c cls tk ct A a b = some (l, r) →
    Turns c self .splitTicket [.ticket cls tk ct A, .pair (.atom (.nat a)) (.atom (.nat b))] [.some (.pair l r)] true []
  | joinNone : join c cls tk1 c1 a1 tk2 c2 a2 = none →
    Turns c self .joinTickets [.pair (.ticket cls tk1 c1 a1) (.ticket cls tk2 c2 a2)] [.none cls] true []
  | joinSome : join c cls tk1 c1 a1 tk2 c2 a2 = some r →
    Turns c self .joinTickets [.pair (.ticket cls tk1 c1 a1) (.ticket cls tk2 c2 a2)] [.some r] true []
  | pair : Turns c self .pair [l, r] [.pair l r] true []
  | unpair : Turns c self .unpair [.pair l r] [l, r] true []
  | car : Turns c self .car [.pair l r] [l] true []
  | cdr : Turns c self .cdr [.pair l r] [r] true []
  | some : Turns c self .some [v] [.some v] true []
  | none : Turns c self (.none t) [] [.none t] true []
  | nil : Turns c self (.nil t) [] [.list t []] true []
  | cons : Turns c self .cons [x, .list x.typeOf xs] [.list x.typeOf (x :: xs)] true []
  | swap : Turns c self .swap [a, b] [b, a] true []
  | drop : Turns c self .drop [a] [] true []
  | push : t.all c.nonPush = true → v.typeOf = t → v.consistent = true → Turns c self (.push t v) [] [v] true []
  | emptyMap : Turns c self (.emptyMap k v) [] [.map false k v [] [] []] true []
  | emptyBigMap : Turns c self (.emptyBigMap k v) [] [.map true k v [] [] []] true []
  | emptySet : Turns c self (.emptySet t) [] [.set t []] true []
  | get :
    mapGet c big kt vt keys vals removed key true = .ok r →
    Turns c self .get [key, .map big kt vt keys vals removed] [optVal vt r] true []
  | getAndUpdate :
    optOf val = Option.some ov → mapUpdate c big kt vt keys vals removed key ov = .ok (prev, dst) →
    Turns c self .getAndUpdate [key, val, .map big kt vt keys vals removed] [optVal vt prev, dst] (storeOk vt ov) []
  | update :
    optOf val = Option.some ov → mapUpdate c big kt vt keys vals removed key ov = .ok (prev, dst) →
    Turns c self .update [key, val, .map big kt vt keys vals removed] [dst] (storeOk vt ov) []
  | updateSet :
    Turns c self .update [.atom k, .atom (.bool b), .set k.ty xs] [.set k.ty (if b then setAdd k xs else xs.filter (· != k))] true []
  | left : Turns c self (.left t) [v] [.left v t] true []
  | right : Turns c self (.right t) [v] [.right t v] true []
  | lambda : Turns c self (.lambda a b body) [] [.lam a b body] true []
  | apply :
    Turns c self .apply [x, .lam (.pair x.typeOf rt) b body] [.lam rt b [.push x.typeOf x, .pair, .seq body]] true []
  -- MEM: some boolean; neither conservation nor typing asks which
  | memSet : Turns c self .mem [key, .set t xs] [.atom (.bool b)] true []
  | memMap :
    Turns c self .mem [key, .map big kt vt keys vals removed] [.atom (.bool b)] true []

/-- `s'` comes from `s` by one rule applied at the top of the unprotected part -/
inductive Does (c : Cfg) (i : Instr) (s s' : State) : Prop
  | intro {ops res : List Val} {flag : Bool} {new : List (String × Cmp × Nat)} {s1 : State} : Taken s ops s1 →
    Turns c s1.self i ops res flag new → s' = s1.put res flag new → Does c i s s'

theorem Taken.popped {s s1 : State} {vs : List Val} (h : Taken s vs s1) : Popped s vs s1 := by
  cases h with
  | none => exact ⟨.refl _, rfl, rfl, rfl⟩
  | pop hp => exact (pop_spec hp).1

theorem Taken.good {s s1 : State} {ops : List Val} (h : Taken s ops s1) {res : List Val} {flag : Bool}
    {new : List (String × Cmp × Nat)} (hv : flag = true → Acc new ops res) : Good s (s1.put res flag new) :=
  have hp := pushes_popped { s1 with typedStores := flag && s1.typedStores, minted := new ++ s1.minted } res
  h.popped.good res new flag hp.1 hp.2.1.symm hp.2.2.1.symm hp.2.2.2.symm hv

theorem simple_turns {c : Cfg} {s s' : State} {i : Instr} (h : simple c s i = some (.ok s')) : Does c i s s' := by
  cases i
  -- on its own instructions `simple` answers `some` of a computation
  all_goals try replace h := Option.some.inj h
  -- below, `split at h` goes by the patterns of `simple`: on any other shape of the operands it fails
  case ticket =>
    obtain ⟨⟨item, amount, s1⟩, hp, h⟩ := bind_ok h
    dsimp only at h
    split at h
    · obtain ⟨_, h⟩ := guard_ok h
      split at h
      · cases h
      · split at h <;> cases h
        · exact .intro (.pop (pop2_eq hp)) (.ticket ‹_› ‹_›) rfl
        · obtain rfl := Nat.eq_zero_of_not_pos ‹_›
          exact .intro (.pop (pop2_eq hp)) .ticketZero rfl
    · cases h
  case splitTicket =>
    obtain ⟨⟨t, amounts, s1⟩, hp, h⟩ := bind_ok h
    dsimp only at h
    split at h
    · split at h <;> cases h
      · exact .intro (.pop (pop2_eq hp)) (.splitNone ‹_›) rfl
      · exact .intro (.pop (pop2_eq hp)) (.splitSome ‹_›) rfl
    · cases h
  case joinTickets =>
    obtain ⟨⟨p, s1⟩, hp, h⟩ := bind_ok h
    dsimp only at h
    split at h
    · obtain ⟨rfl, h2⟩ := guard_bne h
      split at h2
      · cases h2; exact .intro (.pop (pop1_eq hp)) (.joinNone ‹_›) rfl
      · obtain ⟨_, h3⟩ := guard_ok h2
        cases h3
        exact .intro (.pop (pop1_eq hp)) (.joinSome ‹_›) rfl
    · cases h
  case pair | swap =>
    obtain ⟨⟨a, b, s1⟩, hp, h⟩ := bind_ok h
    cases h
    exact .intro (.pop (pop2_eq hp)) (by constructor) (by rfl)
  case some | left | right | drop =>
    obtain ⟨⟨v, s1⟩, hp, h⟩ := bind_ok h
    cases h
    exact .intro (.pop (pop1_eq hp)) (by constructor) (by rfl)
  case unpair | car | cdr | readTicket =>
    obtain ⟨⟨p, s1⟩, hp, h⟩ := bind_ok h
    dsimp only at h
    split at h <;> cases h
    exact .intro (.pop (pop1_eq hp)) (by constructor) (by rfl)
  case none | nil | lambda => cases h; exact .intro .none (by constructor) (by rfl)
  case emptyMap | emptyBigMap | emptySet =>
    obtain ⟨_, h⟩ := guard_ok' h
    cases h
    exact .intro .none (by constructor) (by rfl)
  case cons =>
    obtain ⟨⟨x, l, s1⟩, hp, h⟩ := bind_ok h
    dsimp only at h
    split at h
    · obtain ⟨rfl, h⟩ := guard_bne h
      cases h
      exact .intro (.pop (pop2_eq hp)) .cons rfl
    · cases h
  case push t v =>
    obtain ⟨hp, h⟩ := guard_ok h
    obtain ⟨hv, h⟩ := guard_ok' h
    cases h
    simp only [Bool.and_eq_true, beq_iff_eq] at hv
    exact .intro .none (.push (by simpa using hp) hv.1.1 hv.1.2) rfl
  case get =>
    obtain ⟨⟨key, src, s1⟩, hp, h⟩ := bind_ok h
    dsimp only at h
    split at h
    · obtain ⟨r, hg, h⟩ := bind_ok h
      cases h
      exact .intro (.pop (pop2_eq hp)) (.get hg) rfl
    · cases h
  case getAndUpdate =>
    obtain ⟨⟨key, val, src, s1⟩, hp, h⟩ := bind_ok h
    dsimp only at h
    split at h
    · split at h
      · cases h
      · obtain ⟨⟨prev, dst⟩, hu, h⟩ := bind_ok h
        cases h
        exact .intro (.pop (pop3_eq hp)) (.getAndUpdate ‹_› hu) (by simp only [State.put, Bool.and_comm]; rfl)
    · cases h
  case update =>
    obtain ⟨⟨key, val, src, s1⟩, hp, h⟩ := bind_ok h
    dsimp only at h
    split at h
    · split at h
      · cases h
      · obtain ⟨⟨prev, dst⟩, hu, h⟩ := bind_ok h
        cases h
        exact .intro (.pop (pop3_eq hp)) (.update ‹_› hu) (by simp only [State.put, Bool.and_comm]; rfl)
    · split at h
      · obtain ⟨ht, h⟩ := guard_bne h
        split at h <;> cases h
        cases ht
        exact .intro (.pop (pop3_eq hp)) .updateSet rfl
      · cases h
    · cases h
  case apply =>
    obtain ⟨⟨x, lam, s1⟩, hp, h⟩ := bind_ok h
    dsimp only at h
    split at h
    · obtain ⟨rfl, h⟩ := guard_bne h
      cases h
      exact .intro (.pop (pop2_eq hp)) .apply rfl
    · cases h
  case mem =>
    obtain ⟨⟨key, src, s1⟩, hp, h⟩ := bind_ok h
    dsimp only at h
    split at h
    · obtain ⟨_, h⟩ := guard_ok h
      split at h <;> cases h
      exact .intro (.pop (pop2_eq hp)) .memSet rfl
    · obtain ⟨r, _, h⟩ := bind_ok h
      cases h
      exact .intro (.pop (pop2_eq hp)) .memMap rfl
    · cases h
  -- FAILWITH answers an error; on the control instructions `simple` answers `none`
  all_goals cases h

/-- `exec` asks `simple` first.  The match is stated for an arbitrary option, so that `exec` is only unfolded by the
unifier (rewriting with its equations is much dearer). -/
theorem exec_simple {c : Cfg} {f : Nat} {i : Instr} {s : State} {r : M State} (hs : simple c s i = some r) :
    exec c (f + 1) i s = r := by
  have key : ∀ (o : Option (M State)) (e : M State), o = some r → (match o with | some r => r | none => e) = r := by
    intro o e h; subst h; rfl
  exact key _ _ hs

end Impl.Tickets
