import PytezosModel.Client.Errors
/-! `split` / `join` are inverse bijections between strings and non-empty lists of
separator-free components; characterisation of the first registered key. -/
namespace Proofs.C27
open Impl.Errors

theorem split_ne_nil (sep : Nat) : ∀ s : Str, split sep s ≠ []
  | [] => by simp [split]
  | c :: cs => by
    unfold split
    split
    · simp
    · split <;> simp

theorem split_sepfree (sep : Nat) : ∀ (s : Str), ∀ x ∈ split sep s, sep ∉ x
  | [] => by simp [split]
  | c :: cs => by
    have ih := split_sepfree sep cs
    unfold split
    by_cases hc : c = sep
    · simp only [hc, if_true, List.mem_cons]
      intro x hx
      rcases hx with rfl | hx
      · simp
      · exact ih x hx
    · simp only [hc, if_false]
      obtain ⟨h, t, hsp⟩ := List.exists_cons_of_ne_nil (split_ne_nil sep cs)
      rw [hsp] at ih ⊢
      intro x hx
      simp only [List.mem_cons] at hx
      rcases hx with rfl | hx
      · simp only [List.mem_cons, not_or]
        exact ⟨fun e => hc e.symm, ih h (by simp)⟩
      · exact ih x (by simp [hx])

theorem join_split (sep : Nat) : ∀ s : Str, join sep (split sep s) = s
  | [] => by simp [split, join]
  | c :: cs => by
    have ih := join_split sep cs
    unfold split
    obtain ⟨h, t, hsp⟩ := List.exists_cons_of_ne_nil (split_ne_nil sep cs)
    rw [hsp] at ih ⊢
    by_cases hc : c = sep
    · simp [hc, join, ih]
    · simp only [hc, if_false]
      cases t with
      | nil => simp only [join] at ih ⊢; rw [ih]
      | cons y rest => simp only [join] at ih ⊢; rw [← ih]; simp

theorem split_sepfree_self (sep : Nat) : ∀ (x : Str), sep ∉ x → split sep x = [x]
  | [], _ => by simp [split]
  | c :: x, h => by
    simp only [List.mem_cons, not_or] at h
    have hc : ¬ c = sep := fun e => h.1 e.symm
    unfold split
    simp [hc, split_sepfree_self sep x h.2]

theorem split_append_sep (sep : Nat) (s : Str) : ∀ (x : Str), sep ∉ x → split sep (x ++ sep :: s) = x :: split sep s
  | [], _ => by simp [split]
  | c :: x, h => by
    simp only [List.mem_cons, not_or] at h
    have hc : ¬ c = sep := fun e => h.1 e.symm
    have ih := split_append_sep sep s x h.2
    simp only [List.cons_append, split, hc, if_false, ih]

theorem split_join (sep : Nat) : ∀ (cs : List Str), cs ≠ [] → (∀ c ∈ cs, sep ∉ c) → split sep (join sep cs) = cs
  | [], h, _ => absurd rfl h
  | [x], _, hd => by simpa [join] using split_sepfree_self sep x (hd x (by simp))
  | x :: y :: rest, _, hd => by
    have ih := split_join sep (y :: rest) (by simp) (fun c hc => hd c (by simp [hc]))
    simp only [join]
    rw [split_append_sep sep _ x (hd x (by simp)), ih]

/-- the conditional slice of the repaired `_gen_error_variants` is the specification's `stripProto` -/
theorem strip_eq (cs : List Str) :
    (if cs.head? = some Spec.Errors.proto ∧ 2 < cs.length then cs.drop 2 else cs) = Spec.Errors.stripProto cs := by
  match cs with
  | [] => simp [Spec.Errors.stripProto]
  | [a] => simp [Spec.Errors.stripProto]
  | [a, b] => simp [Spec.Errors.stripProto]
  | a :: b :: c :: rest =>
    by_cases h : a = Spec.Errors.proto
    · simp [Spec.Errors.stripProto, h]
    · simp [Spec.Errors.stripProto, h]

theorem variantsRepaired_spec (cs : List Str) (hne : cs ≠ []) (hd : ∀ c ∈ cs, Spec.Errors.dot ∉ c) :
    variantsRepaired Spec.Errors.dot Spec.Errors.proto (join Spec.Errors.dot cs) = Spec.Errors.variants cs := by
  unfold variantsRepaired
  simp only [split_join Spec.Errors.dot cs hne hd, strip_eq]
  rfl

theorem findSome?_eq_some_iff_getElem? {α β : Type} {f : α → Option β} {b : β} {l : List α} :
    l.findSome? f = some b ↔
      ∃ (n : Nat) (a : α), l[n]? = some a ∧ f a = some b ∧ ∀ m : Nat, m < n → ∀ a', l[m]? = some a' → f a' = none := by
  rw [List.findSome?_eq_some_iff]
  constructor
  · rintro ⟨l₁, a, l₂, rfl, hf, hn⟩
    exact ⟨l₁.length, a, by simp, hf, fun m hm a' ha' =>
      hn a' (List.mem_of_getElem? (by rwa [List.getElem?_append_left hm] at ha'))⟩
  · rintro ⟨n, a, hl, hf, hn⟩
    obtain ⟨hlt, rfl⟩ := List.getElem?_eq_some_iff.mp hl
    refine ⟨l.take n, l[n], l.drop (n + 1), by rw [← List.drop_eq_getElem_cons hlt, List.take_append_drop], hf, fun x hx => ?_⟩
    obtain ⟨m, hm, rfl⟩ := List.mem_take_iff_getElem.mp hx
    exact hn m (by omega) _ (List.getElem?_eq_getElem _)

theorem firstRegistered_eq {κ : Type} (reg : List (Str × κ)) : ∀ ks : List Str, firstRegistered reg ks = ks.findSome? (lookup reg)
  | [] => rfl
  | k :: ks => by
    rw [firstRegistered, List.findSome?_cons, firstRegistered_eq reg ks]
    cases lookup reg k <;> rfl

theorem firstRegistered_some {κ : Type} (reg : List (Str × κ)) (c : κ) (ks : List Str) :
    firstRegistered reg ks = some c ↔
      ∃ (n : Nat) (k : Str), ks[n]? = some k ∧ lookup reg k = some c ∧
        ∀ m : Nat, m < n → ∀ k', ks[m]? = some k' → lookup reg k' = none := by
  rw [firstRegistered_eq, findSome?_eq_some_iff_getElem?]

theorem firstRegistered_none {κ : Type} (reg : List (Str × κ)) (ks : List Str) :
    firstRegistered reg ks = none ↔ ∀ k ∈ ks, lookup reg k = none := by
  rw [firstRegistered_eq, List.findSome?_eq_none_iff]

theorem variantsFn_eq : variantsFn = some (.repaired Spec.Errors.dot Spec.Errors.proto) := rfl

theorem classify_eq (reg : List (Str × Generated.C27.Cls)) (hreg : Generated.C27.registry = some reg)
    (ids : List Str) :
    classify ids = some (fromErrors (.repaired Spec.Errors.dot Spec.Errors.proto) reg ids) := by
  have hf : Generated.C27.fromErrorsRecognised = true := rfl
  simp [classify, variantsFn_eq, hreg, hf]

end Proofs.C27
