import PytezosModel.Client.Counters
/-! The one-step invariant of the counter state machine `Impl.Counters`. -/
namespace Impl.Counters

theorem map_add_range' (p k a : Nat) : (List.range' a k).map (· + p) = List.range' (a + p) k := by
  rw [show (· + p) = (p + ·) from funext fun x => Nat.add_comm x p, List.map_add_range', Nat.add_comm]

/-- the group carries the account's next counters: `c+p+1 … c+p+k` -/
def Right (s : State) (g : Grp) : Prop := g.ctrs = expected s g.ctrs.length

/-- invariant: a group is never stamped in the future, and a group stamped with the current epoch is right -/
def Inv (s : State) : Prop := ∀ g, s.cur = some g → g.stamp ≤ s.epoch ∧ (g.stamp = s.epoch → Right s g)

theorem fillTmpl_supported (sh : Shape) (s : State) (k : Nat) (h : fillSupported sh s = true) :
    (fillTmpl sh s k).1 = expected s k := by
  unfold fillSupported at h
  simp only [Bool.and_eq_true, Bool.or_eq_true, Option.isNone_iff_eq_none, beq_iff_eq] at h
  obtain ⟨h1, h2⟩ := h
  have hc : (if sh.fillResetsCache = true then none else s.cache).getD s.c = s.c := by
    rcases h1 with h1 | h1 <;> simp [h1]
  unfold fillTmpl getCounters expected
  simp only [hc]
  rcases h2 with h2 | h2
  · simp only [h2, if_true, map_add_range']
    congr 1; omega
  · cases hm : sh.fillUsesMempool
    · simp [h2]
    · simp only [if_true, map_add_range']
      congr 1; omega

theorem fillTmpl_length (sh : Shape) (s : State) (k : Nat) : (fillTmpl sh s k).1.length = k := by
  unfold fillTmpl getCounters
  simp only []
  split <;> simp

theorem sim_then_offset (s : State) (cs : List Nat) (h : simAccepts s cs = true) :
    cs.map (· + s.p) = expected s (cs.map (· + s.p)).length := by
  unfold simAccepts at h
  simp only [beq_iff_eq] at h
  unfold expected
  rw [List.length_map]
  conv => lhs; rw [h]
  rw [map_add_range']
  congr 1; omega

/-- is the event inside the supported region in state `s`? (only `fill` of the unfilled group is restricted) -/
def supported (sh : Shape) (s : State) : Event → Bool
  | .fill .tmpl => s.tmpl.isNone || fillSupported sh s
  | _ => true

theorem clean_cons (sh : Shape) (s : State) (e : Event) (es : List Event) :
    clean sh s (e :: es) = (supported sh s e && clean sh (step sh s e).1 es) := rfl

theorem no_obs {P : Obs → Prop} (o : Obs) (h : none = some o) : P o := nomatch h

theorem Inv.fresh {s s' : State} {g : Grp} (hcur : s'.cur = some g) (he : s'.epoch = s.epoch) (hs : g.stamp = s.epoch)
    (hr : g.ctrs = expected s' g.ctrs.length) : Inv s' := by
  intro g' hg
  cases hcur.symm.trans hg
  exact ⟨by omega, fun _ => hr⟩

/-- the node moves on: whatever group there is, is no longer stamped with the current epoch -/
theorem Inv.bump {s s' : State} (hinv : Inv s) (hcur : s'.cur = s.cur) (he : s'.epoch = s.epoch + 1) : Inv s' := by
  intro g hg
  have := (hinv g (hcur ▸ hg)).1
  exact ⟨by omega, fun h => by omega⟩

theorem step_ok (sh : Shape) (s : State) (e : Event) (hinv : Inv s) (hs : supported sh s e = true) :
    Inv (step sh s e).1 ∧ ∀ o, (step sh s e).2.2 = some o → o.fresh = true → o.sent = o.expected := by
  -- what an injection of the signed group `g` shows, accepted or refused
  have hobs (g : Grp) (hc : s.cur = some g) (o : Obs)
      (ho : some { fresh := g.stamp == s.epoch, sent := g.ctrs, expected := expected s g.ctrs.length } = some o)
      (hf : o.fresh = true) : o.sent = o.expected := by
    cases ho
    exact (hinv g hc).2 (by simpa using hf)
  fun_cases step sh s e
  case case1 => exact ⟨fun g hg => (nomatch hg), no_obs⟩
  case case3 k hk cs _ hf =>
    simp only [supported, hk, Option.isNone_some, Bool.false_or] at hs
    obtain rfl : (fillTmpl sh s k).1 = cs := by rw [hf]
    refine ⟨Inv.fresh rfl rfl rfl ?_, no_obs⟩
    simp only [fillTmpl_length]
    exact fillTmpl_supported sh s k hs
  case case7 => exact ⟨Inv.fresh rfl rfl rfl (sim_then_offset s _ ‹_›), no_obs⟩
  case case10 => exact ⟨Inv.fresh rfl rfl rfl (sim_then_offset s _ ‹_›), no_obs⟩
  case case13 g hc => exact ⟨fun g' hg => by cases hg; exact hinv g hc, no_obs⟩
  case case16 => exact ⟨Inv.bump hinv rfl rfl, hobs _ ‹_›⟩
  case case17 => exact ⟨hinv, hobs _ ‹_›⟩
  case case18 => exact ⟨Inv.bump hinv rfl rfl, no_obs⟩
  -- no group, or a state that differs from `s` in the cache only, which `Inv` does not read
  all_goals exact ⟨hinv, no_obs⟩
end Impl.Counters
