import PytezosModel.Proofs.InterpKeys
/-! MEM / GET / UPDATE / GET_AND_UPDATE: the mirror of `struct.py` + `set.py` + `map.py` computes what the reference
rules prescribe, on every well-formed collection and key of the right type — on sets and maps (`execMem_eq` …), and on
big maps created in the run (`execMemB_eq` …: the rule of `map` on the bindings). -/
namespace Interp
open Typing List

theorem strictSorted_iff : ∀ l : List Val, strictSorted l = true ↔ Coll.StrictSorted keyLt l
  | [] => by simp [strictSorted, Coll.StrictSorted]
  | a :: rest => by
    simp only [strictSorted, Bool.and_eq_true, List.all_eq_true, Coll.StrictSorted, List.pairwise_cons]
    rw [strictSorted_iff rest]
    rfl

theorem goodSet_spec {t : Ty} {xs : List Val} (h : goodSet t xs = true) :
    simpleComparable t = true ∧ (∀ e ∈ xs, isKey t e = true) ∧ Coll.StrictSorted keyLt xs := by
  simp only [goodSet, Bool.and_eq_true, List.all_eq_true] at h
  exact ⟨h.1.1, h.1.2, (strictSorted_iff xs).mp h.2⟩

theorem kvs_eq (items : List Val) : Spec.kvs items = items.map Impl.toKV := by
  unfold Spec.kvs
  apply List.map_congr_left
  intro e _
  cases e <;> rfl

theorem unkvs_eq (m : List (Val × Val)) : Spec.unkvs m = m.map Impl.ofKV := rfl

theorem isBinding_pair {k : Ty} {e : Val} (h : isBinding k e = true) : ∃ a b, e = .pair a b ∧ isKey k a = true := by
  cases e <;> simp [isBinding] at h
  exact ⟨_, _, rfl, h⟩

theorem goodMap_spec {k : Ty} {items : List Val} (h : goodMap k items = true) :
    simpleComparable k = true ∧ items.all Impl.isPairVal = true ∧ (∀ e ∈ items.map Impl.toKV, isKey k e.1 = true) ∧
      Coll.StrictSorted keyLt ((items.map Impl.toKV).map Prod.fst) := by
  simp only [goodMap, Bool.and_eq_true, List.all_eq_true] at h
  obtain ⟨⟨h1, h2⟩, h3⟩ := h
  refine ⟨h1, ?_, ?_, ?_⟩
  · rw [List.all_eq_true]
    intro e he
    obtain ⟨a, b, rfl, _⟩ := isBinding_pair (h2 e he)
    rfl
  · intro e he
    rw [List.mem_map] at he
    obtain ⟨e', he', rfl⟩ := he
    obtain ⟨a, b, rfl, hk⟩ := isBinding_pair (h2 e' he')
    exact hk
  · have : (items.map Impl.toKV).map Prod.fst = items.map keyOf := by
      rw [List.map_map]
      apply List.map_congr_left
      intro e he
      obtain ⟨a, b, rfl, _⟩ := isBinding_pair (h2 e he)
      rfl
    rw [this]
    exact (strictSorted_iff _).mp h3

theorem keyGuard {k : Ty} {x : Val} (hx : isKey k x = true) : (Impl.keyModelled k && typeOf x == k) = true := by
  simp [isKey_modelled hx, isKey_typeOf hx]

/-- the three dynamic checks of `struct.py` on a map pass on a well-formed map and a key of its key type -/
theorem mapGuard {k : Ty} {items : List Val} {x : Val} (hg : goodMap k items = true) (hx : isKey k x = true) :
    (Impl.keyModelled k && items.all Impl.isPairVal && typeOf x == k) = true := by
  simp [isKey_modelled hx, isKey_typeOf hx, (goodMap_spec hg).2.1]

theorem ite_ne_stuck {α : Type} {c : Prop} [Decidable c] {r : Res α} (hr : (if c then r else .stuck) ≠ .stuck) : c :=
  Decidable.by_contra fun hc => hr (if_neg hc)

theorem eq_ite {α : Type} {c : Prop} [Decidable c] {r m : Res α} (hr : (if c then r else .stuck) ≠ .stuck) (h : c → m = r) :
    m = if c then r else .stuck :=
  have hc := ite_ne_stuck hr
  (h hc).trans (if_pos hc).symm

theorem eq_ite_bind {α β : Type} {c : Prop} [Decidable c] {r : Res α} {f : α → Res β} {m : Res β}
    (hr : (if c then r else .stuck).bind f ≠ .stuck) (h : c → r.bind f ≠ .stuck → m = r.bind f) :
    m = (if c then r else .stuck).bind f := by
  have hc := ite_ne_stuck (bind_ne_stuck hr)
  rw [if_pos hc] at hr ⊢
  exact h hc hr

theorem execMem_eq (a b : Val) (h : Spec.memV a b ≠ .stuck) : Impl.execMem a b = Spec.memV a b := by
  unfold Spec.memV at h ⊢
  split at h
  · refine eq_ite h fun hc => ?_
    rw [Bool.and_eq_true] at hc
    obtain ⟨_, hall, hs⟩ := goodSet_spec hc.1
    simp only [Impl.execMem, keyGuard hc.2, if_true, set_contains_eq hall hs hc.2]
  · refine eq_ite h fun hc => ?_
    rw [Bool.and_eq_true] at hc
    obtain ⟨_, _, hall, hs⟩ := goodMap_spec hc.1
    simp only [Impl.execMem, mapGuard hc.1 hc.2, if_true, _root_.Impl.Coll.Map.contains, map_get_eq hall hs hc.2, kvs_eq]
  · exact absurd rfl h

theorem execGet_eq (a b : Val) (h : Spec.getV a b ≠ .stuck) : Impl.execGet a b = Spec.getV a b := by
  unfold Spec.getV at h ⊢
  split at h
  · rename_i k v items
    refine eq_ite h fun hc => ?_
    rw [Bool.and_eq_true] at hc
    obtain ⟨_, _, hall, hs⟩ := goodMap_spec hc.1
    simp only [Impl.execGet, mapGuard hc.1 hc.2, if_true, map_get_eq hall hs hc.2, kvs_eq]
    cases _root_.Spec.Coll.findKV keyLt a (items.map Impl.toKV) <;> rfl
  · exact absurd rfl h

theorem mapUpdate_eq {k v : Ty} {items : List Val} {x : Val} (hg : goodMap k items = true) (hx : isKey k x = true)
    (val : Option Val) :
    Impl.mapUpdate k v items x val = .ok (_root_.Spec.Coll.findKV keyLt x (Spec.kvs items),
      .map k v (Spec.unkvs (match val with
        | some y => _root_.Spec.Coll.insertKV keyLt x y (Spec.kvs items)
        | none => _root_.Spec.Coll.eraseKV keyLt x (Spec.kvs items)))) := by
  obtain ⟨_, _, hall, hs⟩ := goodMap_spec hg
  simp only [Impl.mapUpdate, mapGuard hg hx, if_true, map_update_eq hall hs hx val, kvs_eq, unkvs_eq]
  cases val <;> rfl

theorem memB_notBig (x m : Val) (h : ∀ k v items, m ≠ .bigMap k v items) : Spec.memB x m = Spec.memV x m := by
  unfold Spec.memB
  split
  · exact absurd rfl (h _ _ _)
  · rfl

theorem getB_notBig (x m : Val) (h : ∀ k v items, m ≠ .bigMap k v items) : Spec.getB x m = Spec.getV x m := by
  unfold Spec.getB
  split
  · exact absurd rfl (h _ _ _)
  · rfl

theorem updateB_notBig (x o m : Val) (h : ∀ k v items, m ≠ .bigMap k v items) : Spec.updateB x o m = Spec.updateV x o m := by
  unfold Spec.updateB
  split
  · exact absurd rfl (h _ _ _)
  · exact absurd rfl (h _ _ _)
  · rfl

theorem execMemB_eq (a b : Val) (h : Spec.memB a b ≠ .stuck) : Impl.execMem a b = Spec.memB a b := by
  unfold Spec.memB at h ⊢
  split at h
  -- on `bigMap k v items` either side has, as its own arm, the very term it has on `map k v items`: the statement for the
  -- big map IS (by unfolding) the statement for the map; on the other shapes `memB` falls through to `memV`
  next k v items => exact execMem_eq a (.map k v items) h
  next => exact execMem_eq a _ h

theorem execGetB_eq (a b : Val) (h : Spec.getB a b ≠ .stuck) : Impl.execGet a b = Spec.getB a b := by
  unfold Spec.getB at h ⊢
  split at h
  next k v items => exact execGet_eq a (.map k v items) h
  next => exact execGet_eq a _ h

/-- `BigMapType.update` on a map created in the run -/
theorem bigMapUpdate_eq {k v : Ty} {items : List Val} {x : Val} (hg : goodMap k items = true) (hx : isKey k x = true)
    (val : Option Val) :
    Impl.bigMapUpdate k v items x val = .ok (_root_.Spec.Coll.findKV keyLt x (Spec.kvs items),
      .bigMap k v (Spec.unkvs (match val with
        | some y => _root_.Spec.Coll.insertKV keyLt x y (Spec.kvs items)
        | none => _root_.Spec.Coll.eraseKV keyLt x (Spec.kvs items)))) := by
  obtain ⟨_, _, hall, hs⟩ := goodMap_spec hg
  simp only [Impl.bigMapUpdate, mapGuard hg hx, if_true, map_update_eq hall hs hx val, kvs_eq, unkvs_eq]
  cases val <;> rfl

theorem execUpdateB_eq (a b c : Val) (h : Spec.updateB a b c ≠ .stuck) : Impl.execUpdate a b c = Spec.updateB a b c := by
  -- by the equations of the rule: the two for a big map, then (last, brought to the front) those of `updateV`
  unfold Spec.updateB at h ⊢
  split at h
  rotate_left 2
  unfold Spec.updateV at h ⊢
  split at h
  · -- a boolean and a set
    refine eq_ite h fun hc => ?_
    rw [Bool.and_eq_true] at hc
    obtain ⟨_, hall, hs⟩ := goodSet_spec hc.1
    simp only [Impl.execUpdate, keyGuard hc.2, if_true, set_add_eq hall hs hc.2, set_remove_eq hall hs hc.2]
  case h_4 => exact absurd rfl h
  -- an option and a map or a big map
  all_goals
    refine eq_ite h fun hc => ?_
    simp only [Bool.and_eq_true] at hc
    simp only [Impl.execUpdate, mapUpdate_eq hc.1.1 hc.1.2, bigMapUpdate_eq hc.1.1 hc.1.2, rbind_ok]

theorem execUpdate_eq (a b c : Val) (h : Spec.updateV a b c ≠ .stuck) : Impl.execUpdate a b c = Spec.updateV a b c := by
  have hb : ∀ k v items, c ≠ .bigMap k v items := fun k v items e => h (by rw [e]; cases b <;> rfl)
  rw [← updateB_notBig a b c hb] at h ⊢
  exact execUpdateB_eq a b c h

/-- `src.update(key, val)` answers the previous binding together with the new map (`mapUpdate_eq`): the guard of the rule of
GET, then the guard of the rule of UPDATE -/
theorem execGetAndUpdateB_eq (a b c : Val) (h : Spec.getAndUpdateB a b c ≠ .stuck) :
    Impl.execGetAndUpdate a b c = Spec.getAndUpdateB a b c := by
  cases c <;> first | exact absurd rfl h | skip
  all_goals
    rename_i k v items
    refine eq_ite_bind h fun _ h => ?_
    cases b <;> first | exact absurd rfl h | skip
    all_goals
      refine eq_ite_bind h fun hc _ => ?_
      simp only [Bool.and_eq_true] at hc
      simp only [Impl.execGetAndUpdate, mapUpdate_eq hc.1.1 hc.1.2, bigMapUpdate_eq hc.1.1 hc.1.2, rbind_ok]
      cases _root_.Spec.Coll.findKV keyLt a (Spec.kvs items) <;> rfl

theorem execGetAndUpdate_eq (a b c : Val) (h : Spec.getAndUpdateV a b c ≠ .stuck) :
    Impl.execGetAndUpdate a b c = Spec.getAndUpdateV a b c := by
  have hb : ∀ k v items, c ≠ .bigMap k v items := fun k v items e => h (by rw [e]; rfl)
  have e : Spec.getAndUpdateB a b c = Spec.getAndUpdateV a b c := by
    rw [Spec.getAndUpdateB, getB_notBig a c hb, updateB_notBig a b c hb]; rfl
  rw [← e] at h ⊢
  exact execGetAndUpdateB_eq a b c h

end Interp
