import PytezosModel.Proofs.C19Expand
/-! C19 helper lemmas, pair-tree macros: `build_pxr_tree` on a well-formed name gives the tree with the DIP depths `pxrOf`;
the `DIP d {PAIR}` / `DIP d {UNPAIR}` items `traverse_pxr_tree` makes of it compute the reference meaning (`Spec.build`,
`Spec.unbuild`), which is what justifies the depth scheme. -/
namespace C19.Pair
open Impl.Macros Generated.C19 Spec Sem C19.Expand

/-- the tree, the annotation handed up, and the annotations left, for the subtree `t` parsed at leaf count `d` -/
def pxrOf : PairTree → Char → List String → Nat → Bool → Pxr × Option String × List String
  | .leaf, c, a :: rest, _, _ => (.leaf c, some a, rest)
  | .leaf, c, [], _, _ => (.leaf c, none, [])
  | .node l r, _, an, d, root =>
    let x := pxrOf l 'A' an d false
    let y := pxrOf r 'I' x.2.2 (d + l.leaves) false
    (.node d x.2.1 y.2.1 x.1 y.1 root, none, y.2.2)

theorem pxrParse_body (t : PairTree) (c : Char) (hc : c ≠ 'P') (rest : List Char) (an : List String) (d : Nat)
    (root : Bool) (lf : Option Char) (fuel : Nat) (hf : (t.body c).length < fuel) (hl : t = .leaf → lf = some c) :
    pxrParse true fuel (t.body c ++ rest) an d root lf =
      .ok ((pxrOf t c an d root).1, (pxrOf t c an d root).2.1, rest, (pxrOf t c an d root).2.2, d + t.leaves) := by
  induction t generalizing c rest an d root lf fuel with
  | leaf =>
    obtain ⟨fuel, rfl⟩ : ∃ k, fuel = k + 1 := ⟨fuel - 1, by simp [PairTree.body] at hf; omega⟩
    have hlf := hl rfl
    subst hlf
    cases an <;> simp [PairTree.body, pxrParse, hc, assertThat, pxrOf, PairTree.leaves, bind, Except.bind, pure, Except.pure]
  | node l r ihl ihr =>
    obtain ⟨fuel, rfl⟩ : ∃ k, fuel = k + 1 := ⟨fuel - 1, by simp [PairTree.body] at hf; omega⟩
    have hlen : (l.body 'A').length + (r.body 'I').length < fuel := by
      simp [PairTree.body] at hf; omega
    have e1 : (PairTree.node l r).body c ++ rest = 'P' :: (l.body 'A' ++ (r.body 'I' ++ rest)) := by
      simp [PairTree.body]
    rw [e1]
    simp only [pxrParse, ↓reduceIte, bind, Except.bind]
    rw [ihl 'A' (by decide) _ an d false (some 'A') fuel (by omega) (fun _ => rfl)]
    simp only []   -- the mirror's `let (l, la, prim, annots, depth') ← …`, on the tuple just computed
    rw [ihr 'I' (by decide) rest _ (d + l.leaves) false (some 'I') fuel (by omega) (fun _ => rfl)]
    simp [pxrOf, PairTree.leaves, pure, Except.pure, Nat.add_assoc]

theorem buildPxrTree_node (l r : PairTree) (an : List String) :
    buildPxrTree (pairName (.node l r)) an = .ok (pxrOf (.node l r) 'A' an 0 true).1 := by
  have hv : pxrValidated = some true := rfl
  unfold buildPxrTree
  rw [hv]
  simp only [pairName]
  rw [pxrParse_body (.node l r) 'A' (by decide) ['R'] an 0 true none _
    (by simp only [List.length_append, List.length_singleton]; omega) (by intro h; cases h)]
  rfl

/-- `P…R`: the items in the order `traverse_pxr_tree` returns them (reversed pre-order) -/
def pairItems : PairTree → Nat → F
  | .leaf, _ => .ok
  | .node l r, d => pairItems r (d + l.leaves) ⨾ pairItems l d ⨾ under d pairStep

/-- `UNP…R`: pre-order -/
def unpairItems : PairTree → Nat → F
  | .leaf, _ => .ok
  | .node l r, d => under d unpairStep ⨾ unpairItems l d ⨾ unpairItems r (d + l.leaves)

theorem eval_pairProduce (ext : Ext) (an0 : List String) (la ra : Option String) (root : Bool) :
    eval ext (pairProduce an0 la ra root) = pairStep := by
  simp only [pairProduce, expr, eval_PAIR]

theorem eval_unpairProduce (ext : Ext) (la ra : Option String) (root : Bool) :
    eval ext (unpairProduce la ra root) = unpairStep := by
  simp only [unpairProduce, expr, eval_seq, evalSeq_one, eval_UNPAIR]

theorem walk_pair (ext : Ext) (an0 : List String) (t : PairTree) (c : Char) (an : List String) (d : Nat) (root : Bool) :
    evalSeq ext (pxrWalk (pairProduce an0) (pxrOf t c an d root).1).reverse = pairItems t d := by
  induction t generalizing c an d root with
  | leaf => cases an <;> simp [pxrOf, pxrWalk, evalSeq_nil', pairItems]
  | node l r ihl ihr =>
    simp only [pxrOf, pxrWalk, List.reverse_cons, List.reverse_append, evalSeq_append', ihl, ihr, evalSeq_one,
      eval_dipN, eval_pairProduce, pairItems, seqF_assoc]

theorem walk_unpair (ext : Ext) (t : PairTree) (c : Char) (an : List String) (d : Nat) (root : Bool) :
    evalSeq ext (pxrWalk unpairProduce (pxrOf t c an d root).1) = unpairItems t d := by
  induction t generalizing c an d root with
  | leaf => cases an <;> simp [pxrOf, pxrWalk, evalSeq_nil', unpairItems]
  | node l r ihl ihr =>
    simp only [pxrOf, pxrWalk, evalSeq_cons', evalSeq_append', ihl, ihr,
      eval_dipN, eval_unpairProduce, unpairItems, seqF_assoc]

theorem pair_comm (h : F) : under 2 h ⨾ pairStep = pairStep ⨾ under 1 h := by
  funext S
  match S with
  | [] => rfl
  | [a] => simp [seqF, under, pairStep]
  | a :: b :: T =>
    simp only [seqF, under, pairStep, bind_ok]
    cases h T <;> rfl

theorem under1_ok_pair : under 1 Result.ok ⨾ pairStep = pairStep := by
  funext S
  match S with
  | [] => rfl
  | a :: T => simp [seqF, under]

/-- a transformer working below the leaves of `l` commutes with building `l` -/
theorem build_comm (l : PairTree) : ∀ h : F, under l.leaves h ⨾ build l = build l ⨾ under 1 h := by
  induction l with
  | leaf => intro h; simp only [PairTree.leaves, build, seqF_ok_left, seqF_ok_right]
  | node a b iha ihb =>
    intro h
    simp only [PairTree.leaves, build]
    calc under (a.leaves + b.leaves) h ⨾ ((build a ⨾ under 1 (build b)) ⨾ pairStep)
        = ((under a.leaves (under b.leaves h) ⨾ build a) ⨾ under 1 (build b)) ⨾ pairStep := by
          rw [under_add]; simp only [seqF_assoc]
      _ = ((build a ⨾ under 1 (under b.leaves h)) ⨾ under 1 (build b)) ⨾ pairStep := by rw [iha]
      _ = (build a ⨾ under 1 (under b.leaves h ⨾ build b)) ⨾ pairStep := by
          rw [seqF_assoc (build a), under_seq]
      _ = (build a ⨾ under 1 (build b ⨾ under 1 h)) ⨾ pairStep := by rw [ihb]
      _ = (build a ⨾ under 1 (build b)) ⨾ (under 2 h ⨾ pairStep) := by
          rw [← under_seq, ← under_add]; simp only [seqF_assoc]
      _ = ((build a ⨾ under 1 (build b)) ⨾ pairStep) ⨾ under 1 h := by
          rw [pair_comm]; simp only [seqF_assoc]

/-- `under d (build t)`, except that nothing at all is emitted for a leaf (`under d .ok` is not `.ok`: it is an error on a
stack shorter than `d`) -/
def underBuild (t : PairTree) (d : Nat) : F :=
  match t with
  | .leaf => .ok
  | .node l r => under d (build (.node l r))

theorem underBuild_seq (l : PairTree) (d : Nat) (g : F) : underBuild l d ⨾ under d g = under d (build l ⨾ g) := by
  cases l with
  | leaf => simp only [underBuild, build, seqF_ok_left]
  | node a b => simp only [underBuild, under_seq]

theorem underBuild_right (r l : PairTree) (d : Nat) :
    underBuild r (d + l.leaves) ⨾ under d (build l ⨾ pairStep)
      = under d ((build l ⨾ under 1 (build r)) ⨾ pairStep) := by
  cases r with
  | leaf => simp only [underBuild, build, seqF_ok_left, seqF_assoc, under1_ok_pair]
  | node a b =>
    simp only [underBuild]
    rw [under_add, under_seq, ← seqF_assoc, build_comm]

theorem pairItems_eq (t : PairTree) : ∀ d, pairItems t d = underBuild t d := by
  induction t with
  | leaf => intro d; rfl
  | node l r ihl ihr =>
    intro d
    simp only [pairItems, ihl, ihr]
    rw [seqF_assoc, underBuild_seq, underBuild_right]
    rfl

/-- `h` never ends in `FAILWITH`.  Needed to move `h` across an `UNPAIR` (`unpair_comm`): on a top element that is not a
pair, `h` first would report its own failure, `UNPAIR` first reports `err` -/
def NoFail (h : F) : Prop := ∀ S v, h S ≠ .failed v

theorem NoFail_under (n : Nat) (h : F) (hh : NoFail h) : NoFail (under n h) := by
  induction n with
  | zero => simpa [under_zero] using hh
  | succ n ih =>
    intro S v
    cases S with
    | nil => simp [under]
    | cons x S =>
      simp only [under]
      have := ih S
      cases hu : under n h S with
      | ok s => simp
      | failed w => exact absurd hu (this w)
      | err => simp

theorem NoFail_seq (f g : F) (hf : NoFail f) (hg : NoFail g) : NoFail (f ⨾ g) := by
  intro S v
  simp only [seqF]
  cases hfs : f S with
  | ok s => simpa using hg s v
  | failed w => exact absurd hfs (hf S w)
  | err => simp

theorem NoFail_unpairStep : NoFail unpairStep := by
  intro S v
  unfold unpairStep
  split <;> simp

theorem NoFail_ok : NoFail Result.ok := by intro S v; simp

theorem NoFail_unbuild (t : PairTree) : NoFail (unbuild t) := by
  induction t with
  | leaf => exact NoFail_ok
  | node l r ihl ihr =>
    exact NoFail_seq _ _ (NoFail_seq _ _ NoFail_unpairStep (NoFail_under 1 _ ihr)) ihl

theorem unpair_comm (h : F) (hh : NoFail h) : under 1 h ⨾ unpairStep = unpairStep ⨾ under 2 h := by
  funext S
  match S with
  | [] => rfl
  | v :: T =>
    simp only [seqF, under]
    cases hT : h T with
    | failed w => exact absurd hT (hh T w)
    | err => cases v <;> simp [unpairStep, under, hT]
    | ok T' => cases v <;> simp [unpairStep, under, hT]

theorem unpair_under1_ok : unpairStep ⨾ under 1 Result.ok = unpairStep := by
  funext S
  match S with
  | [] => rfl
  | v :: T => cases v <;> simp [seqF, unpairStep, under]

theorem unbuild_comm (l : PairTree) :
    ∀ h : F, NoFail h → under 1 h ⨾ unbuild l = unbuild l ⨾ under l.leaves h := by
  induction l with
  | leaf => intro h _; simp only [PairTree.leaves, unbuild, seqF_ok_left, seqF_ok_right]
  | node a b iha ihb =>
    intro h hh
    simp only [PairTree.leaves, unbuild]
    calc under 1 h ⨾ ((unpairStep ⨾ under 1 (unbuild b)) ⨾ unbuild a)
        = (unpairStep ⨾ (under 2 h ⨾ under 1 (unbuild b))) ⨾ unbuild a := by
          rw [← seqF_assoc, ← seqF_assoc, unpair_comm h hh]; simp only [seqF_assoc]
      _ = (unpairStep ⨾ under 1 (under 1 h ⨾ unbuild b)) ⨾ unbuild a := by
          rw [show (2 : Nat) = 1 + 1 from rfl, under_add, under_seq]
      _ = (unpairStep ⨾ under 1 (unbuild b)) ⨾ (under 1 (under b.leaves h) ⨾ unbuild a) := by
          rw [ihb h hh, ← under_seq]; simp only [seqF_assoc]
      _ = (unpairStep ⨾ under 1 (unbuild b)) ⨾ (unbuild a ⨾ under a.leaves (under b.leaves h)) := by
          rw [iha _ (NoFail_under _ _ hh)]
      _ = ((unpairStep ⨾ under 1 (unbuild b)) ⨾ unbuild a) ⨾ under (a.leaves + b.leaves) h := by
          rw [← under_add]; simp only [seqF_assoc]

/-- `under d (unbuild t)`, with nothing for a leaf, as `underBuild` -/
def underUnbuild (t : PairTree) (d : Nat) : F :=
  match t with
  | .leaf => .ok
  | .node l r => under d (unbuild (.node l r))

theorem underUnbuild_seq (l : PairTree) (d : Nat) (g : F) :
    under d g ⨾ underUnbuild l d = under d (g ⨾ unbuild l) := by
  cases l with
  | leaf => simp only [underUnbuild, unbuild, seqF_ok_right]
  | node a b => simp only [underUnbuild, under_seq]

theorem underUnbuild_right (r l : PairTree) (d : Nat) :
    under d (unpairStep ⨾ unbuild l) ⨾ underUnbuild r (d + l.leaves)
      = under d ((unpairStep ⨾ under 1 (unbuild r)) ⨾ unbuild l) := by
  cases r with
  | leaf => simp only [underUnbuild, unbuild, seqF_ok_right, unpair_under1_ok]
  | node a b =>
    simp only [underUnbuild]
    rw [under_add, under_seq, seqF_assoc, ← unbuild_comm l _ (NoFail_unbuild _), ← seqF_assoc]

theorem unpairItems_eq (t : PairTree) : ∀ d, unpairItems t d = underUnbuild t d := by
  induction t with
  | leaf => intro d; rfl
  | node l r ihl ihr =>
    intro d
    simp only [unpairItems, ihl, ihr]
    rw [underUnbuild_seq, underUnbuild_right]
    rfl

end C19.Pair
