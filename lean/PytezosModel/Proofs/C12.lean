import PytezosModel.Michelson.PyObj
import PytezosModel.Proofs.Lists
/-! C12: the round trip `ofPy ∘ toPy` by induction over the type (`roundtrip_all`), the names of `get_type_layout`
are pairwise different, and the dict and path lemmas both rest on.  At the end: when the 28-digit context of `decimal`
leaves a product as it is (`mutezOfDecWith`, for `C12.mutez_decimal_exact`). -/
namespace Impl.PyConv

section dict
variable {κ α : Type} [DecidableEq κ]

theorem dget_mem {xs : List (κ × α)} {k : κ} {v : α} (h : dget xs k = some v) : (k, v) ∈ xs := by
  induction xs with
  | nil => simp [dget] at h
  | cons e rest ih =>
    obtain ⟨k', v'⟩ := e
    simp only [dget] at h
    split at h
    · rename_i hk; cases h; subst hk; simp
    · exact List.mem_cons_of_mem _ (ih h)

theorem dget_of_mem_nodup {xs : List (κ × α)} {k : κ} {v : α} (hn : (xs.map (·.1)).Nodup) (h : (k, v) ∈ xs) :
    dget xs k = some v := by
  induction xs with
  | nil => simp at h
  | cons e rest ih =>
    obtain ⟨k', v'⟩ := e
    simp only [List.map_cons, List.nodup_cons] at hn
    simp only [dget]
    rcases List.mem_cons.mp h with h | h
    · cases h; simp
    · have : k' ≠ k := by
        intro hk; subst hk
        exact hn.1 (List.mem_map.mpr ⟨(k', v), h, rfl⟩)
      rw [if_neg this]; exact ih hn.2 h

theorem dset_of_not_mem {xs : List (κ × α)} {k : κ} {v : α} (h : k ∉ xs.map (·.1)) : dset xs k v = xs ++ [(k, v)] := by
  induction xs with
  | nil => rfl
  | cons e rest ih =>
    obtain ⟨k', v'⟩ := e
    simp only [List.map_cons, List.mem_cons, not_or] at h
    simp only [dset]
    rw [if_neg (fun hk => h.1 hk.symm), ih h.2]; rfl

theorem foldl_dset_nodup {β : Type} (f : β → κ × α) (ys : List β) (acc : List (κ × α))
    (hn : ((acc ++ ys.map f).map (·.1)).Nodup) :
    ys.foldl (fun d e => dset d (f e).1 (f e).2) acc = acc ++ ys.map f := by
  induction ys generalizing acc with
  | nil => simp
  | cons y ys ih =>
    have hnot : (f y).1 ∉ acc.map (·.1) := List.not_mem_of_nodup_append_cons (by simpa using hn)
    rw [List.foldl_cons, dset_of_not_mem hnot, ih _ (by simpa using hn)]
    simp

end dict

section paths
variable {α : Type}

theorem dget_pre_append (b b' : Bool) (ls ys : List (Path × α)) (q : Path) :
    dget (ls.map (pre b') ++ ys) (b :: q) = if b' = b then (dget ls q).or (dget ys (b :: q)) else dget ys (b :: q) := by
  induction ls with
  | nil => simp [dget]
  | cons e rest ih =>
    obtain ⟨p, v⟩ := e
    by_cases h : b' = b
    · subst h
      by_cases h2 : p = q <;> simp [pre, dget, ih, h2]
    · simp [pre, dget, ih, h]

theorem dget_nil_of_nonempty (ls : List (Path × α)) (h : ∀ e ∈ ls, e.1 ≠ []) : dget ls [] = none := by
  cases hd : dget ls [] with
  | none => rfl
  | some v => exact absurd rfl (h _ (dget_mem hd))

theorem strip_pre_append (b b' : Bool) (ls ys : List (Path × PyObj)) :
    strip b (ls.map (pre b') ++ ys) = (if b' = b then ls else []) ++ strip b ys := by
  induction ls with
  | nil => simp
  | cons e rest ih =>
    obtain ⟨p, v⟩ := e
    by_cases h : b' = b
    · subst h
      simp [pre, strip, ih]
    · simp [pre, strip, ih, h]

end paths

theorem mapE_cons_ok {α β : Type} {f : α → Except Err β} {x : α} {xs : List α} {ys' : List β} :
    mapE f (x :: xs) = .ok ys' ↔ ∃ y ys, f x = .ok y ∧ mapE f xs = .ok ys ∧ ys' = y :: ys := by
  show (f x).bind (fun y => (mapE f xs).bind fun ys => .ok (y :: ys)) = _ ↔ _
  cases f x <;> cases mapE f xs <;> simp [Except.bind, eq_comm]

theorem mapE_mem {α β : Type} {f : α → Except Err β} {xs : List α} {ys : List β} (h : mapE f xs = .ok ys)
    {x : α} (hx : x ∈ xs) : ∃ y ∈ ys, f x = .ok y := by
  induction xs generalizing ys with
  | nil => cases hx
  | cons x' xs ih =>
    obtain ⟨y, ys', hy, hys, rfl⟩ := mapE_cons_ok.mp h
    rcases List.mem_cons.mp hx with rfl | hx
    · exact ⟨y, List.mem_cons_self, hy⟩
    · obtain ⟨y', hm, hy'⟩ := ih hys hx
      exact ⟨y', List.mem_cons_of_mem _ hm, hy'⟩

theorem mapE_roundtrip {α β : Type} (f : α → Except Err β) (g : β → Except Err α) (Q : β → Prop) (xs : List α)
    (h : ∀ x ∈ xs, ∃ y, f x = .ok y ∧ g y = .ok x ∧ Q y) :
    ∃ ys, mapE f xs = .ok ys ∧ mapE g ys = .ok xs ∧ ∀ y ∈ ys, Q y := by
  induction xs with
  | nil => exact ⟨[], rfl, rfl, nofun⟩
  | cons x xs ih =>
    obtain ⟨y, hy, hg, hq⟩ := h x List.mem_cons_self
    obtain ⟨ys, hys, hgs, hqs⟩ := ih fun x hx => h x (List.mem_cons_of_mem _ hx)
    exact ⟨y :: ys, mapE_cons_ok.mpr ⟨y, ys, hy, hys, rfl⟩, mapE_cons_ok.mpr ⟨x, xs, hg, hgs, rfl⟩,
      List.forall_mem_cons.mpr ⟨hq, hqs⟩⟩

/-- decoding is a function: objects whose decoded keys (`pa` of the value, read off `pb` of the object by `gk`) are
pairwise different have pairwise different keys themselves -/
theorem nodup_of_mapE {α β κ κ' : Type} {g : β → Except Err α} (pa : α → κ) (pb : β → κ') (gk : κ' → Except Err κ)
    (hg : ∀ y x, g y = .ok x → gk (pb y) = .ok (pa x)) {ys : List β} {xs : List α} (h : mapE g ys = .ok xs)
    (hx : (xs.map pa).Pairwise (· ≠ ·)) : (ys.map pb).Nodup := by
  induction ys generalizing xs with
  | nil => exact List.nodup_nil
  | cons y ys ih =>
    obtain ⟨x, xs', hy, hys, rfl⟩ := mapE_cons_ok.mp h
    rw [List.map_cons, List.pairwise_cons] at hx
    rw [List.map_cons, List.nodup_cons]
    refine ⟨fun hm => ?_, ih hys hx.2⟩
    obtain ⟨y', hy', e⟩ := List.mem_map.mp hm
    obtain ⟨x', hx', hgy'⟩ := mapE_mem hys hy'
    have h1 := hg y' x' hgy'
    rw [e, hg y x hy] at h1
    exact hx.1 (pa x') (List.mem_map_of_mem hx') (Except.ok.inj h1)

/-- `recordOf` and `objOfRecord` are this function, at `Path → String` and at `String → Path` -/
def relabel {κ κ' α : Type} [DecidableEq κ] [DecidableEq κ'] (d : List (κ × κ')) :
    List (κ × α) → List (κ' × α) → Except Err (List (κ' × α))
  | [], acc => .ok acc
  | (k, v) :: rest, acc =>
    match dget d k with
    | some k' => relabel d rest (dset acc k' v)
    | none => .error .key

theorem recordOf_eq_relabel (p2k : List (Path × String)) (flat : List (Path × PyObj)) (acc : List (String × PyObj)) :
    recordOf p2k flat acc = relabel p2k flat acc := by
  induction flat generalizing acc with
  | nil => rfl
  | cons e rest ih =>
    obtain ⟨path, py⟩ := e
    simp only [recordOf, relabel]
    cases dget p2k path with
    | none => rfl
    | some name => exact ih _

theorem objOfRecord_eq_relabel (k2p : List (String × Path)) (kvs : List (String × PyObj)) (acc : List (Path × PyObj)) :
    objOfRecord k2p kvs acc = relabel k2p kvs acc := by
  induction kvs generalizing acc with
  | nil => rfl
  | cons e rest ih =>
    obtain ⟨k, py⟩ := e
    simp only [objOfRecord, relabel]
    cases dget k2p k with
    | none => rfl
    | some path => exact ih _

/-- `d2`: the part of the dict still to be walked (it shrinks in the induction while the lookups stay in `d`; both uses
start at `d2 = d`) -/
theorem relabel_zip {κ κ' α : Type} [DecidableEq κ] [DecidableEq κ'] (d d2 : List (κ × κ')) (vals : List α)
    (acc : List (κ' × α)) (hget : ∀ e ∈ d2, dget d e.1 = some e.2) (hn : (acc.map (·.1) ++ d2.map (·.2)).Nodup) :
    relabel d ((d2.map (·.1)).zip vals) acc = .ok (acc ++ (d2.map (·.2)).zip vals) := by
  induction d2 generalizing vals acc with
  | nil => simp [relabel]
  | cons e d2 ih =>
    cases vals with
    | nil => simp [relabel]
    | cons v vals =>
      have hnot : e.2 ∉ acc.map (·.1) := List.not_mem_of_nodup_append_cons hn
      simp only [List.map_cons, List.zip_cons_cons, relabel, hget e List.mem_cons_self, dset_of_not_mem hnot]
      rw [ih vals _ (fun e' he' => hget e' (List.mem_cons_of_mem _ he')) (by simpa using hn)]
      simp

theorem relabel_swap {κ κ' α : Type} [DecidableEq κ] [DecidableEq κ'] (d : List (κ × κ')) (hk : (d.map (·.1)).Nodup)
    (hv : (d.map (·.2)).Nodup) (xs : List (κ × α)) (hx : xs.map (·.1) = d.map (·.1)) :
    relabel d xs [] = .ok ((d.map (·.2)).zip (xs.map (·.2)))
      ∧ relabel (d.map fun e => (e.2, e.1)) ((d.map (·.2)).zip (xs.map (·.2))) [] = .ok xs := by
  have hxs : xs = (d.map (·.1)).zip (xs.map (·.2)) := List.zip_of_prod hx rfl
  have hs1 : (d.map fun e => (e.2, e.1)).map (·.1) = d.map (·.2) := by simp [Function.comp_def]
  have hs2 : (d.map fun e => (e.2, e.1)).map (·.2) = d.map (·.1) := by simp [Function.comp_def]
  constructor
  · conv => lhs; rw [hxs]
    exact relabel_zip d d _ [] (fun e he => dget_of_mem_nodup hk he) hv
  · have := relabel_zip _ (d.map fun e => (e.2, e.1)) (xs.map (·.2)) []
      (fun e he => dget_of_mem_nodup (hs1 ▸ hv) he) (hs2 ▸ hk)
    rw [hs1, hs2, ← hxs] at this
    exact this

theorem objOfTuple_zip (flat : List (Path × PyObj)) :
    objOfTuple (flat.map (·.1)) (flat.map (·.2)) = .ok flat := by
  induction flat with
  | nil => rfl
  | cons e rest ih =>
    obtain ⟨p, py⟩ := e
    simp [objOfTuple, ih, Except.map]

/-- every iteration of `while name in taken: name += '_'` uses up one element of `taken` that is at least as long as
the candidate -/
theorem freshGo_not_mem (taken : List String) : ∀ (fuel : Nat) (name : String),
    (taken.filter fun s => decide (name.length ≤ s.length)).length < fuel → freshGo fuel taken name ∉ taken := by
  intro fuel
  induction fuel with
  | zero => intro name h; omega
  | succ n ih =>
    intro name h
    simp only [freshGo]
    split
    · rename_i hmem
      apply ih
      have hlen : (name ++ "_").length = name.length + 1 := by
        rw [String.length_append]; rfl
      -- the names as long as the longer candidate are among those as long as `name`, and `name` is not one of them
      have hsub : taken.filter (fun s => decide ((name ++ "_").length ≤ s.length))
          = (taken.filter fun s => decide (name.length ≤ s.length)).filter
              fun s => decide ((name ++ "_").length ≤ s.length) := by
        rw [List.filter_filter]
        congr 1; funext s
        rw [Bool.eq_iff_iff, Bool.and_eq_true, decide_eq_true_eq, decide_eq_true_eq]
        omega
      rw [hsub]
      refine Nat.lt_of_lt_of_le ?_ (Nat.le_of_lt_succ h)
      exact List.length_filter_lt_length_iff_exists.mpr
        ⟨name, List.mem_filter.mpr ⟨hmem, decide_eq_true (Nat.le_refl _)⟩, by rw [decide_eq_true_eq, hlen]; omega⟩
    · assumption

/-- the loop terminates within the fuel, on a name that is not taken -/
theorem fresh_not_mem (taken : List String) (name : String) : fresh taken name ∉ taken := by
  apply freshGo_not_mem
  have := List.length_filter_le (fun s => decide (name.length ≤ s.length)) taken
  omega

theorem fresh_of_not_mem (taken : List String) (name : String) (h : name ∉ taken) : fresh taken name = name := by
  simp [fresh, freshGo, h]

theorem layoutGo_paths (flat : List (Path × Ty)) (i : Nat) (res : List String) :
    (layoutGo flat i res).map (·.1) = flat.map (·.1) := by
  induction flat generalizing i res with
  | nil => simp [layoutGo]
  | cons e rest ih =>
    obtain ⟨p, t⟩ := e
    simp only [layoutGo]
    split <;> (try split) <;> simp [ih]

theorem renameGo_paths (first : List (Path × String × Bool)) (taken : List String) :
    (renameGo first taken).map (·.1) = first.map (·.1) := by
  induction first generalizing taken with
  | nil => simp [renameGo]
  | cons e rest ih =>
    obtain ⟨p, k, g⟩ := e
    cases g <;> simp [renameGo, ih]

theorem layoutGo_declared (flat : List (Path × Ty)) (i : Nat) (res : List String) :
    (declared (layoutGo flat i res)).Nodup ∧ ∀ k ∈ declared (layoutGo flat i res), k ∉ res := by
  induction flat generalizing i res with
  | nil => exact ⟨List.nodup_nil, nofun⟩
  | cons e rest ih =>
    obtain ⟨p, t⟩ := e
    simp only [layoutGo]
    split
    · split
      · exact ih (i + 1) res
      · rename_i k _ hres
        obtain ⟨h1, h2⟩ := ih (i + 1) (k :: res)
        exact ⟨List.nodup_cons.mpr ⟨fun hm => h2 k hm List.mem_cons_self, h1⟩,
          List.forall_mem_cons.mpr ⟨hres, fun k' hk' hm => h2 k' hk' (List.mem_cons_of_mem _ hm)⟩⟩
    · exact ih (i + 1) res

/-- the second loop keeps the names pairwise different: a name it gives out that is in `taken` is a declared one, and a
generated one is outside `taken`, which holds the declared names and the generated ones before it -/
theorem renameGo_names (first : List (Path × String × Bool)) (taken : List String)
    (hd : (declared first).Nodup) (hsub : ∀ k ∈ declared first, k ∈ taken) :
    ((renameGo first taken).map (·.2)).Nodup
      ∧ ∀ n ∈ (renameGo first taken).map (·.2), n ∈ taken → n ∈ declared first := by
  induction first generalizing taken with
  | nil => exact ⟨List.nodup_nil, nofun⟩
  | cons e rest ih =>
    obtain ⟨p, k, g⟩ := e
    cases g with
    | false =>
      obtain ⟨hk, hd⟩ := List.nodup_cons.mp hd
      obtain ⟨h1, h2⟩ := ih taken hd fun k' hk' => hsub k' (List.mem_cons_of_mem _ hk')
      exact ⟨List.nodup_cons.mpr ⟨fun hm => hk (h2 k hm (hsub k List.mem_cons_self)), h1⟩,
        List.forall_mem_cons.mpr ⟨fun _ => List.mem_cons_self, fun n hn ht => List.mem_cons_of_mem _ (h2 n hn ht)⟩⟩
    | true =>
      have hf := fresh_not_mem taken k
      obtain ⟨h1, h2⟩ := ih (fresh taken k :: taken) hd fun k' hk' => List.mem_cons_of_mem _ (hsub k' hk')
      exact ⟨List.nodup_cons.mpr ⟨fun hm => hf (hsub _ (h2 _ hm List.mem_cons_self)), h1⟩,
        List.forall_mem_cons.mpr ⟨fun ht => absurd ht hf, fun n hn ht => h2 n hn (List.mem_cons_of_mem _ ht)⟩⟩

theorem renameGo_of_nodup (first : List (Path × String × Bool)) (taken : List String)
    (hn : (first.map (·.2.1)).Nodup) (hg : ∀ e ∈ first, e.2.2 = true → e.2.1 ∉ taken) :
    renameGo first taken = first.map fun e => (e.1, e.2.1) := by
  induction first generalizing taken with
  | nil => simp [renameGo]
  | cons e rest ih =>
    obtain ⟨p, k, g⟩ := e
    simp only [List.map_cons, List.nodup_cons] at hn
    cases g with
    | false =>
      simp only [renameGo, List.map_cons]
      rw [ih taken hn.2 (fun e he => hg e (List.mem_cons_of_mem _ he))]
    | true =>
      have hk : k ∉ taken := hg (p, k, true) List.mem_cons_self rfl
      simp only [renameGo, List.map_cons, fresh_of_not_mem taken k hk]
      rw [ih (k :: taken) hn.2]
      intro e he hge
      simp only [List.mem_cons, not_or]
      refine ⟨fun h => hn.1 (List.mem_map.mpr ⟨e, he, h⟩), hg e (List.mem_cons_of_mem _ he) hge⟩

theorem declared_eq (first : List (Path × String × Bool)) :
    declared first = (first.filter fun e => !e.2.2).map (·.2.1) := by
  induction first with
  | nil => rfl
  | cons e rest ih =>
    obtain ⟨p, k, g⟩ := e
    cases g <;> simp [declared, ih]

theorem renameGo_declared_of_nodup (first : List (Path × String × Bool)) (hn : (first.map (·.2.1)).Nodup) :
    renameGo first (declared first) = first.map fun e => (e.1, e.2.1) := by
  apply renameGo_of_nodup _ _ hn
  intro e he hg hm
  rw [declared_eq] at hm
  obtain ⟨e', he', h1⟩ := List.mem_map.mp hm
  obtain ⟨he', h2⟩ := List.mem_filter.mp he'
  rw [List.inj_of_nodup_map (·.2.1) hn he' he h1, hg] at h2
  cases h2

theorem getTypeLayout_idx (flat : List (Path × Ty)) (infer : Bool) :
    (getTypeLayout flat infer).idxToPath = flat.map (·.1) := by
  unfold getTypeLayout
  have := renameGo_paths (layoutGo flat 0 []) (declared (layoutGo flat 0 []))
  rw [layoutGo_paths] at this
  simp only
  split <;> exact this

theorem getTypeLayout_p2k (flat : List (Path × Ty)) (infer : Bool) (p2k : List (Path × String))
    (h : (getTypeLayout flat infer).pathToKey = some p2k) :
    p2k = renameGo (layoutGo flat 0 []) (declared (layoutGo flat 0 [])) := by
  unfold getTypeLayout at h
  simp only at h
  split at h
  · cases h
  · simp only [Option.some.injEq] at h; exact h.symm

theorem getTypeLayout_p2k_paths (flat : List (Path × Ty)) (infer : Bool) (p2k : List (Path × String))
    (h : (getTypeLayout flat infer).pathToKey = some p2k) : p2k.map (·.1) = flat.map (·.1) := by
  rw [getTypeLayout_p2k flat infer p2k h, renameGo_paths, layoutGo_paths]

theorem getTypeLayout_names_nodup (flat : List (Path × Ty)) (infer : Bool) (p2k : List (Path × String))
    (h : (getTypeLayout flat infer).pathToKey = some p2k) : (p2k.map (·.2)).Nodup := by
  rw [getTypeLayout_p2k flat infer p2k h]
  exact (renameGo_names _ _ (layoutGo_declared flat 0 []).1 fun _ h => h).1

theorem getTypeLayout_k2p (flat : List (Path × Ty)) (infer : Bool) (p2k : List (Path × String))
    (h : (getTypeLayout flat infer).pathToKey = some p2k) :
    (getTypeLayout flat infer).keyToPath = some (p2k.map fun e => (e.2, e.1)) := by
  have hfold := foldl_dset_nodup (fun (e : Path × String) => (e.2, e.1)) p2k []
    (by rw [List.nil_append, List.map_map]; exact getTypeLayout_names_nodup _ _ _ h)
  have hp := getTypeLayout_p2k flat infer p2k h
  unfold getTypeLayout at h ⊢
  simp only at h ⊢
  split at h
  · cases h
  · rename_i hc
    simp [hc, ← hp, hfold]

theorem getTypeLayout_none (flat : List (Path × Ty)) (infer : Bool)
    (h : (getTypeLayout flat infer).pathToKey = none) : (getTypeLayout flat infer).keyToPath = none := by
  unfold getTypeLayout at h ⊢
  simp only at h ⊢
  split at h
  · rename_i hc; simp [hc]
  · cases h

theorem getTypeLayout_lookup {flat : List (Path × Ty)} (hn : (flat.map (·.1)).Nodup) {path : Path}
    (hp : path ∈ flat.map (·.1)) :
    ∃ p2k k2p name, (getTypeLayout flat true).pathToKey = some p2k ∧ (getTypeLayout flat true).keyToPath = some k2p
      ∧ dget p2k path = some name ∧ dget k2p name = some path := by
  obtain ⟨p2k, hp2k⟩ : ∃ p2k, (getTypeLayout flat true).pathToKey = some p2k := by unfold getTypeLayout; simp
  have hpaths := getTypeLayout_p2k_paths _ _ _ hp2k
  rw [← hpaths] at hn hp
  obtain ⟨⟨_, name⟩, hname, rfl⟩ := List.mem_map.mp hp
  refine ⟨p2k, _, name, hp2k, getTypeLayout_k2p _ _ _ hp2k, dget_of_mem_nodup hn hname, dget_of_mem_nodup ?_ ?_⟩
  · rw [List.map_map]; exact getTypeLayout_names_nodup _ _ _ hp2k
  · exact List.mem_map.mpr ⟨_, hname, rfl⟩

theorem map_pre_fst {α : Type} (b : Bool) (ls : List (Path × α)) : (ls.map (pre b)).map (·.1) = (ls.map (·.1)).map (b :: ·) := by
  simp [List.map_map, Function.comp, pre]

theorem nodup_map_cons (b : Bool) (ps : List Path) (h : ps.Nodup) : (ps.map (b :: ·)).Nodup :=
  List.Pairwise.map _ (fun _ _ hne he => hne (List.cons.inj he).2) h

theorem pre_append_ne_nil {α : Type} (ls rs : List (Path × α)) :
    ∀ e ∈ ls.map (pre false) ++ rs.map (pre true), e.1 ≠ [] :=
  List.forall_mem_append.mpr ⟨List.forall_mem_map.mpr fun _ _ => List.cons_ne_nil _ _,
    List.forall_mem_map.mpr fun _ _ => List.cons_ne_nil _ _⟩

theorem paths_pre_append {α : Type} (ls rs : List (Path × α))
    (hl : (ls.map (·.1)).Nodup) (hr : (rs.map (·.1)).Nodup) :
    ((ls.map (pre false) ++ rs.map (pre true)).map (·.1)).Nodup
      ∧ ∀ e ∈ ls.map (pre false) ++ rs.map (pre true), e.1 ≠ [] := by
  constructor
  · rw [List.map_append, map_pre_fst, map_pre_fst]
    refine List.nodup_append.mpr ⟨nodup_map_cons _ _ hl, nodup_map_cons _ _ hr, fun a ha b hb hab => ?_⟩
    obtain ⟨a', _, rfl⟩ := List.mem_map.mp ha
    obtain ⟨b', _, rfl⟩ := List.mem_map.mp hb
    cases hab
  · exact pre_append_ne_nil _ _

theorem nodup_child (b : Bool) (t : Ty) (args : List (Path × Ty)) (h : (args.map (·.1)).Nodup) :
    ((if b then args else [([], t)]).map (·.1)).Nodup := by
  cases b <;> simp [h]

theorem pairArgs_paths (t : Ty) : ((pairArgs t).map (·.1)).Nodup ∧ ∀ e ∈ pairArgs t, e.1 ≠ [] := by
  fun_induction pairArgs t with
  | case1 a l r ihl ihr => exact paths_pre_append _ _ (nodup_child _ l _ ihl.1) (nodup_child _ r _ ihr.1)
  | case2 => exact ⟨List.nodup_nil, nofun⟩

theorem orArgs_paths (t : Ty) : ((orArgs t).map (·.1)).Nodup ∧ ∀ e ∈ orArgs t, e.1 ≠ [] := by
  fun_induction orArgs t with
  | case1 a l r ihl ihr => exact paths_pre_append _ _ (nodup_child _ l _ ihl.1) (nodup_child _ r _ ihr.1)
  | case2 => exact ⟨List.nodup_nil, nofun⟩

/-- the four comparisons answer `true` on equal arguments only, by the induction principle of their own definition:
on the diagonal the components are compared, the one remaining equation of `beq` answers `false` -/
theorem PyObj.beq_sound_all :
    (∀ a b, PyObj.beq a b = true → a = b) ∧ (∀ a b, PyObj.beqItems a b = true → a = b)
      ∧ (∀ a b, PyObj.beqFields a b = true → a = b) ∧ (∀ a b, PyObj.beqList a b = true → a = b) := by
  apply PyObj.beq.mutual_induct (fun a b => PyObj.beq a b = true → a = b) (fun a b => PyObj.beqItems a b = true → a = b)
    (fun a b => PyObj.beqFields a b = true → a = b) (fun a b => PyObj.beqList a b = true → a = b)
  all_goals intros
  all_goals simp_all only [PyObj.beq, PyObj.beqList, PyObj.beqFields, PyObj.beqItems, Bool.and_eq_true, beq_iff_eq,
    reduceCtorEq]

theorem PyObj.beq_sound : (a b : PyObj) → PyObj.beq a b = true → a = b := PyObj.beq_sound_all.1
theorem PyObj.beqList_sound : (a b : List PyObj) → PyObj.beqList a b = true → a = b := PyObj.beq_sound_all.2.2.2
theorem PyObj.beqFields_sound : (a b : List (String × PyObj)) → PyObj.beqFields a b = true → a = b :=
  PyObj.beq_sound_all.2.2.1
theorem PyObj.beqItems_sound : (a b : List (PyObj × PyObj)) → PyObj.beqItems a b = true → a = b :=
  PyObj.beq_sound_all.2.1

theorem beq_false_of_ne {a b : PyObj} (h : a ≠ b) : PyObj.beq a b = false := by
  cases hb : PyObj.beq a b with
  | false => rfl
  | true => exact absurd (PyObj.beq_sound a b hb) h

theorem pyMem_false {x : PyObj} {ys : List PyObj} (h : x ∉ ys) : pyMem x ys = false := by
  induction ys with
  | nil => rfl
  | cons y ys ih =>
    simp only [List.mem_cons, not_or] at h
    simp only [pyMem, Bool.or_eq_false_iff]
    exact ⟨beq_false_of_ne (Ne.symm h.1), ih h.2⟩

theorem pyDistinct_of_nodup {ys : List PyObj} (h : ys.Nodup) : pyDistinct ys = true := by
  induction ys with
  | nil => rfl
  | cons y ys ih =>
    simp only [List.nodup_cons] at h
    simp [pyDistinct, pyMem_false h.1, ih h.2]

theorem pySet_of_not_mem {xs : List (PyObj × PyObj)} {k v : PyObj} (h : k ∉ xs.map (·.1)) :
    pySet xs k v = xs ++ [(k, v)] := by
  induction xs with
  | nil => rfl
  | cons e rest ih =>
    obtain ⟨k', v'⟩ := e
    simp only [List.map_cons, List.mem_cons, not_or] at h
    simp only [pySet]
    simp [beq_false_of_ne (Ne.symm h.1), ih h.2]

theorem dictOf_nodup (c : Cfg) (items acc : List (PyObj × PyObj))
    (hh : ∀ e ∈ items, e.1.hashable c = true) (hn : ((acc ++ items).map (·.1)).Nodup) :
    dictOf c items acc = .ok (acc ++ items) := by
  induction items generalizing acc with
  | nil => simp [dictOf]
  | cons e rest ih =>
    have hnot : e.1 ∉ acc.map (·.1) := List.not_mem_of_nodup_append_cons (by simpa using hn)
    rw [dictOf, if_pos (hh e List.mem_cons_self), pySet_of_not_mem hnot,
      ih _ (fun e he => hh e (List.mem_cons_of_mem _ he)) (by simpa using hn)]
    simp

open Spec.PyConv

/-- what `pick` does in terms of the keys below the branch -/
def pickRel (cf : List (Path × PyObj)) (leaf : PyObj → Except Err Val) (nested : List (Path × PyObj) → Except Err Val) :
    Except Err Val :=
  match dget cf [] with
  | some py => leaf py
  | none => nested cf

theorem pick_pre (ls rs : List (Path × PyObj)) (b : Bool) (leaf) (nested) :
    pick (ls.map (pre false) ++ rs.map (pre true)) b leaf nested = pickRel (if b then rs else ls) leaf nested := by
  have hrs : rs.map (pre true) = rs.map (pre true) ++ [] := (List.append_nil _).symm
  unfold pick pickRel
  rw [hrs, strip_pre_append, strip_pre_append, dget_pre_append, dget_pre_append]
  cases b
  · simp [strip, dget]
    cases dget ls [] <;> rfl
  · simp [strip, dget]
    cases dget rs [] <;> rfl

theorem hashableList_of_all (c : Cfg) (xs : List PyObj) (h : ∀ x ∈ xs, x.hashable c = true) :
    PyObj.hashableList c xs = true := by
  induction xs with
  | nil => rfl
  | cons x xs ih =>
    simp only [PyObj.hashableList, Bool.and_eq_true]
    exact ⟨h x List.mem_cons_self, ih (fun y hy => h y (List.mem_cons_of_mem _ hy))⟩

/-- the round trip at `τ` in both renderings, with what the nodes above need: the key rendering is hashable (set
elements, dict keys), and only an option renders as `None` (else `option τ` could not tell `Some x` from `None`) -/
def P (c : Cfg) (τ : Ty) : Prop :=
  ∀ cmp v, inv c cmp τ = true → HasTy c τ v →
    ∃ py, toPy c cmp τ v = .ok py ∧ ofPy c τ py = .ok v ∧ (cmp = true → py.hashable c = true)
      ∧ (τ.isOption = false → py ≠ .none)

/-- the same for `flatVals` / `nestedPair` (a pair seen from the node that flattens it): the converted arguments come
back through `nestedPair`; `wrap_pair` wants them non-empty, `pick` looks for the empty path before it descends; the
paths are those of `pairArgs`, from which the layout takes its names -/
def Pflat (c : Cfg) (τ : Ty) : Prop :=
  ∀ cmp v, leavesInv c cmp τ = true → HasTy c τ v →
    ∃ flat, flatVals c cmp τ v = .ok flat ∧ nestedPair c τ flat = .ok v ∧ flat ≠ [] ∧ (∀ e ∈ flat, e.1 ≠ [])
      ∧ flat.map (·.1) = (pairArgs τ).map (·.1) ∧ (cmp = true → ∀ e ∈ flat, e.2.hashable c = true)

/-- the same for `orVal` / `orNested` (a union seen from the node that flattens it); the last clause is the enum form,
where `from_python_object` hands `Unit`, not the object, to the leaf -/
def Por (c : Cfg) (τ : Ty) : Prop :=
  ∀ cmp v, orLeavesInv c cmp τ = true → HasTy c τ v →
    ∃ path py, orVal c cmp τ v = .ok (path, py) ∧ path ∈ (orArgs τ).map (·.1) ∧ orNested c τ path py = .ok v
      ∧ (cmp = true → py.hashable c = true) ∧ (allUnits τ = true → orNested c τ path .unit = .ok v)

/-! `toPy` and `ofPy` compute on a type constructor applied to a value / object of the right shape: their equations
there hold by `rfl` (unfolding the mutual definitions by `simp` is slow to check). -/

theorem flatVals_pair (c : Cfg) (cmp : Bool) (a : Ann) (l r : Ty) (x y : Val) :
    flatVals c cmp (.pair a l r) (.pair x y) =
      (if l.isFlatPair then flatVals c cmp l x else single (toPy c cmp l x)).bind fun ls =>
        (if r.isFlatPair then flatVals c cmp r y else single (toPy c cmp r y)).bind fun rs =>
          .ok (ls.map (pre false) ++ rs.map (pre true)) := by
  -- the `do` block tests `l.isFlatPair` first: `show` brings that test to the surface without unfolding `flatVals`
  show ite _ _ _ = _
  cases l.isFlatPair <;> cases r.isFlatPair <;> rfl

theorem bind_bind {α β γ : Type} (A : Except Err α) (f : α → Except Err β) (g : β → Except Err γ) :
    (A.bind f).bind g = A.bind fun a => (f a).bind g := by
  cases A <;> rfl

theorem toPy_pair_eq (c : Cfg) (cmp : Bool) (a : Ann) (l r : Ty) (x y : Val) :
    toPy c cmp (.pair a l r) (.pair x y) =
      (flatVals c cmp (.pair a l r) (.pair x y)).bind fun flat =>
        match (if cmp then none else (pairLayout (.pair a l r)).pathToKey) with
        | some p2k => (recordOf p2k flat []).map .record
        | none => .ok (.tuple (flat.map (·.2))) := by
  show ite _ _ _ = _
  rw [flatVals_pair, bind_bind]
  simp only [bind_bind]
  cases l.isFlatPair <;> cases r.isFlatPair <;> rfl

theorem ofPy_pair_tuple (c : Cfg) (a : Ann) (l r : Ty) (xs : List PyObj) :
    ofPy c (.pair a l r) (.tuple xs)
      = (objOfTuple (pairLayout (.pair a l r)).idxToPath xs).bind (nestedPair c (.pair a l r)) := rfl

theorem ofPy_pair_record (c : Cfg) (a : Ann) (l r : Ty) (kvs : List (String × PyObj)) :
    ofPy c (.pair a l r) (.record kvs)
      = match (pairLayout (.pair a l r)).keyToPath with
        | some k2p => (objOfRecord k2p kvs []).bind (nestedPair c (.pair a l r))
        | none => .error .assertion := rfl

theorem P_pair (c : Cfg) (a : Ann) (l r : Ty) (hF : Pflat c (.pair a l r)) : P c (.pair a l r) := by
  intro cmp v hinv hty
  obtain ⟨flat, f1, f2, f3, f4, f5, f6⟩ := hF cmp v hinv hty
  obtain ⟨x, y, rfl, -, -⟩ := hty
  rw [toPy_pair_eq, f1]
  simp only [Except.bind]
  cases hm : (if cmp = true then none else (pairLayout (.pair a l r)).pathToKey) with
  | none =>
    refine ⟨.tuple (flat.map (·.2)), rfl, ?_,
      fun hc => hashableList_of_all c _ (List.forall_mem_map.mpr (f6 hc)), fun _ => nofun⟩
    rw [ofPy_pair_tuple, pairLayout, getTypeLayout_idx, ← f5, objOfTuple_zip]
    exact f2
  | some p2k =>
    have hcmp : cmp = false := by
      cases cmp with
      | false => rfl
      | true => simp at hm
    subst hcmp
    have hm : (pairLayout (.pair a l r)).pathToKey = some p2k := hm
    have hp := getTypeLayout_p2k_paths _ _ _ hm
    obtain ⟨r1, r3⟩ := relabel_swap p2k (hp ▸ (pairArgs_paths _).1) (getTypeLayout_names_nodup _ _ _ hm) flat (f5.trans hp.symm)
    refine ⟨.record _, (recordOf_eq_relabel ..).symm ▸ congrArg (Except.map PyObj.record) r1, ?_, nofun, fun _ => nofun⟩
    rw [ofPy_pair_record]
    simp only [pairLayout, getTypeLayout_k2p _ _ _ hm, objOfRecord_eq_relabel, r3, Except.bind]
    exact f2

theorem toPy_or_eq (c : Cfg) (cmp : Bool) (a : Ann) (l r : Ty) (v : Val) :
    toPy c cmp (.or a l r) v =
      (orVal c cmp (.or a l r) v).bind fun (path, py) =>
        match (orLayout (.or a l r)).pathToKey with
        | none => .error .assertion
        | some p2k =>
          match dget p2k path with
          | none => .error .key
          | some entrypoint =>
            if (Ty.or a l r).isEnum then .ok (.str entrypoint)
            else if cmp then .ok (.tuple [.str entrypoint, py]) else .ok (.record [(entrypoint, py)]) := by
  cases v <;> rfl

/-- what `from_python_object` of a union does once the entrypoint name and its object are known -/
def orAt (c : Cfg) (a : Ann) (l r : Ty) (entrypoint : String) (value : PyObj) : Except Err Val :=
  match (orLayout (.or a l r)).keyToPath with
  | none => .error .assertion
  | some k2p =>
    match dget k2p entrypoint with
    | none => .error .key
    | some [] => .error .assertion
    | some (false :: rest) => (if rest.isEmpty then ofPy c l value else orNested c l rest value).map .left
    | some (true :: rest) => (if rest.isEmpty then ofPy c r value else orNested c r rest value).map .right

theorem ofPy_or_record (c : Cfg) (a : Ann) (l r : Ty) (k : String) (v : PyObj) :
    ofPy c (.or a l r) (.record [(k, v)]) = orAt c a l r k v := rfl

theorem ofPy_or_tuple (c : Cfg) (a : Ann) (l r : Ty) (k : String) (v : PyObj) :
    ofPy c (.or a l r) (.tuple [.str k, v]) = orAt c a l r k v := rfl

theorem ofPy_or_str (c : Cfg) (a : Ann) (l r : Ty) (k : String) :
    ofPy c (.or a l r) (.str k) = if (Ty.or a l r).isEnum then orAt c a l r k .unit else .error .assertion := rfl

theorem orAt_eq (c : Cfg) (a : Ann) (l r : Ty) {k2p : List (String × Path)} {e : String} {path : Path} (v : PyObj)
    (hk : (orLayout (.or a l r)).keyToPath = some k2p) (hg : dget k2p e = some path) (hne : path ≠ []) :
    orAt c a l r e v = orNested c (.or a l r) path v := by
  unfold orAt
  rw [hk]
  simp only [hg]
  cases path with
  | nil => exact absurd rfl hne
  | cons b rest => cases b <;> rfl

theorem P_or (c : Cfg) (a : Ann) (l r : Ty) (hO : Por c (.or a l r)) : P c (.or a l r) := by
  intro cmp v hinv hty
  obtain ⟨path, py, o1, o2, o3, o4, o5⟩ := hO cmp v hinv hty
  obtain ⟨p2k, k2p, name, hp2k, hk2p, hget, hgetk⟩ := getTypeLayout_lookup (orArgs_paths (.or a l r)).1 o2
  have hpne : path ≠ [] := by
    obtain ⟨e, he, rfl⟩ := List.mem_map.mp o2
    exact (orArgs_paths _).2 e he
  have hat : ∀ value, orAt c a l r name value = orNested c (.or a l r) path value := fun value =>
    orAt_eq c a l r value hk2p hgetk hpne
  rw [toPy_or_eq, o1]
  simp only [Except.bind, orLayout, hp2k, hget]
  by_cases he : (Ty.or a l r).isEnum = true
  · refine ⟨.str name, by simp [he], ?_, fun _ => rfl, fun _ => nofun⟩
    rw [ofPy_or_str, if_pos he, hat]
    exact o5 he
  · simp only [he, Bool.false_eq_true, if_false]
    cases cmp with
    | true =>
      exact ⟨.tuple [.str name, py], rfl, (ofPy_or_tuple c a l r name py).trans ((hat py).trans o3),
        fun _ => by simp [PyObj.hashable, PyObj.hashableList, o4 rfl], fun _ => nofun⟩
    | false =>
      exact ⟨.record [(name, py)], rfl, (ofPy_or_record c a l r name py).trans ((hat py).trans o3), nofun, fun _ => nofun⟩

/-- what the induction over the type proves at `τ`: at a pair the round trip of its flattened arguments, at a union that
of the branch taken (`P` follows from either, by `P_pair` and `P_or`), at any other type `P` itself -/
def S (c : Cfg) : Ty → Prop
  | .pair a l r => Pflat c (.pair a l r)
  | .or a l r => Por c (.or a l r)
  | τ => P c τ

theorem S.toP {c : Cfg} {τ : Ty} (h : S c τ) : P c τ := by
  cases τ with
  | pair a l r => exact P_pair c a l r h
  | or a l r => exact P_or c a l r h
  | _ => exact h

theorem pair_child (c : Cfg) (t : Ty) (hS : S c t) (cmp : Bool) (x : Val)
    (hinv : (if t.isFlatPair then leavesInv c cmp t else inv c cmp t) = true) (hty : HasTy c t x) :
    ∃ cf, (if t.isFlatPair then flatVals c cmp t x else single (toPy c cmp t x)) = .ok cf
      ∧ pickRel cf (ofPy c t) (nestedPair c t) = .ok x ∧ cf ≠ []
      ∧ cf.map (·.1) = (if t.isFlatPair then pairArgs t else [([], t)]).map (·.1)
      ∧ (cmp = true → ∀ e ∈ cf, e.2.hashable c = true) := by
  by_cases hf : t.isFlatPair = true
  · have hF : Pflat c t := by
      cases t with
      | pair a l r => exact hS
      | _ => cases hf
    simp only [hf, if_true] at hinv ⊢
    obtain ⟨flat, h1, h2, h3, h4, h5, h6⟩ := hF cmp x hinv hty
    refine ⟨flat, h1, ?_, h3, h5, h6⟩
    unfold pickRel
    rw [dget_nil_of_nonempty flat h4]
    exact h2
  · simp only [hf, Bool.false_eq_true, if_false] at hinv ⊢
    obtain ⟨py, h1, h2, h3, _⟩ := hS.toP cmp x hinv hty
    exact ⟨[([], py)], congrArg single h1, h2, nofun, rfl, fun hc e he => List.mem_singleton.mp he ▸ h3 hc⟩

/-- whatever the annotations of the node itself are: they decide whether the node *above* descends into this one
(`isFlatPair`), not how this one flattens its own arguments -/
theorem pair_node (c : Cfg) (a : Ann) (l r : Ty) (hl : S c l) (hr : S c r) : Pflat c (.pair a l r) := by
  intro cmp v hinv hty
  obtain ⟨x, y, rfl, hx, hy⟩ := hty
  obtain ⟨hil, hir⟩ := Bool.and_eq_true_iff.mp hinv
  obtain ⟨ls, l1, l2, l3, l4, l5⟩ := pair_child c l hl cmp x hil hx
  obtain ⟨rs, r1, r2, r3, r4, r5⟩ := pair_child c r hr cmp y hir hy
  have hne : (ls.map (pre false) ++ rs.map (pre true)).isEmpty = false := by
    cases ls with
    | nil => exact absurd rfl l3
    | cons e es => rfl
  refine ⟨ls.map (pre false) ++ rs.map (pre true), ?_, ?_, fun h => by simp [h] at hne, ?_, ?_, ?_⟩
  · rw [flatVals_pair, l1, r1]; rfl
  · show (if (ls.map (pre false) ++ rs.map (pre true)).isEmpty then Except.error Err.key
      else (pick _ false (ofPy c l) (nestedPair c l)).bind fun x =>
        (pick _ true (ofPy c r) (nestedPair c r)).bind fun y => Except.ok (Val.pair x y)) = _
    simp only [hne, pick_pre, Bool.false_eq_true, if_false, if_true, l2, r2]
    rfl
  · exact pre_append_ne_nil _ _
  · simp only [pairArgs, List.map_append, map_pre_fst, l4, r4]
  · exact fun hc => List.forall_mem_append.mpr ⟨List.forall_mem_map.mpr (l5 hc), List.forall_mem_map.mpr (r5 hc)⟩

theorem or_child (c : Cfg) (t : Ty) (hS : S c t) (cmp : Bool) (x : Val)
    (hinv : (if t.isOr then orLeavesInv c cmp t else inv c cmp t) = true) (hty : HasTy c t x) :
    ∃ path py, (if t.isOr then orVal c cmp t x else (toPy c cmp t x).map fun py => (([] : Path), py)) = .ok (path, py)
      ∧ path ∈ (if t.isOr then orArgs t else [([], t)]).map (·.1)
      ∧ (if path.isEmpty then ofPy c t py else orNested c t path py) = .ok x
      ∧ (cmp = true → py.hashable c = true)
      ∧ (allUnits t = true → (if path.isEmpty then ofPy c t .unit else orNested c t path .unit) = .ok x) := by
  by_cases ho : t.isOr = true
  · have hO : Por c t := by
      cases t with
      | or a l r => exact hS
      | _ => cases ho
    simp only [ho, if_true] at hinv ⊢
    obtain ⟨path, py, h1, h2, h3, h4, h5⟩ := hO cmp x hinv hty
    cases path with
    | nil =>
      obtain ⟨e, he, hnil⟩ := List.mem_map.mp h2
      exact absurd hnil ((orArgs_paths t).2 e he)
    | cons b q => exact ⟨b :: q, py, h1, h2, h3, h4, h5⟩
  · simp only [ho, Bool.false_eq_true, if_false] at hinv ⊢
    obtain ⟨py, h1, h2, h3, _⟩ := hS.toP cmp x hinv hty
    refine ⟨[], py, congrArg (Except.map _) h1, List.mem_singleton.mpr rfl, h2, h3, ?_⟩
    -- a leaf of an enum is the unit type
    fun_cases allUnits t
    · exact absurd rfl ho
    · cases hty; exact fun _ => rfl
    · nofun

theorem or_node (c : Cfg) (a : Ann) (l r : Ty) (hl : S c l) (hr : S c r) : Por c (.or a l r) := by
  intro cmp v hinv hty
  obtain ⟨hil, hir⟩ := Bool.and_eq_true_iff.mp hinv
  rcases hty with ⟨x, rfl, hx⟩ | ⟨y, rfl, hy⟩
  · obtain ⟨path, py, h1, h2, h3, h4, h5⟩ := or_child c l hl cmp x hil hx
    refine ⟨false :: path, py, congrArg (Except.map (pre false)) h1, ?_, congrArg (Except.map Val.left) h3, h4,
      fun hu => congrArg (Except.map Val.left) (h5 (Bool.and_eq_true_iff.mp hu).1)⟩
    simp only [orArgs, List.map_append, map_pre_fst, List.mem_append, List.mem_map]
    exact Or.inl ⟨path, by simpa using h2, rfl⟩
  · obtain ⟨path, py, h1, h2, h3, h4, h5⟩ := or_child c r hr cmp y hir hy
    refine ⟨true :: path, py, congrArg (Except.map (pre true)) h1, ?_, congrArg (Except.map Val.right) h3, h4,
      fun hu => congrArg (Except.map Val.right) (h5 (Bool.and_eq_true_iff.mp hu).2)⟩
    simp only [orArgs, List.map_append, map_pre_fst, List.mem_append, List.mem_map]
    exact Or.inr ⟨path, by simpa using h2, rfl⟩

theorem P_scalar (c : Cfg) (hu : c.unitHashable = true) (ht : c.tryUnpack = false) (a : Ann) (s : Scalar) :
    P c (.scalar a s) := by
  intro cmp v hinv hty
  cases s with
  | unit => cases hty; exact ⟨.unit, rfl, rfl, fun _ => hu, fun _ => nofun⟩
  | bool => obtain ⟨b, rfl⟩ := hty; exact ⟨.bool b, rfl, rfl, fun _ => rfl, fun _ => nofun⟩
  | nat => obtain ⟨n, rfl, hn⟩ := hty; exact ⟨.int n, rfl, if_pos hn, fun _ => rfl, fun _ => nofun⟩
  | int | timestamp => obtain ⟨n, rfl⟩ := hty; exact ⟨.int n, rfl, rfl, fun _ => rfl, fun _ => nofun⟩
  | mutez =>
    obtain ⟨n, rfl, h0, h1⟩ := hty
    exact ⟨.int n, rfl, (if_neg (by omega)).trans (if_neg (by omega)), fun _ => rfl, fun _ => nofun⟩
  | string => obtain ⟨s, rfl, hs⟩ := hty; exact ⟨.str s, rfl, if_pos hs, fun _ => rfl, fun _ => nofun⟩
  | bytes =>
    obtain ⟨b, rfl⟩ := hty
    exact ⟨.bytes b, congrArg Except.ok (if_neg (ht ▸ Bool.false_ne_true)), rfl, fun _ => rfl, fun _ => nofun⟩
  -- a text that `from_value` accepts unchanged
  | address | keyHash | key | signature | chainId =>
    obtain ⟨s, rfl, hs⟩ := hty
    exact ⟨.str s, rfl, congrArg (Except.map Val.str) hs, fun _ => rfl, fun _ => nofun⟩
  -- the bls12_381 types are not comparable: `inv` excludes `cmp = true`
  | blsFr =>
    obtain ⟨n, rfl, h0, h1⟩ := hty
    cases cmp with
    | true => exact nomatch hinv
    | false =>
      exact ⟨.int n, rfl, congrArg (fun m => Except.ok (Val.int m)) (Int.emod_eq_of_lt h0 h1), nofun, fun _ => nofun⟩
  | blsG1 | blsG2 =>
    obtain ⟨b, rfl⟩ := hty
    cases cmp with
    | true => exact nomatch hinv
    | false => exact ⟨.bytes b, rfl, rfl, nofun, fun _ => nofun⟩
  | never => exact nomatch hty

/-- the types whose `to_python_object` asserts `not comparable`: only `cmp = false` has to be looked at -/
theorem P_of_not_comparable {c : Cfg} {τ : Ty} (hn : inv c true τ = false)
    (h : ∀ v, inv c false τ = true → HasTy c τ v →
      ∃ py, toPy c false τ v = .ok py ∧ ofPy c τ py = .ok v ∧ (τ.isOption = false → py ≠ .none)) : P c τ := by
  intro cmp v hinv hty
  cases cmp with
  | true => rw [hn] at hinv; exact nomatch hinv
  | false =>
    obtain ⟨py, h1, h2, h3⟩ := h v hinv hty
    exact ⟨py, h1, h2, nofun, h3⟩

theorem P_contract (c : Cfg) (a : Ann) (p : Ty) : P c (.contract a p) :=
  P_of_not_comparable rfl fun v _ hty => by
    obtain ⟨s, rfl, hs⟩ := hty
    exact ⟨.str s, rfl, congrArg (Except.map Val.str) hs, fun _ => nofun⟩

theorem P_ticket (c : Cfg) (a : Ann) (t : Ty) (hP : P c t) : P c (.ticket a t) :=
  P_of_not_comparable rfl fun v hinv hty => by
    obtain ⟨tk, x, n, rfl, htk, hx, hn⟩ := hty
    -- the contents are shown in the key rendering: `inv c false (ticket t)` unfolds to `inv c true t`
    obtain ⟨px, h1, h2, _, _⟩ := hP true x hinv hx
    refine ⟨.tuple [.str tk, px, .int n], ?_, ?_, fun _ => nofun⟩
    · show (toPy c true t x).bind (fun px => Except.ok (PyObj.tuple [.str tk, px, .int n])) = _
      rw [h1]; rfl
    · show (addressFromValue c tk).bind (fun tk' => (ofPy c t px).bind fun x' =>
        if 0 ≤ n then Except.ok (Val.ticket tk' x' n) else Except.error Err.assertion) = _
      rw [htk, h2]
      exact if_pos hn

theorem P_lambda (c : Cfg) (hl : Spec.PyConv.CodeLaw c) (a : Ann) (p r : Ty) : P c (.lambda a p r) :=
  P_of_not_comparable rfl fun v _ hty => by
    obtain ⟨code, rfl, hok⟩ := hty
    refine ⟨.str (c.codeText code), rfl, ?_, fun _ => nofun⟩
    show (match c.codeOfText (c.codeText code) with
      | some code => Except.ok (Val.lambda code)
      | none => Except.error Err.assertion) = _
    rw [hl code hok]

theorem ofPy_option_of_ne_none (c : Cfg) (a : Ann) (t : Ty) {py : PyObj} (h : py ≠ .none) :
    ofPy c (.option a t) py = (ofPy c t py).map .some := by
  cases py <;> first | rfl | exact absurd rfl h

theorem P_option (c : Cfg) (a : Ann) (t : Ty) (hP : P c t) : P c (.option a t) := by
  intro cmp v hinv hty
  obtain ⟨hno, hi⟩ := Bool.and_eq_true_iff.mp hinv
  rcases hty with rfl | ⟨x, rfl, hx⟩
  · exact ⟨.none, rfl, rfl, fun _ => rfl, nofun⟩
  · obtain ⟨py, h1, h2, h3, h4⟩ := hP cmp x hi hx
    refine ⟨py, h1, ?_, h3, nofun⟩
    rw [ofPy_option_of_ne_none c a t (h4 (by simpa using hno)), h2]; rfl

theorem P_list (c : Cfg) (a : Ann) (t : Ty) (hP : P c t) : P c (.list a t) :=
  P_of_not_comparable rfl fun v hinv hty => by
    obtain ⟨xs, rfl, hxs⟩ := hty
    obtain ⟨pys, h1, h2, -⟩ := mapE_roundtrip (toPy c false t) (ofPy c t) (fun _ => True) xs fun x hx =>
      let ⟨py, p1, p2, _⟩ := hP false x hinv (hxs x hx)
      ⟨py, p1, p2, trivial⟩
    exact ⟨.list pys, congrArg (Except.map PyObj.list) h1, congrArg (Except.map Val.list) h2, fun _ => nofun⟩

theorem P_set (c : Cfg) (a : Ann) (t : Ty) (hP : P c t) : P c (.set a t) :=
  P_of_not_comparable rfl fun v hinv hty => by
    obtain ⟨xs, rfl, hxs, hdist, hsort⟩ := hty
    have hi : (inv c true t && (c.unitHashable || !pyHasUnit t) && (c.pairLtLex || !hasPair t)) = true := hinv
    rw [Bool.and_eq_true, Bool.and_eq_true] at hi
    replace hi := hi.1.1
    obtain ⟨pys, h1, h2, h3⟩ := mapE_roundtrip (toPy c true t) (ofPy c t) (fun py => py.hashable c = true) xs
      fun x hx =>
        let ⟨py, p1, p2, p3, _⟩ := hP true x hi (hxs x hx)
        ⟨py, p1, p2, p3 rfl⟩
    have hnd : pys.Nodup := by
      simpa using nodup_of_mapE id id (ofPy c t) (fun _ _ h => h) h2 (by simpa using hdist)
    refine ⟨.list pys, congrArg (Except.map PyObj.list) h1, ?_, fun _ => nofun⟩
    show (if !(pys.all (PyObj.hashable c)) then Except.error Err.type
      else if !pyDistinct pys then .error .assertion
      else (mapE (ofPy c t) pys).map fun items => Val.set (sortBy (ltV c t) items)) = _
    rw [List.all_eq_true.mpr h3, pyDistinct_of_nodup hnd, h2]
    exact congrArg (fun l => Except.ok (Val.set l)) hsort

theorem pairE_ok {α β : Type} {a : Except Err α} {b : Except Err β} {x : α × β}
    (h : (do let p ← a; let q ← b; pure (p, q)) = Except.ok x) : a = .ok x.1 ∧ b = .ok x.2 := by
  cases a <;> cases b <;> simp_all [bind, Except.bind, pure, Except.pure]
  exact ⟨congrArg Prod.fst h, congrArg Prod.snd h⟩

/-- one entry of a map / big_map literal, as `toPy` and `ofPy` convert it -/
def itemToPy (c : Cfg) (k t : Ty) (e : Val × Val) : Except Err (PyObj × PyObj) := do
  let pk ← toPy c true k e.1
  let pv ← toPy c false t e.2
  pure (pk, pv)

def itemOfPy (c : Cfg) (k t : Ty) (e : PyObj × PyObj) : Except Err (Val × Val) := do
  let kk ← ofPy c k e.1
  let vv ← ofPy c t e.2
  pure (kk, vv)

/-- map and big_map literal at once: `τ` is either type, `mk` its value constructor, and `hinv`, `hto`, `hof` (the
equations of `inv`, `toPy`, `ofPy` at `τ`) hold by `rfl` for both.  The keys of the dict are pairwise different because
they decode to pairwise different keys (`nodup_of_mapE`), so `dictOf` merges nothing -/
theorem dict_roundtrip (c : Cfg) (k t : Ty) (hPk : P c k) (hPt : P c t) {τ : Ty} (mk : List (Val × Val) → Val)
    (hinv : inv c false τ = (inv c true k && (c.unitHashable || !pyHasUnit k) && inv c false t))
    (hto : ∀ kvs, toPy c false τ (mk kvs)
      = (mapE (itemToPy c k t) kvs).bind fun items => (dictOf c items []).map .dict)
    (hof : ∀ items, ofPy c τ (.dict items)
      = (mapE (itemOfPy c k t) items).map fun kvs => mk (sortBy (fun a b => ltV c k a.1 b.1) kvs))
    (hi : inv c false τ = true) (kvs : List (Val × Val)) (hty : ∀ e ∈ kvs, HasTy c k e.1 ∧ HasTy c t e.2)
    (hd : (kvs.map (·.1)).Pairwise (· ≠ ·)) (hsort : sortBy (fun a b => ltV c k a.1 b.1) kvs = kvs) :
    ∃ py, toPy c false τ (mk kvs) = .ok py ∧ ofPy c τ py = .ok (mk kvs) ∧ (τ.isOption = false → py ≠ .none) := by
  rw [hinv, Bool.and_eq_true, Bool.and_eq_true] at hi
  obtain ⟨items, h1, h2, h3⟩ := mapE_roundtrip (itemToPy c k t) (itemOfPy c k t) (fun y => y.1.hashable c = true) kvs
    fun e he => by
      obtain ⟨pk, p1, p2, p3, _⟩ := hPk true e.1 hi.1.1 (hty e he).1
      obtain ⟨pv, q1, q2, _⟩ := hPt false e.2 hi.2 (hty e he).2
      exact ⟨(pk, pv), by rw [itemToPy, p1, q1]; rfl, by rw [itemOfPy, p2, q2]; rfl, p3 rfl⟩
  have hkeys := nodup_of_mapE (·.1) (·.1) (ofPy c k) (fun _ _ h => (pairE_ok h).1) h2 hd
  refine ⟨.dict items, ?_, ?_, fun _ => nofun⟩
  · rw [hto, h1]
    exact congrArg (Except.map PyObj.dict) (dictOf_nodup c items [] h3 hkeys)
  · rw [hof, h2]
    exact congrArg (fun l => Except.ok (mk l)) hsort

theorem P_map (c : Cfg) (a : Ann) (k t : Ty) (hPk : P c k) (hPt : P c t) : P c (.map a k t) :=
  P_of_not_comparable rfl fun v hinv hty => by
    obtain ⟨kvs, rfl, hkv, hd, hsort⟩ := hty
    exact dict_roundtrip c k t hPk hPt Val.map rfl (fun _ => rfl) (fun _ => rfl) hinv kvs hkv hd hsort

theorem P_bigMap (c : Cfg) (a : Ann) (k t : Ty) (hPk : P c k) (hPt : P c t) : P c (.bigMap a k t) :=
  P_of_not_comparable rfl fun v hinv hty => by
    rcases hty with ⟨n, rfl⟩ | ⟨kvs, rfl, hkv, hd, hsort⟩
    · exact ⟨.int n, rfl, rfl, fun _ => nofun⟩
    · exact dict_roundtrip c k t hPk hPt Val.bigMap rfl (fun _ => rfl) (fun _ => rfl) hinv kvs hkv hd hsort

theorem roundtrip_all (c : Cfg) (hu : c.unitHashable = true) (ht : c.tryUnpack = false) (hl : Spec.PyConv.CodeLaw c) :
    ∀ τ : Ty, S c τ := by
  intro τ
  induction τ with
  | pair a l r ihl ihr => exact pair_node c a l r ihl ihr
  | or a l r ihl ihr => exact or_node c a l r ihl ihr
  | scalar a s => exact P_scalar c hu ht a s
  | option a t ih => exact P_option c a t ih.toP
  | list a t ih => exact P_list c a t ih.toP
  | set a t ih => exact P_set c a t ih.toP
  | map a k v ihk ihv => exact P_map c a k v ihk.toP ihv.toP
  | bigMap a k v ihk ihv => exact P_bigMap c a k v ihk.toP ihv.toP
  | contract a p _ => exact P_contract c a p
  | ticket a t ih => exact P_ticket c a t ih.toP
  | lambda a p r _ _ => exact P_lambda c hl a p r

theorem pair_record_keys (c : Cfg) (hu : c.unitHashable = true) (ht : c.tryUnpack = false)
    (hl : Spec.PyConv.CodeLaw c) (a : Ann) (l r : Ty) (v : Val)
    (hinv : inv c false (.pair a l r) = true) (hty : HasTy c (.pair a l r) v)
    (p2k : List (Path × String)) (hm : (pairLayout (.pair a l r)).pathToKey = some p2k) :
    ∃ fields, toPy c false (.pair a l r) v = .ok (.record fields) ∧ fields.map (·.1) = p2k.map (·.2) := by
  obtain ⟨flat, f1, -, -, -, f5, -⟩ := roundtrip_all c hu ht hl (.pair a l r) false v hinv hty
  obtain ⟨x, y, rfl, -, -⟩ := hty
  have hp := getTypeLayout_p2k_paths _ _ _ hm
  obtain ⟨r1, -⟩ := relabel_swap p2k (hp ▸ (pairArgs_paths _).1) (getTypeLayout_names_nodup _ _ _ hm) flat (f5.trans hp.symm)
  refine ⟨(p2k.map (·.2)).zip (flat.map (·.2)), ?_,
    List.map_fst_zip (by simpa using Nat.le_of_eq (congrArg List.length (f5.trans hp.symm)).symm)⟩
  rw [toPy_pair_eq, f1]
  simp only [Except.bind, Bool.false_eq_true, if_false, hm, recordOf_eq_relabel, r1]
  rfl

theorem numDigits_le_iff {n k : Nat} (hk : 0 < k) : numDigits n ≤ k ↔ n < 10 ^ k :=
  Nat.length_toDigits_le_iff (by decide) hk

theorem ctxRound_of_numDigits_le {coef : Nat} (exp : Int) (h : numDigits coef ≤ 28) : ctxRound coef exp = (coef, exp) :=
  if_pos h

/-- `mutezOfDec` with the rounding as a parameter.  Lean (elaborator and kernel alike) must never be made to reduce the
`match` on `ctxRound (coef * 1000000) exp` for an open `coef`: it would run `Nat.toDigits` on that term, peeling the
literal one unit at a time.  With a variable in the place of `ctxRound` the `match` is stuck at once, so the equation of
the `fin` case is proved for this function and carried over by `mutezOfDec_eq_with`. -/
def mutezOfDecWith (round : Nat → Int → Nat × Int) : Dec → Except Err Int
  | .nan => .error .assertion
  | .inf => .error .overflow
  | .fin neg coef exp =>
    let (c', e') := round (coef * 1000000) exp
    .ok (decToInt neg c' e')

theorem mutezOfDec_eq_with : mutezOfDec = mutezOfDecWith ctxRound := rfl

theorem mutezOfDecWith_fin {round : Nat → Int → Nat × Int} {neg : Bool} {coef : Nat} {exp : Int} {c' : Nat} {e' : Int}
    (h : round (coef * 1000000) exp = (c', e')) : mutezOfDecWith round (.fin neg coef exp) = .ok (decToInt neg c' e') := by
  rw [mutezOfDecWith, h]

end Impl.PyConv
