import PytezosModel.Proofs.InterpGood
import PytezosModel.Proofs.InterpGoodColl
set_option linter.unusedSectionVars false   -- `[Mode]` is a section variable of every lemma here; some do not use it
/-! Progress for the rules without sub-programs: on a well-typed stack (`StackWF`, `GoodStack`) on which the typing rule
of the instruction applies, the reference rule is not stuck, and its result stack satisfies `GoodStack` again
(`Res.Safe GoodStack`).  Here: one lemma per shape of rule (the instruction is a variable) and the value-level lemmas they
are applied to; `step_safe` (InterpProgressComb) goes through the instructions. -/

namespace Interp
variable [Mode]
open Typing

/-- expose the top of the stack and its type; discard the types on which the typing rule does not apply (there
`Typing.step` computes to `none`) -/
syntax "prog_top1" : tactic
set_option hygiene false in
macro_rules
  | `(tactic| prog_top1) => `(tactic| (
      rcases st with _ | ⟨a, st⟩
      · cases hty
      rw [stackWF_cons] at hw
      rw [goodStack_cons] at hg
      obtain ⟨hwa, hw⟩ := hw
      obtain ⟨hga, hg⟩ := hg
      rw [List.map_cons] at hty
      generalize hta : typeOf a = ta at hty
      cases ta <;> first | (cases hty; done) | skip))

theorem safe_depth1 (env : Env) (i : Instr) (st : List Val) (tr : TRes) (hg : GoodStack st)
    (hty : Typing.step i (st.map typeOf) = some tr) (h0 : Typing.step i [] = none)
    (h : ∀ a s, litOk a = true → GoodStack s → (Spec.step env i (a :: s)).Safe GoodStack) :
    (Spec.step env i st).Safe GoodStack := by
  rcases st with _ | ⟨a, st⟩
  · rw [List.map_nil, h0] at hty; cases hty
  · exact h a st (goodStack_cons.mp hg).1 (goodStack_cons.mp hg).2

def isNum (t : Ty) : Prop := t = .int ∨ t = .nat ∨ t = .mutez ∨ t = .timestamp

theorem isNum_nat : isNum .nat := .inr (.inl rfl)
theorem isNum_mutez : isNum .mutez := .inr (.inr (.inl rfl))

theorem numOk_safe (t : Ty) (v : Int) (ht : isNum t) :
    (Spec.numOk t v).Safe (fun r => litOk r = true) := by
  rcases ht with rfl | rfl | rfl | rfl <;> simp only [Spec.numOk] <;> first | (simp; done) | (split <;> simp)

theorem safe_numEnv (env : Env) (st : List Val) (hg : GoodStack st) (i : Instr) (t : Ty) (x : Int) (ht : isNum t)
    (hs : ∀ s, Spec.step env i s = (Spec.numOk t x).bind fun r => .ok (r :: s)) : (Spec.step env i st).Safe GoodStack := by
  rw [hs]
  exact (numOk_safe t x ht).bind fun r _ hr => goodStack_cons.mpr ⟨hr, hg⟩

theorem canon_num {a : Val} (hw : WF a) (ht : isNum (typeOf a)) : ∃ n, a = .num (typeOf a) n := by
  rcases ht with ht | ht | ht | ht
  · obtain ⟨n, rfl⟩ := canon_int hw ht; exact ⟨n, rfl⟩
  · obtain ⟨n, rfl, _⟩ := canon_nat hw ht; exact ⟨n, rfl⟩
  · obtain ⟨n, rfl, _⟩ := canon_mutez hw ht; exact ⟨n, rfl⟩
  · obtain ⟨n, rfl⟩ := canon_timestamp hw ht; exact ⟨n, rfl⟩

theorem addTy_num {a b t : Ty} (h : Spec.addTy a b = some t) : isNum a ∧ isNum b ∧ isNum t := by
  unfold Spec.addTy at h
  split at h <;> cases h <;> simp [isNum]
theorem subTy_num {a b t : Ty} (h : Spec.subTy a b = some t) : isNum a ∧ isNum b ∧ isNum t := by
  unfold Spec.subTy at h
  split at h <;> cases h <;> simp [isNum]
theorem mulTy_num {a b t : Ty} (h : Spec.mulTy a b = some t) : isNum a ∧ isNum b ∧ isNum t := by
  unfold Spec.mulTy at h
  split at h <;> cases h <;> simp [isNum]
theorem edivTy_num {a b qt rt : Ty} (h : Spec.edivTy a b = some (qt, rt)) : isNum a ∧ isNum b ∧ isNum qt ∧ isNum rt := by
  unfold Spec.edivTy at h
  split at h <;> cases h <;> simp [isNum]

section
variable (env : Env) (st : List Val) (tr : TRes) (hw : StackWF st) (hg : GoodStack st)
include hw hg

/-- ADD / SUB / MUL: `sTy` is the table of result types the rule of `Spec.step` consults, `tTy` the one of the typing rule
(the same match written twice: `typing_addTy_eq` …) -/
theorem safe_arith (i : Instr) (sTy tTy : Ty → Ty → Option Ty) (op : Int → Int → Int) (heq : tTy = sTy)
    (hnum : ∀ a b t, sTy a b = some t → isNum a ∧ isNum b ∧ isNum t)
    (hs : ∀ ta x tb y s, Spec.step env i (.num ta x :: .num tb y :: s) =
      match sTy ta tb with
      | some t => (Spec.numOk t (op x y)).bind fun r => .ok (r :: s)
      | none => .stuck)
    (ht0 : Typing.step i [] = none) (ht1 : ∀ a, Typing.step i [a] = none)
    (ht : ∀ a b s, Typing.step i (a :: b :: s) = (tTy a b).map fun t => .ok (t :: s))
    (hty : Typing.step i (st.map typeOf) = some tr) : (Spec.step env i st).Safe GoodStack := by
  rcases st with _ | ⟨a, _ | ⟨b, st⟩⟩
  · simp [ht0] at hty
  · simp [ht1] at hty
  rw [stackWF_cons, stackWF_cons] at hw
  rw [goodStack_cons, goodStack_cons] at hg
  simp only [List.map_cons, ht, heq] at hty
  obtain ⟨t, htf, -⟩ := Option.map_eq_some_iff.mp hty
  obtain ⟨na, nb, nt⟩ := hnum _ _ _ htf
  obtain ⟨x, hx⟩ := canon_num hw.1 na
  obtain ⟨y, hy⟩ := canon_num hw.2.1 nb
  rw [hx, hy, hs, htf]
  exact (numOk_safe t _ nt).bind fun r _ hr => goodStack_cons.mpr ⟨hr, hg.2.2⟩

/-- instructions of the form `f a : S → r : S` with a type function `tf` -/
theorem safe_unop (i : Instr) (f : Val → Res Val) (tf : Ty → Option Ty)
    (hs : ∀ a st, Spec.step env i (a :: st) = (f a).bind fun r => .ok (r :: st))
    (ht0 : Typing.step i [] = none)
    (ht : ∀ a s, Typing.step i (a :: s) = (tf a).map fun t => .ok (t :: s))
    (hf : ∀ a t, WF a → litOk a = true → tf (typeOf a) = some t → (f a).Safe (fun r => litOk r = true))
    (hty : Typing.step i (st.map typeOf) = some tr) : (Spec.step env i st).Safe GoodStack := by
  rcases st with _ | ⟨a, st⟩
  · simp [ht0] at hty
  rw [stackWF_cons] at hw
  rw [goodStack_cons] at hg
  simp only [List.map_cons, ht] at hty
  obtain ⟨t, htf, -⟩ := Option.map_eq_some_iff.mp hty
  rw [hs]
  exact (hf a t hw.1 hg.1 htf).bind fun r _ hr => goodStack_cons.mpr ⟨hr, hg.2⟩

/-- instructions of the form `f a b : S → r : S` with a type function `tf` -/
theorem safe_binop (i : Instr) (f : Val → Val → Res Val) (tf : Ty → Ty → Option Ty)
    (hs : ∀ a b st, Spec.step env i (a :: b :: st) = (f a b).bind fun r => .ok (r :: st))
    (ht0 : Typing.step i [] = none) (ht1 : ∀ a, Typing.step i [a] = none)
    (ht : ∀ a b s, Typing.step i (a :: b :: s) = (tf a b).map fun t => .ok (t :: s))
    (hf : ∀ a b t, WF a → WF b → litOk a = true → litOk b = true → tf (typeOf a) (typeOf b) = some t →
      (f a b).Safe (fun r => litOk r = true))
    (hty : Typing.step i (st.map typeOf) = some tr) : (Spec.step env i st).Safe GoodStack := by
  rcases st with _ | ⟨a, _ | ⟨b, st⟩⟩
  · simp [ht0] at hty
  · simp [ht1] at hty
  rw [stackWF_cons, stackWF_cons] at hw
  rw [goodStack_cons, goodStack_cons] at hg
  simp only [List.map_cons, ht] at hty
  obtain ⟨t, htf, -⟩ := Option.map_eq_some_iff.mp hty
  rw [hs]
  exact (hf a b t hw.1 hw.2.1 hg.1 hg.2.1 htf).bind fun r _ hr => goodStack_cons.mpr ⟨hr, hg.2.2⟩

/-- instructions of the form `f a b c : S → r : S` with a type function `tf` -/
theorem safe_ternop (i : Instr) (f : Val → Val → Val → Res Val) (tf : Ty → Ty → Ty → Option Ty)
    (hs : ∀ a b c st, Spec.step env i (a :: b :: c :: st) = (f a b c).bind fun r => .ok (r :: st))
    (ht0 : Typing.step i [] = none) (ht1 : ∀ a, Typing.step i [a] = none) (ht2 : ∀ a b, Typing.step i [a, b] = none)
    (ht : ∀ a b c s, Typing.step i (a :: b :: c :: s) = (tf a b c).map fun t => .ok (t :: s))
    (hf : ∀ a b c t, WF a → WF b → WF c → litOk a = true → litOk b = true → litOk c = true →
      tf (typeOf a) (typeOf b) (typeOf c) = some t → (f a b c).Safe (fun r => litOk r = true))
    (hty : Typing.step i (st.map typeOf) = some tr) : (Spec.step env i st).Safe GoodStack := by
  rcases st with _ | ⟨a, _ | ⟨b, _ | ⟨c, st⟩⟩⟩
  · simp [ht0] at hty
  · simp [ht1] at hty
  · simp [ht2] at hty
  rw [stackWF_cons, stackWF_cons, stackWF_cons] at hw
  rw [goodStack_cons, goodStack_cons, goodStack_cons] at hg
  simp only [List.map_cons, ht] at hty
  obtain ⟨t, htf, -⟩ := Option.map_eq_some_iff.mp hty
  rw [hs]
  exact (hf a b c t hw.1 hw.2.1 hw.2.2.1 hg.1 hg.2.1 hg.2.2.1 htf).bind fun r _ hr => goodStack_cons.mpr ⟨hr, hg.2.2.2⟩

end

theorem edivV_safe (a b : Val) (t : Ty) (hwa : WF a) (hwb : WF b) (_ : litOk a = true) (_ : litOk b = true)
    (h : edivResTy (typeOf a) (typeOf b) = some t) : (Spec.edivV a b).Safe (fun r => litOk r = true) := by
  simp only [edivResTy, typing_edivTy_eq] at h
  obtain ⟨⟨qt, rt⟩, he, -⟩ := Option.map_eq_some_iff.mp h
  obtain ⟨na, nb, nq, nr⟩ := edivTy_num he
  obtain ⟨x, hx⟩ := canon_num hwa na
  obtain ⟨y, hy⟩ := canon_num hwb nb
  rw [hx, hy]
  simp only [Spec.edivV, he]
  split
  · simp
  · exact (numOk_safe qt _ nq).bind fun q _ hq => (numOk_safe rt _ nr).bind fun r _ hr => by simp [hq, hr]

/-- LSL / LSR -/
theorem shiftV_safe (op : Val → Val → Res Val) (g : Int → Nat → Int)
    (hop : ∀ x n, op (.num .nat x) (.num .nat n) =
      if n < 0 then .stuck else if n ≤ 256 then Spec.numOk .nat (g x n.toNat) else .rtfail)
    (a b : Val) (t : Ty) (hwa : WF a) (hwb : WF b) (_ : litOk a = true) (_ : litOk b = true)
    (h : shiftTy (typeOf a) (typeOf b) = some t) : (op a b).Safe (fun r => litOk r = true) := by
  generalize hta : typeOf a = ta at h
  generalize htb : typeOf b = tb at h
  unfold shiftTy at h
  split at h
  · obtain ⟨x, rfl, _⟩ := canon_nat hwa hta
    obtain ⟨n, rfl, hn⟩ := canon_nat hwb htb
    rw [hop, if_neg (Int.not_lt.mpr hn)]
    split
    · exact numOk_safe .nat _ isNum_nat
    · trivial
  · cases h

theorem subMutezV_safe (a b : Val) (t : Ty) (hwa : WF a) (hwb : WF b) (_ : litOk a = true) (_ : litOk b = true)
    (h : subMutezTy (typeOf a) (typeOf b) = some t) : (Spec.subMutezV a b).Safe (fun r => litOk r = true) := by
  generalize hta : typeOf a = ta at h
  generalize htb : typeOf b = tb at h
  unfold subMutezTy at h
  split at h
  · obtain ⟨x, rfl, _⟩ := canon_mutez hwa hta
    obtain ⟨y, rfl, _⟩ := canon_mutez hwb htb
    simp only [Spec.subMutezV]
    split
    · rfl
    · exact (numOk_safe .mutez _ isNum_mutez).bind fun r _ hr => hr
  · cases h

theorem andV_safe (a b : Val) (t : Ty) (hwa : WF a) (hwb : WF b) (_ : litOk a = true) (_ : litOk b = true)
    (h : andTy (typeOf a) (typeOf b) = some t) : (Spec.andV a b).Safe (fun r => litOk r = true) := by
  generalize hta : typeOf a = ta at h
  generalize htb : typeOf b = tb at h
  unfold andTy at h
  split at h
  · obtain ⟨x, rfl⟩ := canon_bool hwa hta
    obtain ⟨y, rfl⟩ := canon_bool hwb htb
    rfl
  · obtain ⟨x, rfl, hx⟩ := canon_nat hwa hta
    obtain ⟨y, rfl, hy⟩ := canon_nat hwb htb
    simp [Spec.andV, hx, hy]
  · obtain ⟨x, rfl⟩ := canon_int hwa hta
    obtain ⟨y, rfl, hy⟩ := canon_nat hwb htb
    simp [Spec.andV, hy]
  · obtain ⟨x, rfl, hx⟩ := canon_nat hwa hta
    obtain ⟨y, rfl⟩ := canon_int hwb htb
    simp [Spec.andV, hx]
  · cases h

/-- OR / XOR -/
theorem bitV_safe (op : Val → Val → Res Val) (gb : Bool → Bool → Bool) (gn : Nat → Nat → Nat)
    (hb : ∀ x y, op (.bool x) (.bool y) = .ok (.bool (gb x y)))
    (hn : ∀ x y, op (.num .nat x) (.num .nat y) =
      if 0 ≤ x ∧ 0 ≤ y then .ok (.num .nat (Int.ofNat (gn x.toNat y.toNat))) else .stuck)
    (a b : Val) (t : Ty) (hwa : WF a) (hwb : WF b) (_ : litOk a = true) (_ : litOk b = true)
    (h : orTy (typeOf a) (typeOf b) = some t) : (op a b).Safe (fun r => litOk r = true) := by
  generalize hta : typeOf a = ta at h
  generalize htb : typeOf b = tb at h
  unfold orTy at h
  split at h
  · obtain ⟨x, rfl⟩ := canon_bool hwa hta
    obtain ⟨y, rfl⟩ := canon_bool hwb htb
    rw [hb]; rfl
  · obtain ⟨x, rfl, hx⟩ := canon_nat hwa hta
    obtain ⟨y, rfl, hy⟩ := canon_nat hwb htb
    rw [hn, if_pos ⟨hx, hy⟩]; rfl
  · cases h

theorem memV_safe (a b : Val) (t : Ty) (hwa : WF a) (hwb : WF b) (_ : litOk a = true) (hgb : litOk b = true)
    (h : memTy (typeOf a) (typeOf b) = some t) : (Spec.memV a b).Safe (fun r => litOk r = true) := by
  generalize htb : typeOf b = tb at h
  unfold memTy at h
  split at h
  · have hc := (Option.ite_none_right_eq_some.mp h).1
    obtain ⟨xs, rfl, _⟩ := canon_set hwb htb
    have hk := isKey_of_wf hwa hc.1 hc.2
    have hm := ((litOk_set _ _).mp hgb).1
    simp [Spec.memV, hm, hk]
  · have hc := (Option.ite_none_right_eq_some.mp h).1
    obtain ⟨xs, rfl, _⟩ := canon_map hwb htb
    have hk := isKey_of_wf hwa hc.1 hc.2
    have hm := ((litOk_map _ _ _).mp hgb).1 hc.2
    simp [Spec.memV, hm, hk]
  · cases h

theorem getV_safe (a b : Val) (t : Ty) (hwa : WF a) (hwb : WF b) (_ : litOk a = true) (hgb : litOk b = true)
    (h : getTy (typeOf a) (typeOf b) = some t) : (Spec.getV a b).Safe (fun r => litOk r = true) := by
  generalize htb : typeOf b = tb at h
  unfold getTy at h
  split at h
  · have hc := (Option.ite_none_right_eq_some.mp h).1
    obtain ⟨xs, rfl, _⟩ := canon_map hwb htb
    have hk := isKey_of_wf hwa hc.1 hc.2
    obtain ⟨hm', hgx⟩ := (litOk_map _ _ _).mp hgb
    have hm := hm' hc.2
    simp only [Spec.getV, hm, hk, Bool.and_self, if_true, safe_ok]
    cases hf : _root_.Spec.Coll.findKV keyLt a (Spec.kvs xs) with
    | none => rfl
    | some y =>
      obtain ⟨e, he, rfl⟩ := findKV_mem keyLt hf
      exact (kvs_litOk (goodMap_bindings hm) hgx e he).2
  · cases h

theorem updateV_safe (a b c : Val) (t : Ty) (hwa : WF a) (hwb : WF b) (hwc : WF c)
    (_ : litOk a = true) (hgb : litOk b = true) (hgc : litOk c = true)
    (h : updateTy (typeOf a) (typeOf b) (typeOf c) = some t) :
    (Spec.updateV a b c).Safe (fun r => litOk r = true ∧ typeOf r = typeOf c) := by
  generalize htb : typeOf b = tb at h
  generalize htc : typeOf c = tc at h
  unfold updateTy at h
  split at h
  · -- bool, set
    have hc := (Option.ite_none_right_eq_some.mp h).1
    obtain ⟨bb, rfl⟩ := canon_bool hwb htb
    obtain ⟨xs, rfl, _⟩ := canon_set hwc htc
    have hk := isKey_of_wf hwa hc.1 hc.2
    obtain ⟨hm, hgx⟩ := (litOk_set _ _).mp hgc
    simp only [Spec.updateV, hm, hk, Bool.and_self, if_true, safe_ok, litOk_set, typeOf, and_true]
    cases bb with
    | true =>
      simp only [if_true]
      refine ⟨goodSet_insert hm hk, ?_⟩
      intro z hz
      rcases mem_insertKey' keyLt hz with rfl | hz
      · exact litOk_of_isKey hk
      · exact hgx z hz
    | false =>
      simp only [Bool.false_eq_true, if_false]
      exact ⟨goodSet_erase hm hk, fun z hz => hgx z ((Coll.eraseKey_sublist a xs).subset hz)⟩
  · -- option, map
    have hc := (Option.ite_none_right_eq_some.mp h).1
    obtain ⟨xs, rfl, _⟩ := canon_map hwc htc
    have hk := isKey_of_wf hwa hc.1 hc.2.2
    obtain ⟨hm', hgx⟩ := (litOk_map _ _ _).mp hgc
    have hm := hm' hc.2.2
    have hkv := kvs_litOk (goodMap_bindings hm) hgx
    rcases canon_option hwb htb with rfl | ⟨y, rfl, hwy, hty⟩
    · simp only [Spec.updateV, hm, hk, hc.2.1, beq_self_eq_true, Bool.and_self, if_true, safe_ok, litOk_map, typeOf, and_true]
      refine ⟨fun _ => goodMap_erase hm hk, unkvs_litOk fun p hp => hkv p ((Coll.eraseKV_sublist a _).subset hp)⟩
    · simp only [Spec.updateV, hm, hk, hty, hc.2.1, beq_self_eq_true, Bool.and_self, if_true, safe_ok, litOk_map, typeOf, and_true]
      refine ⟨fun _ => goodMap_insert hm hk, unkvs_litOk fun p hp => ?_⟩
      have hy : litOk y = true := hgb
      rcases mem_insertKV' keyLt hp with rfl | hp | ⟨e, he, rfl⟩
      · exact ⟨litOk_of_isKey hk, hy⟩
      · exact hkv p hp
      · exact ⟨(hkv e he).1, hy⟩
  · cases h

/-! ### big maps: the rules on `big_map k v` are the rules on `map k v` -/
theorem canon_bigMap {b : Val} {k v : Ty} (hw : WF b) (ht : typeOf b = .bigMap k v) : ∃ xs, b = .bigMap k v xs :=
  canon_flat hw ht

theorem memB_safe (a b : Val) (t : Ty) (hwa : WF a) (hwb : WF b) (hga : litOk a = true) (hgb : litOk b = true)
    (h : memTyB (typeOf a) (typeOf b) = some t) : (Spec.memB a b).Safe (fun r => litOk r = true) := by
  rcases bigMap_or_not b with ⟨k, v, xs, rfl⟩ | hn
  · exact memV_safe a (.map k v xs) t hwa (wf_big_as_map hwb) hga hgb h
  · rw [memB_notBig a b hn]
    rw [memTyB_notBig _ _ (typeOf_notBig hwb hn)] at h
    exact memV_safe a b t hwa hwb hga hgb h

theorem getB_safe (a b : Val) (t : Ty) (hwa : WF a) (hwb : WF b) (hga : litOk a = true) (hgb : litOk b = true)
    (h : getTyB (typeOf a) (typeOf b) = some t) : (Spec.getB a b).Safe (fun r => litOk r = true) := by
  rcases bigMap_or_not b with ⟨k, v, xs, rfl⟩ | hn
  · exact getV_safe a (.map k v xs) t hwa (wf_big_as_map hwb) hga hgb h
  · rw [getB_notBig a b hn]
    rw [getTyB_notBig _ _ (typeOf_notBig hwb hn)] at h
    exact getV_safe a b t hwa hwb hga hgb h

/-- a map read as a big map -/
def reBig : Val → Val
  | .map k v xs => .bigMap k v xs
  | x => x

theorem updateB_big_eq (x o : Val) (k v : Ty) (items : List Val) :
    Spec.updateB x o (.bigMap k v items) = (Spec.updateV x o (.map k v items)).map' reBig := by
  cases o <;> first | rfl | (simp only [Spec.updateB, Spec.updateV]; split <;> rfl)

theorem updateB_safe (a b c : Val) (t : Ty) (hwa : WF a) (hwb : WF b) (hwc : WF c)
    (hga : litOk a = true) (hgb : litOk b = true) (hgc : litOk c = true)
    (h : updateTyB (typeOf a) (typeOf b) (typeOf c) = some t) :
    (Spec.updateB a b c).Safe (fun r => litOk r = true ∧ typeOf r = typeOf c) := by
  rcases bigMap_or_not c with ⟨k, v, xs, rfl⟩ | hn
  · obtain ⟨m, ht, -⟩ := Option.map_eq_some_iff.mp ((updateTyB_big ..).symm.trans h)
    have hwm := wf_big_as_map hwc
    rw [updateB_big_eq]
    refine (updateV_safe a b (.map k v xs) m hwa hwb hwm hga hgb hgc ht).bind fun r hr hgood => ?_
    -- the updated map is a well-formed value of type `map k v`, hence a map
    obtain ⟨xs', rfl, _⟩ := canon_map (updateV_sound a b _ r hwa hwb hwm hr).1 hgood.2
    exact ⟨hgood.1, rfl⟩
  · rw [updateB_notBig a b c hn]
    rw [updateTyB_notBig _ _ _ (typeOf_notBig hwc hn)] at h
    exact updateV_safe a b c t hwa hwb hwc hga hgb hgc h

theorem updateTyB_keeps_type {x o c t : Ty} (h : updateTyB x o c = some t) : t = c := by
  unfold updateTyB at h
  split at h
  · split at h
    · exact (Option.some.inj h).symm
    · cases h
  · unfold updateTy at h
    split at h
    · split at h
      · exact (Option.some.inj h).symm
      · cases h
    · split at h
      · exact (Option.some.inj h).symm
      · cases h
    · cases h

theorem compare_isSome {k : Ty} {a b : Val} (ha : isKey k a = true) (hb : isKey k b = true) : ∃ c, Spec.compare a b = some c := by
  rcases isKey_pair ha hb with ⟨t, n, m, rfl, rfl⟩ | ⟨s, s', rfl, rfl⟩ | ⟨s, s', rfl, rfl⟩ | ⟨x, y, rfl, rfl⟩ | ⟨rfl, rfl⟩ <;>
    exact ⟨_, rfl⟩

theorem strs_isSome : ∀ (xs : List Val), (∀ x ∈ xs, WF x ∧ typeOf x = .string) → ∃ s, Spec.strs xs = some s
  | [], _ => ⟨[], rfl⟩
  | x :: xs, h => by
    obtain ⟨s, rfl⟩ := canon_string (h x (by simp)).1 (h x (by simp)).2
    obtain ⟨r, hr⟩ := strs_isSome xs (fun y hy => h y (by simp [hy]))
    exact ⟨s ++ r, by simp [Spec.strs, hr]⟩

theorem bytess_isSome : ∀ (xs : List Val), (∀ x ∈ xs, WF x ∧ typeOf x = .bytes) → ∃ s, Spec.bytess xs = some s
  | [], _ => ⟨[], rfl⟩
  | x :: xs, h => by
    obtain ⟨s, rfl⟩ := canon_bytes (h x (by simp)).1 (h x (by simp)).2
    obtain ⟨r, hr⟩ := bytess_isSome xs (fun y hy => h y (by simp [hy]))
    exact ⟨s ++ r, by simp [Spec.bytess, hr]⟩

section
variable (env : Env) (st : List Val) (tr : TRes) (hw : StackWF st) (hg : GoodStack st)
include hw hg

theorem safe_APPLY (hty : Typing.step .APPLY (st.map typeOf) = some tr) : (Spec.step env .APPLY st).Safe GoodStack := by
  rcases st with _ | ⟨x, st⟩
  · cases hty
  rw [stackWF_cons] at hw
  rw [goodStack_cons] at hg
  obtain ⟨-, hw⟩ := hw
  obtain ⟨hgx, hg⟩ := hg
  rw [List.map_cons] at hty
  generalize htx : typeOf x = tx at hty
  prog_top1
  rename_i tp tc
  cases tp <;> first | (cases hty; done) | skip
  obtain ⟨body, rfl, _⟩ := canon_lambda hwa hta
  have hb : literalsOk body = true := hga
  refine .guard hty (fun h => ⟨htx.trans h.1, h.1 ▸ h.2⟩) fun _ => goodStack_cons.mpr ⟨?_, hg⟩
  -- the literals of the new body `{ PUSH ta x ; PAIR ; body }`
  show (litOk x && (true && (literalsOk body && true))) = true
  rw [hgx, hb]; rfl

end
end Interp
