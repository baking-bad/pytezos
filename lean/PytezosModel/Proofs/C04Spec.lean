import PytezosModel.Proofs.C04Forge
import PytezosModel.Proofs.MichelineStrict
/-! C04 helpers: what `pack` / `unpackRaw` / `unpack` come to with the facts read from the source in place; on packable
types the Python call never raises, and — when `iter_comb` is annotation-blind — the optimized rendering *is* the canonical
optimized form `Spec.Pack.optimized` (right-spine components; 2 / 3 / ≥ 4 layout). -/
namespace Impl.Pack
open VC Core Impl.Value Spec.Pack Spec.Value

/-- `iter_comb` is annotation-blind in the source the translator read (C17's repair; on the pinned tree this does not
close) -/
theorem consults_false : consults = false := by decide
theorem sourceOk_true : Impl.Pack.sourceOk = true := by decide

/-- `UNPACK` catches every exception: a failure of `unpack` is `None` -/
theorem unpack_none_of_error {env : Env} {τ : Ty} {bs : Bytes} {e : Err} (h : unpackRaw env τ bs = .error e) :
    unpack env τ bs = .none := by
  have hc : Generated.C04.unpackCatchesAll = some true := by decide
  simp [unpack, h, hc]

theorem unpack_of_ok {env : Env} {τ : Ty} {bs : Bytes} {v : Val} (h : unpackRaw env τ bs = .ok v) :
    unpack env τ bs = .value v := by
  simp only [unpack, h]

theorem pack_of_toMich {env : Env} {τ : Ty} {legacy : Bool} {v : Val} {m : Mich} (hp : packable τ = true)
    (h : toMich env (packMode legacy) (some false) v = .ok m) :
    pack env τ legacy v = (Impl.Lower.forgeMich m).map (5 :: ·) := by
  simp only [pack, sourceOk_true, hp, h, Bool.not_true, Bool.false_eq_true, if_false]

theorem unpackRaw_of_unforgeMich {env : Env} {τ : Ty} {bs : Bytes} {m : Mich} (hp : packable τ = true)
    (h : Impl.Lower.unforgeMich bs = some m) : unpackRaw env τ (5 :: bs) = ofMich env τ m := by
  simp only [unpackRaw, sourceOk_true, hp, h, Bool.not_true, Bool.false_eq_true, if_false]

/-- the integer reader is strict in the source the translator read, so what `unforge_micheline` accepts the Tezos decoder
accepts -/
theorem decode_of_unforgeMich {bs : Bytes} {m : Mich} (h : Impl.Lower.unforgeMich bs = some m) :
    ∃ e, Spec.Micheline.decode Impl.Lower.known bs = some e ∧ Impl.Lower.raise e = some m := by
  have hs : Impl.Lower.strict = true := by decide
  unfold Impl.Lower.unforgeMich at h
  split at h
  · cases h
  · cases hu : Impl.Forge.unforge Impl.Lower.known Impl.Lower.strict bs with
    | none => simp [hu] at h
    | some e => exact ⟨e, Impl.Forge.unforge_refines_spec _ bs e (hs ▸ hu), by simpa [hu] using h⟩

/-- what a successful `unpack` went through -/
theorem unpackRaw_ok {env : Env} {τ : Ty} {bs : Bytes} {v : Val} (h : unpackRaw env τ bs = .ok v) :
    packable τ = true ∧ ∃ rest m, bs = 5 :: rest ∧ Impl.Lower.unforgeMich rest = some m ∧ ofMich env τ m = .ok v := by
  simp only [unpackRaw, sourceOk_true, Bool.not_true, Bool.false_eq_true, if_false] at h
  by_cases hp : packable τ = true
  · simp only [hp, Bool.not_true, Bool.false_eq_true, if_false] at h
    match bs, h with
    | 5 :: rest, h =>
      cases hm : Impl.Lower.unforgeMich rest with
      | none => simp [hm] at h
      | some m => exact ⟨hp, rest, m, rfl, hm, by simpa [hm] using h⟩
  · simp [hp] at h

theorem excl_facts : excluded "big_map" = true ∧ excluded "ticket" = true ∧ excluded "sapling_state" = true := by decide

/-- on packable types `to_micheline_value` never raises (no big_map / sapling_state inside; timestamps and field
elements are in range) -/
theorem no_raise_packable {env : Env} (mode : Mode) {τ : Ty} {v : Val} (h : Typed env τ v) :
    packable τ = true → ∀ lz, raises mode lz v = false := by
  induction h
  case timestamp t => exact fun _ lz => raises_timestamp mode lz t
  case blsFr n h0 h1 h2 => exact fun _ lz => raises_blsFr mode lz n h0 h1 h2
  case bigMap | ticket | sapling => exact fun hp => by simp [packable, excl_facts] at hp
  all_goals
    intro hp lz
    simp only [packable, Bool.and_eq_true] at hp
    simp only [raises]
  case some ih | right ih => exact ih hp.2 lz
  case left ih => exact ih hp.1.2 lz
  case pair ihl ihr => simp [ihl hp.1.2 lz, ihr hp.2 lz]
  case list ih | set ih => exact raisesL_false mode lz _ fun x hx => ih x hx hp.2 lz
  case map ihk ihv => exact raisesE_false mode lz _ fun kv hkv => ⟨ihk kv hkv hp.1.2 lz, ihv kv hkv hp.2 lz⟩

theorem pairNode_opt_eq_layout (ma mb : Mich) (items : List Mich) : pairNode .optimized ma mb items = layout items := by
  match items with
  | [] => simp [pairNode, layout]
  | [a] => simp [pairNode, layout]
  | [a, b] => simp [pairNode, layout, combLayout]
  | [a, b, c] => simp [pairNode, layout, combLayout]
  | a :: b :: c :: d :: rest => simp [pairNode, layout, combLayout]

theorem optL_eq_map (env : Env) (xs : List Val) : optL env xs = xs.map (fun x => (optBoth env x).1) := by
  induction xs with
  | nil => simp [optL]
  | cons x xs ih => simp [optL, ih]

theorem optE_eq_map (env : Env) (kvs : List (Val × Val)) :
    optE env kvs = kvs.map (fun kv => .prim "Elt" [(optBoth env kv.1).1, (optBoth env kv.2).1] []) := by
  induction kvs with
  | nil => simp [optE]
  | cons kv kvs ih => obtain ⟨k, v⟩ := kv; simp [optE, ih]

/-- the two renderings agree on the value and on what an enclosing pair splices in for it -/
def SpecEq (env : Env) (lz : Option Bool) (v : Val) : Prop :=
  (render env .optimized lz v).1 = (optBoth env v).1 ∧
  (if flattens v then (render env .optimized lz v).2 else [(render env .optimized lz v).1]) = (optBoth env v).2

/-- a value that stands for itself as a component -/
theorem specEq_one {env : Env} {lz : Option Bool} {v : Val} {m : Mich} (hf : flattens v = false)
    (ho : optBoth env v = one m) (hr : (render env .optimized lz v).1 = m) : SpecEq env lz v := by
  rw [SpecEq, hr, ho, hf]
  exact ⟨rfl, rfl⟩

theorem specEq_typed {env : Env} (hc : consults = false) {τ : Ty} {v : Val} (h : Typed env τ v) :
    packable τ = true → ∀ lz, SpecEq env lz v := by
  induction h
  case bigMap | ticket | sapling => exact fun hp => by simp [packable, excl_facts] at hp
  -- a value without components: both renderings are the same literal
  case unit | bool | int | nat | mutez | timestamp | string | bytes | blsFr | dom | none | lambda | contract =>
    exact fun _ _ => specEq_one rfl rfl rfl
  all_goals
    intro hp lz
    simp only [packable, Bool.and_eq_true] at hp
  case some ih | right ih => exact specEq_one rfl rfl (by rw [render, (ih hp.2 lz).1])
  case left ih => exact specEq_one rfl rfl (by rw [render, (ih hp.1.2 lz).1])
  case list ih | set ih =>
    refine specEq_one rfl rfl ?_
    rw [render, renderL_eq_map, optL_eq_map]
    exact congrArg _ (List.map_congr_left fun x hx => (ih x hx hp.2 lz).1)
  case map ihk ihv =>
    refine specEq_one rfl rfl ?_
    rw [render, renderE_eq_map, optE_eq_map]
    exact congrArg _ (List.map_congr_left fun kv hkv => by rw [(ihk kv hkv hp.1.2 lz).1, (ihv kv hkv hp.2 lz).1])
  case pair a x y _ _ ihl ihr =>
    have hfl : flattens (.pair a.named x y) = true := by simp [flattens, hc]
    rw [SpecEq, hfl, render_pair, (ihl hp.1.2 lz).1, (ihr hp.2 lz).2, pairNode_opt_eq_layout]
    exact ⟨rfl, rfl⟩

/-- **PACK's Micheline is the canonical optimized form** (annotation-blind `iter_comb`) -/
theorem render_eq_spec (env : Env) (hc : consults = false) :
    ∀ (τ : Ty) (lz : Option Bool) (v : Val), packable τ = true → hasTy env τ v = true → SpecEq env lz v :=
  fun τ lz v hp hty => specEq_typed hc (typed_of_hasTy τ v hty) hp lz

end Impl.Pack
