import PytezosModel.Proofs.HashSha256Nat
/-! BLAKE2b once more, over plain `Nat` words and lists: `Core.Hash.blake2bNat`, with the proof that it is the
`Core.Hash.blake2b` of the model for every digest length and message (`blake2b_eq_nat`); see `HashSha256Nat.lean`
for why.  The model's `blakeG` reads and writes the 16-word state by index; on a list every such access walks the
list, so `blakeGNat` works on the four words it mixes and `blakeRoundNat` takes the state apart once per round. -/
namespace Core.Hash

def le64 (b0 b1 b2 b3 b4 b5 b6 b7 : Nat) : Nat :=
  b0 % 256 ||| (b1 % 256) <<< 8 ||| (b2 % 256) <<< 16 ||| (b3 % 256) <<< 24 |||
    (b4 % 256) <<< 32 ||| (b5 % 256) <<< 40 ||| (b6 % 256) <<< 48 ||| (b7 % 256) <<< 56

/-- past the end of `p` the bytes are 0, as with `get!` -/
def le64Words : Nat → List Nat → List Nat
  | 0, _ => []
  | n + 1, b0 :: b1 :: b2 :: b3 :: b4 :: b5 :: b6 :: b7 :: p => le64 b0 b1 b2 b3 b4 b5 b6 b7 :: le64Words n p
  | n + 1, p =>
    le64 (p.getD 0 0) (p.getD 1 0) (p.getD 2 0) (p.getD 3 0) (p.getD 4 0) (p.getD 5 0) (p.getD 6 0) (p.getD 7 0)
      :: le64Words n (p.drop 8)

/-- `G` of RFC 7693 §3.1 on the four words it changes -/
def blakeGNat (a b c d x y : Nat) : Nat × Nat × Nat × Nat :=
  let a := (a + b + x) % 2 ^ 64
  let d := rotrNat 64 (d ^^^ a) 32
  let c := (c + d) % 2 ^ 64
  let b := rotrNat 64 (b ^^^ c) 24
  let a := (a + b + y) % 2 ^ 64
  let d := rotrNat 64 (d ^^^ a) 16
  let c := (c + d) % 2 ^ 64
  let b := rotrNat 64 (b ^^^ c) 63
  (a, b, c, d)

def blake2bSigmaNat : List (List Nat) := blake2bSigma.toList.map (·.toList)

/-- `v` and `s` are taken apart four entries at a time: the kernel unfolds four small matches faster than one with
sixteen patterns. -/
def blakeRoundNat (m v s : List Nat) : List Nat :=
  match v with
  | v0 :: v1 :: v2 :: v3 :: v' => (match v' with
  | v4 :: v5 :: v6 :: v7 :: v' => (match v' with
  | v8 :: v9 :: v10 :: v11 :: v' => (match v' with
  | [v12, v13, v14, v15] => (match s with
  | s0 :: s1 :: s2 :: s3 :: s' => (match s' with
  | s4 :: s5 :: s6 :: s7 :: s' => (match s' with
  | s8 :: s9 :: s10 :: s11 :: s' => (match s' with
  | [s12, s13, s14, s15] =>
    let (v0, v4, v8, v12) := blakeGNat v0 v4 v8 v12 (m.getD s0 0) (m.getD s1 0)
    let (v1, v5, v9, v13) := blakeGNat v1 v5 v9 v13 (m.getD s2 0) (m.getD s3 0)
    let (v2, v6, v10, v14) := blakeGNat v2 v6 v10 v14 (m.getD s4 0) (m.getD s5 0)
    let (v3, v7, v11, v15) := blakeGNat v3 v7 v11 v15 (m.getD s6 0) (m.getD s7 0)
    let (v0, v5, v10, v15) := blakeGNat v0 v5 v10 v15 (m.getD s8 0) (m.getD s9 0)
    let (v1, v6, v11, v12) := blakeGNat v1 v6 v11 v12 (m.getD s10 0) (m.getD s11 0)
    let (v2, v7, v8, v13) := blakeGNat v2 v7 v8 v13 (m.getD s12 0) (m.getD s13 0)
    let (v3, v4, v9, v14) := blakeGNat v3 v4 v9 v14 (m.getD s14 0) (m.getD s15 0)
    [v0, v1, v2, v3, v4, v5, v6, v7, v8, v9, v10, v11, v12, v13, v14, v15]
  | _ => v) | _ => v) | _ => v) | _ => v) | _ => v) | _ => v) | _ => v) | _ => v

def blake2bCompressNat (h p : List Nat) (t : Nat) (last : Bool) : List Nat :=
  let m := le64Words 16 p
  let v := h ++ blake2bIV.toList.map (·.toNat)
  let v := v.set 12 (v.getD 12 0 ^^^ t % 2 ^ 64)
  let v := v.set 13 (v.getD 13 0 ^^^ t / 2 ^ 64 % 2 ^ 64)
  let v := if last then v.set 14 (2 ^ 64 - 1 - v.getD 14 0) else v
  let v := (List.range' 0 12).foldl (fun v r => blakeRoundNat m v (blake2bSigmaNat.getD r [])) v
  (List.range' 0 8).map fun i => h.getD i 0 ^^^ v.getD i 0 ^^^ v.getD (i + 8) 0

def blake2bNat (outlen : Nat) (msg : List Nat) : List Nat :=
  let l := msg.length
  let nblocks := if l = 0 then 1 else (l + 127) / 128
  let p := msg ++ List.replicate (128 * nblocks - l) 0
  let iv := blake2bIV.toList.map (·.toNat)
  let h := iv.set 0 (iv.getD 0 0 ^^^ (0x01010000 ^^^ outlen) % 2 ^ 64)
  let h := (List.range' 0 nblocks).foldl (fun h i =>
    let last := i + 1 == nblocks
    blake2bCompressNat h (p.drop (128 * i)) (if last then l else 128 * (i + 1)) last) h
  (h.flatMap (leBytes 8)).take outlen

def words64 (a : Array UInt64) : List Nat := a.toList.map (·.toNat)

theorem getElem!_words64 (a : Array UInt64) (i : Nat) : a[i]!.toNat = (words64 a).getD i 0 := by
  rw [words64, List.getD_eq_getElem?_getD, List.getElem?_map, Array.getElem?_toList, getElem!_def]
  cases a[i]? <;> rfl

theorem words64_push (a : Array UInt64) (x : UInt64) : words64 (a.push x) = words64 a ++ [x.toNat] := by
  simp only [words64, Array.toList_push, List.map_append, List.map_cons, List.map_nil]

/-- out of range both sides leave the state alone -/
theorem words64_set! (a : Array UInt64) (i : Nat) (x : UInt64) : words64 (a.set! i x) = (words64 a).set i x.toNat := by
  simp only [words64, Array.set!_eq_setIfInBounds, Array.toList_setIfInBounds, List.map_set]

theorem words64_append (a b : Array UInt64) : words64 (a ++ b) = words64 a ++ words64 b := by
  simp only [words64, Array.toList_append, List.map_append]

theorem words64_foldl_push (g : Nat → UInt64) (l : List Nat) (w : Array UInt64) :
    words64 (l.foldl (fun w t => w.push (g t)) w) = words64 w ++ l.map fun t => (g t).toNat := by
  induction l generalizing w with
  | nil => rw [List.foldl_nil, List.map_nil, List.append_nil]
  | cons t l ih => rw [List.foldl_cons, ih, words64_push, List.append_assoc, List.map_cons]; rfl

theorem rotr64_toNat (x n : UInt64) (h0 : 0 < n.toNat) (h : n.toNat < 64) :
    (rotr64 x n).toNat = rotrNat 64 x.toNat n.toNat := by
  have e : (64 - n).toNat = 64 - n.toNat := UInt64.toNat_sub_of_le _ _ (UInt64.le_iff_toNat_le.mpr (Nat.le_of_lt h))
  rw [rotr64, rotrNat, UInt64.toNat_or, UInt64.toNat_shiftRight, UInt64.toNat_shiftLeft, e,
    Nat.mod_eq_of_lt h, Nat.mod_eq_of_lt (Nat.sub_lt (by decide) h0)]

theorem toNat_byte_shiftLeft64 (b : UInt8) (k : UInt64) (h : k.toNat ≤ 56) :
    (b.toUInt64 <<< k).toNat = b.toNat <<< k.toNat := by
  rw [UInt64.toNat_shiftLeft, UInt8.toNat_toUInt64, Nat.mod_eq_of_lt (Nat.lt_of_le_of_lt h (by decide)),
    Nat.mod_eq_of_lt (byte_shiftLeft_lt _ _ 64 b.toNat_lt (by omega))]

theorem le64At_toNat (p : List Nat) (i : Nat) :
    (le64At (toBytes p) i).toNat = le64 (p.getD i 0) (p.getD (i + 1) 0) (p.getD (i + 2) 0) (p.getD (i + 3) 0)
      (p.getD (i + 4) 0) (p.getD (i + 5) 0) (p.getD (i + 6) 0) (p.getD (i + 7) 0) := by
  unfold le64At
  simp only [Id.run, Std.Legacy.Range.forIn_eq_forIn_range', Std.Legacy.Range.size, Nat.sub_zero,
    Nat.add_one_sub_one, Nat.div_one, List.forIn_pure_yield_eq_foldl, pure_bind]
  simp (disch := decide) only [List.range'_succ, List.range'_zero, List.foldl_cons, List.foldl_nil, Nat.reduceAdd,
    Nat.reduceMul, pure, UInt64.toNat_or, toNat_byte_shiftLeft64, Nat.toUInt64_eq, UInt64.toNat_ofNat',
    UInt64.toNat_ofNat, Nat.reducePow, Nat.reduceMod, Nat.zero_or, Nat.shiftLeft_zero, get!_toBytes, Nat.add_zero, le64]

theorem le64Words_succ (n : Nat) (p : List Nat) :
    le64Words (n + 1) p =
      le64 (p.getD 0 0) (p.getD 1 0) (p.getD 2 0) (p.getD 3 0) (p.getD 4 0) (p.getD 5 0) (p.getD 6 0) (p.getD 7 0)
        :: le64Words n (p.drop 8) := by
  match p with
  | _ :: _ :: _ :: _ :: _ :: _ :: _ :: _ :: _ => rfl
  | [] | [_] | [_, _] | [_, _, _] | [_, _, _, _] | [_, _, _, _, _] | [_, _, _, _, _, _] | [_, _, _, _, _, _, _] => rfl

theorem words64_load (p : List Nat) (off n t : Nat) (w : Array UInt64) :
    words64 ((List.range' t n).foldl (fun w t => w.push (le64At (toBytes p) (off + 8 * t))) w)
      = words64 w ++ le64Words n (p.drop (off + 8 * t)) := by
  induction n generalizing t w with
  | zero => rw [List.range'_zero, List.foldl_nil, le64Words, List.append_nil]
  | succ n ih =>
    rw [List.range'_succ, List.foldl_cons, ih, words64_push, le64At_toNat, le64Words_succ, List.append_assoc,
      List.drop_drop]
    simp only [getD_drop, Nat.add_zero, Nat.mul_add, Nat.add_assoc]
    rfl

/-- `blakeG`, on a list in place of the array -/
def blakeGList (v : List Nat) (a b c d x y : Nat) : List Nat :=
  let v := v.set a ((v.getD a 0 + v.getD b 0 + x) % 2 ^ 64)
  let v := v.set d (rotrNat 64 (v.getD d 0 ^^^ v.getD a 0) 32)
  let v := v.set c ((v.getD c 0 + v.getD d 0) % 2 ^ 64)
  let v := v.set b (rotrNat 64 (v.getD b 0 ^^^ v.getD c 0) 24)
  let v := v.set a ((v.getD a 0 + v.getD b 0 + y) % 2 ^ 64)
  let v := v.set d (rotrNat 64 (v.getD d 0 ^^^ v.getD a 0) 16)
  let v := v.set c ((v.getD c 0 + v.getD d 0) % 2 ^ 64)
  v.set b (rotrNat 64 (v.getD b 0 ^^^ v.getD c 0) 63)

theorem blakeG_toNat (v : Array UInt64) (a b c d : Nat) (x y : UInt64) :
    words64 (blakeG v a b c d x y) = blakeGList (words64 v) a b c d x.toNat y.toNat := by
  unfold blakeG blakeGList
  simp (disch := decide) only [Id.run, pure, words64_set!, getElem!_words64, UInt64.toNat_add, UInt64.toNat_xor,
    rotr64_toNat, UInt64.reduceToNat, Nat.mod_add_mod]

theorem blakeG_size (v : Array UInt64) (a b c d : Nat) (x y : UInt64) : (blakeG v a b c d x y).size = v.size := by
  simp only [blakeG, Id.run, pure, Array.set!_eq_setIfInBounds, Array.size_setIfInBounds]

/-- both sides compute to the same sixteen expressions -/
theorem blakeRound_eq (m v s : List Nat) (hv : v.length = 16) (hs : s.length = 16) :
    blakeGList (blakeGList (blakeGList (blakeGList (blakeGList (blakeGList (blakeGList (blakeGList v
        0 4 8 12 (m.getD (s.getD 0 0) 0) (m.getD (s.getD 1 0) 0))
        1 5 9 13 (m.getD (s.getD 2 0) 0) (m.getD (s.getD 3 0) 0))
        2 6 10 14 (m.getD (s.getD 4 0) 0) (m.getD (s.getD 5 0) 0))
        3 7 11 15 (m.getD (s.getD 6 0) 0) (m.getD (s.getD 7 0) 0))
        0 5 10 15 (m.getD (s.getD 8 0) 0) (m.getD (s.getD 9 0) 0))
        1 6 11 12 (m.getD (s.getD 10 0) 0) (m.getD (s.getD 11 0) 0))
        2 7 8 13 (m.getD (s.getD 12 0) 0) (m.getD (s.getD 13 0) 0))
        3 4 9 14 (m.getD (s.getD 14 0) 0) (m.getD (s.getD 15 0) 0) =
      blakeRoundNat m v s := by
  obtain ⟨v0, v1, v2, v3, v4, v5, v6, v7, v8, v9, v10, v11, v12, v13, v14, v15, rfl⟩ := exists_of_length_16 v hv
  obtain ⟨s0, s1, s2, s3, s4, s5, s6, s7, s8, s9, s10, s11, s12, s13, s14, s15, rfl⟩ := exists_of_length_16 s hs
  simp only [blakeGList, List.getD_cons_zero, List.getD_cons_succ, List.set_cons_zero, List.set_cons_succ,
    blakeRoundNat, blakeGNat]

theorem blake2bSigmaNat_length : ∀ r ∈ List.range' 0 12, (blake2bSigmaNat.getD r []).length = 16 := by decide

theorem blake2bSigma_getElem! (r k : Nat) : blake2bSigma[r]![k]! = (blake2bSigmaNat.getD r []).getD k 0 := by
  simp only [blake2bSigmaNat, List.getD_eq_getElem?_getD, List.getElem?_map, Array.getElem?_toList,
    getElem!_def blake2bSigma]
  cases blake2bSigma[r]? with
  | none => rfl
  | some s =>
    rw [Option.map_some, Option.getD_some, Array.getElem?_toList, getElem!_def]
    cases s[k]? <;> rfl

theorem foldl_sim {α β γ} (φ : α → β) (I : α → Prop) (f : α → γ → α) (g : β → γ → β) (l : List γ)
    (H : ∀ a x, x ∈ l → I a → I (f a x) ∧ φ (f a x) = g (φ a) x) (a : α) (ha : I a) :
    I (l.foldl f a) ∧ φ (l.foldl f a) = l.foldl g (φ a) := by
  induction l generalizing a with
  | nil => exact ⟨ha, rfl⟩
  | cons x l ih =>
    obtain ⟨h1, h2⟩ := H a x List.mem_cons_self ha
    rw [List.foldl_cons, List.foldl_cons, ← h2]
    exact ih (fun a y hy => H a y (List.mem_cons_of_mem _ hy)) _ h1

theorem blake2bCompress_toNat (h : Array UInt64) (p : List Nat) (off t : Nat) (last : Bool) (hh : h.size = 8) :
    words64 (blake2bCompress h (toBytes p) off t last) = blake2bCompressNat (words64 h) (p.drop off) t last := by
  unfold blake2bCompress blake2bCompressNat
  simp only [Id.run, Std.Legacy.Range.forIn_eq_forIn_range', Std.Legacy.Range.size, Nat.sub_zero,
    Nat.add_one_sub_one, Nat.div_one, List.forIn_pure_yield_eq_foldl, pure_bind]
  generalize hm : List.foldl _ (Array.mkEmpty 16) (List.range' 0 16) = m
  have em : words64 m = le64Words 16 (p.drop off) := by rw [← hm, words64_load]; rfl
  -- the `if` of the model has the rest of the function in both branches
  cases last
  all_goals
    simp only [Bool.false_eq_true, if_false, if_true, pure]
    generalize hv : List.foldl _ _ (List.range' 0 12) = v
    rw [words64_foldl_push]
    simp only [UInt64.toNat_xor, getElem!_words64]
    rw [← hv, (foldl_sim words64 (·.size = 16) _
      (fun v r => blakeRoundNat (words64 m) v (blake2bSigmaNat.getD r [])) _ ?_ _ ?_).2, em]
    · simp only [words64_set!, words64_append, getElem!_words64, UInt64.toNat_xor, UInt64.toNat_not, Nat.toUInt64_eq,
        UInt64.toNat_ofNat', Nat.mod_mod]
      rfl
    · intro v r hr hv
      refine ⟨?_, ?_⟩
      · simp only [blakeG_size]
        exact hv
      · simp only [blakeG_toNat, getElem!_words64, blake2bSigma_getElem!]
        exact blakeRound_eq _ _ _ (by rw [words64, List.length_map, Array.length_toList, hv])
          (blake2bSigmaNat_length r hr)
    · simp only [Array.set!_eq_setIfInBounds, Array.size_setIfInBounds, Array.size_append, hh]
      rfl

theorem blake2b_eq_nat (outlen : Nat) (msg : List Nat) : blake2b outlen msg = blake2bNat outlen msg := by
  unfold blake2b blake2bNat
  simp only [Id.run, Std.Legacy.Range.forIn_eq_forIn_range', Std.Legacy.Range.size, Nat.sub_zero,
    Nat.add_one_sub_one, Nat.div_one, List.forIn_pure_yield_eq_foldl, bind_pure_comp, map_pure]
  generalize (if msg.length = 0 then 1 else (msg.length + 127) / 128) = nb
  generalize msg ++ List.replicate _ 0 = p
  rw [← List.flatMap_map]
  refine congrArg (fun h => (List.flatMap (leBytes 8) h).take outlen) ?_
  refine ((foldl_sim words64 (·.size = 8) _ (fun h i => blake2bCompressNat h (p.drop (128 * i))
    (if (i + 1 == nb) = true then msg.length else 128 * (i + 1)) (i + 1 == nb)) _
    (fun h i _ hh => ⟨?_, ?_⟩) _ ?_).2).trans ?_
  · exact RealHash.blake2bCompress_size ..
  · exact blake2bCompress_toNat _ _ _ _ _ hh
  · rfl
  · simp only [words64_set!, getElem!_words64, UInt64.toNat_xor, Nat.toUInt64_eq, UInt64.toNat_ofNat']
    rfl

end Core.Hash

theorem RealHash.blake_eq_nat : RealHash.blake = fun v => Core.Hash.blake2bNat 32 v := by
  funext v
  rw [RealHash.blake, Core.Hash.blake2b32, Core.Hash.blake2b_eq_nat]
