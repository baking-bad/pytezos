import PytezosModel.Michelson.Bls
import PytezosModel.Proofs.Bytes
/-! C21 helper lemmas: the source description the theorems are proved for, the 48-byte big-endian field codec,
and the `from_point` / `to_point` round trip for any layout that is `LayoutGood`. -/
namespace Bls
open Core Generated.C21

/-- `POW_2_382`: the infinity flag (bit 6 of the first byte of a 48-byte big-endian field) -/
def flag382 : Nat := 0x400000000000000000000000000000000000000000000000000000000000000000000000000000000000000000000000

/-- the G1 layout of the (repaired) source -/
def L1 : PointLayout :=
  { width := 48, write := [0, 1], infCoords := [flag382, 0], assertLen := some 96,
    read := [(0, some 48), (48, none)], decodeInf := some [flag382, 0] }

/-- the G2 layout of the (repaired) source: imaginary coefficient first on the wire -/
def L2 : PointLayout :=
  { width := 48, write := [1, 0, 3, 2], infCoords := [0, flag382, 0, 0], assertLen := none,
    read := [(48, some 96), (0, some 48), (144, some 192), (96, some 144)], decodeInf := some [0, flag382, 0, 0] }

/-- what the translator must have read for the theorems of `Props/C21.lean` to apply -/
def expectedSrc : Src :=
  { modulus := r, reduces := true, frMaxLen := 32, frOutLen := 32, L1 := L1, L2 := L2,
    intSub := [.nat, .int, .mutez, .timestamp, .fr],
    addRows := [([.nat, .nat], .nat), ([.nat, .int], .int), ([.int, .nat], .int), ([.int, .int], .int),
      ([.timestamp, .int], .timestamp), ([.int, .timestamp], .timestamp), ([.mutez, .mutez], .mutez),
      ([.fr, .fr], .fr), ([.g1, .g1], .g1), ([.g2, .g2], .g2)],
    mulRows := [([.nat, .nat], .nat), ([.nat, .int], .int), ([.int, .nat], .int), ([.int, .int], .int),
      ([.mutez, .nat], .mutez), ([.nat, .mutez], .mutez), ([.nat, .fr], .fr), ([.int, .fr], .fr), ([.fr, .nat], .fr),
      ([.fr, .int], .fr), ([.fr, .fr], .fr), ([.g1, .fr], .g1), ([.g2, .fr], .g2)],
    negRows := [([.int], .int), ([.nat], .int), ([.fr], .fr), ([.g1], .g1), ([.g2], .g2)],
    negUsesResType := true }

theorem expectedSrc_L1 : expectedSrc.L1 = L1 := rfl
theorem expectedSrc_L2 : expectedSrc.L2 = L2 := rfl

theorem q_lt_flag : q < flag382 := by decide
theorem q_lt_pow : q < 256 ^ 48 := by decide
theorem r_lt_pow : r < 256 ^ 32 := by decide
theorem r_pos : 0 < r := by decide

theorem natToBE_some (n v : Nat) (h : v < 256 ^ n) : ∃ bs, natToBE n v = some bs :=
  ⟨_, (natToBE_eq n v).trans (if_pos h)⟩

theorem field48 (v : Nat) (h : v < q) : ∃ bs, natToBE 48 v = some bs ∧ bs.length = 48 ∧ beToNat bs = v := by
  obtain ⟨bs, hbs⟩ := natToBE_some 48 v (Nat.lt_trans h q_lt_pow)
  obtain ⟨h1, h2, _⟩ := natToBE_spec 48 v bs hbs
  exact ⟨bs, hbs, h1, h2⟩

theorem slice_skip (c rest : Bytes) (w lo hi : Nat) (hc : c.length = w) :
    slice (c ++ rest) (w + lo) (some (w + hi)) = slice rest lo (some hi) := by
  subst hc
  show ((c ++ rest).take (c.length + hi)).drop (c.length + lo) = (rest.take hi).drop lo
  rw [List.take_length_add_append, List.drop_length_add_append]

theorem slice_head (c rest : Bytes) (w : Nat) (hc : c.length = w) : slice (c ++ rest) 0 (some w) = c := by
  subst hc
  exact List.take_left' rfl

theorem slice_all (c : Bytes) (w : Nat) (hc : c.length = w) : slice c 0 (some w) = c :=
  List.take_of_length_le (Nat.le_of_eq hc)

theorem slice_tail (c rest : Bytes) (w : Nat) (hc : c.length = w) : slice (c ++ rest) w none = rest := by
  subst hc
  exact List.drop_left' rfl

theorem slice4 (l1 l2 l3 l4 : Bytes) (h1 : l1.length = 48) (h2 : l2.length = 48) (h3 : l3.length = 48) (h4 : l4.length = 48) :
    slice (l1 ++ (l2 ++ (l3 ++ l4))) 0 (some 48) = l1 ∧
    slice (l1 ++ (l2 ++ (l3 ++ l4))) 48 (some 96) = l2 ∧
    slice (l1 ++ (l2 ++ (l3 ++ l4))) 96 (some 144) = l3 ∧
    slice (l1 ++ (l2 ++ (l3 ++ l4))) 144 (some 192) = l4 :=
  ⟨slice_head l1 _ 48 h1,
   (slice_skip l1 _ 48 0 48 h1).trans (slice_head l2 _ 48 h2),
   (slice_skip l1 _ 48 48 96 h1).trans ((slice_skip l2 _ 48 0 48 h2).trans (slice_head l3 _ 48 h3)),
   (slice_skip l1 _ 48 96 144 h1).trans
     ((slice_skip l2 _ 48 48 96 h2).trans ((slice_skip l3 _ 48 0 48 h3).trans (slice_all l4 48 h4)))⟩

/-- what the round trip needs from a layout with `n` coordinates -/
structure LayoutGood (L : PointLayout) (n : Nat) (total : Nat) : Prop where
  /-- reduced coordinates are written without error as `total` bytes, pass the length assertion, and are read
  back unchanged -/
  coords : ∀ cs, okCoords n cs → ∃ bs, coordsToBytes L cs = some bs ∧ bs.length = total ∧
    (L.assertLen = none ∨ L.assertLen = some bs.length) ∧ readCoords L bs = cs
  /-- so are the coordinates standing for infinity -/
  inf : ∃ bs, coordsToBytes L L.infCoords = some bs ∧ bs.length = total ∧
    (L.assertLen = none ∨ L.assertLen = some bs.length) ∧ readCoords L bs = L.infCoords
  /-- `to_point` recognises exactly what `from_point` writes for infinity -/
  decodes : L.decodeInf = some L.infCoords
  /-- no real point has the infinity coordinates (the flag bit lies above the field modulus) -/
  flag : ¬ okCoords n L.infCoords

theorem flag_not_ok (n : Nat) (cs : List Nat) (h : flag382 ∈ cs) : ¬ okCoords n cs :=
  fun ⟨_, hq⟩ => Nat.lt_irrefl _ (Nat.lt_trans (hq _ h) q_lt_flag)

theorem L1_inf : coordsToBytes L1 L1.infCoords = some (64 :: List.replicate 95 0) := by decide +kernel

theorem L2_inf : coordsToBytes L2 L2.infCoords = some (64 :: List.replicate 191 0) := by decide +kernel

theorem L1_good : LayoutGood L1 2 96 where
  coords := by
    intro cs ⟨hl, hq⟩
    match cs, hl with
    | [x, y], _ =>
      obtain ⟨bx, ex, lx, vx⟩ := field48 x (hq x (by simp))
      obtain ⟨by', ey, ly, vy⟩ := field48 y (hq y (by simp))
      refine ⟨bx ++ by', ?_, by simp [lx, ly], ?_, ?_⟩
      · simp [coordsToBytes, L1, optAll, ex, ey]
      · right; simp [L1, lx, ly]
      · simp [readCoords, L1, slice_head bx by' 48 lx, slice_tail bx by' 48 lx, vx, vy]
  inf := ⟨_, L1_inf, by decide +kernel, by decide +kernel, by decide +kernel⟩
  decodes := rfl
  flag := flag_not_ok 2 _ (List.mem_cons_self ..)

theorem L2_good : LayoutGood L2 4 192 where
  coords := by
    intro cs ⟨hl, hq⟩
    match cs, hl with
    | [a, b, c, d], _ =>
      obtain ⟨ba, ea, la, va⟩ := field48 a (hq a (by simp))
      obtain ⟨bb, eb, lb, vb⟩ := field48 b (hq b (by simp))
      obtain ⟨bc, ec, lc, vc⟩ := field48 c (hq c (by simp))
      obtain ⟨bd, ed, ld, vd⟩ := field48 d (hq d (by simp))
      refine ⟨bb ++ (ba ++ (bd ++ bc)), ?_, by simp [la, lb, lc, ld], ?_, ?_⟩
      · simp [coordsToBytes, L2, optAll, ea, eb, ec, ed]
      · left; rfl
      · obtain ⟨s1, s2, s3, s4⟩ := slice4 bb ba bd bc lb la ld lc
        simp [readCoords, L2, s1, s2, s3, s4, va, vb, vc, vd]
  inf := ⟨_, L2_inf, by decide +kernel, .inl rfl, by decide +kernel⟩
  decodes := rfl
  flag := flag_not_ok 4 _ (List.mem_cons_of_mem _ (List.mem_cons_self ..))

theorem fromPoint_of_coords (K : CurveOps) (L : PointLayout) (P : K.G) (bs : Bytes)
    (e : coordsToBytes L (if K.isInf P then L.infCoords else K.normalize P) = some bs)
    (hlen : L.assertLen = none ∨ L.assertLen = some bs.length) : fromPoint K L P = some bs := by
  unfold fromPoint
  simp only [e, Option.bind_eq_bind, Option.bind_some]
  rcases hlen with h | h <;> rw [h]
  exact if_pos rfl

/-- the bytes `from_point` writes for `P` (`[]` if it raised, which under the laws it does not: `fromPoint_toPoint`) -/
def encode (K : CurveOps) (L : PointLayout) (P : K.G) : Bytes := (fromPoint K L P).getD []

theorem fromPoint_toPoint (K : CurveOps) (n : Nat) (hK : CurveLaws K n) (L : PointLayout) {total : Nat}
    (hL : LayoutGood L n total) (P : K.G) :
    fromPoint K L P = some (encode K L P) ∧ toPoint K L (encode K L P) = P ∧ (encode K L P).length = total := by
  suffices h : ∃ bs, fromPoint K L P = some bs ∧ toPoint K L bs = P ∧ bs.length = total by
    obtain ⟨bs, e, h⟩ := h
    rw [encode, e]
    exact ⟨rfl, h⟩
  cases hi : K.isInf P with
  | true =>
    have hP : P = K.zero := (hK.isInf_iff P).1 hi
    obtain ⟨bs, e, htot, hlen, rd⟩ := hL.inf
    refine ⟨bs, fromPoint_of_coords K L P bs (by rw [hi]; exact e) hlen, ?_, htot⟩
    simp only [toPoint, rd, hL.decodes, if_true, hP]
  | false =>
    have hP : P ≠ K.zero := fun h => by rw [(hK.isInf_iff P).2 h] at hi; cases hi
    obtain ⟨bs, e, htot, hlen, rd⟩ := hL.coords _ (hK.normalize_ok P hP)
    refine ⟨bs, fromPoint_of_coords K L P bs (by rw [hi]; exact e) hlen, ?_, htot⟩
    have hne : K.normalize P ≠ L.infCoords := fun h => hL.flag (h ▸ hK.normalize_ok P hP)
    simp only [toPoint, rd, hL.decodes, if_neg hne, hK.ofAffine_normalize P hP]

theorem fromPoint_zero (K : CurveOps) (n : Nat) (hK : CurveLaws K n) (L : PointLayout) (bs : Bytes)
    (e : coordsToBytes L L.infCoords = some bs) (hlen : L.assertLen = none ∨ L.assertLen = some bs.length) :
    fromPoint K L K.zero = some bs :=
  fromPoint_of_coords K L K.zero bs (by rw [(hK.isInf_iff _).2 rfl]; exact e) hlen

end Bls
