import PytezosModel.Michelson.Pack
import PytezosModel.Proofs.MichelineRT
import PytezosModel.Proofs.Annots
import PytezosModel.Proofs.C11RoundTrip
/-! C04 helpers: `unforge_micheline (forge_micheline m) = m` on JSON-shaped Micheline whose primitives are in the
tables and whose annotations are space-free (C05's `unforge_forge` lifted through `Impl.Lower.lower` / `raise`), and the
fact that everything `to_micheline_value` renders is of that kind. -/
namespace Impl.Pack
open VC Core Impl.Value Impl.Lower

theorem ofUtf8_utf8 (s : String) : ofUtf8 (utf8 s) = some s := by
  unfold ofUtf8 utf8
  have h : (List.map UInt8.ofNat (List.map UInt8.toNat s.toUTF8.data.toList)) = s.toUTF8.data.toList := by
    rw [List.map_map]
    conv => rhs; rw [← List.map_id s.toUTF8.data.toList]
    apply List.map_congr_left
    intro a _
    simp
  rw [h]
  simp [String.fromUTF8?, s.isValidUTF8, String.fromUTF8]

theorem mapM_ofUtf8 (as : List String) : (as.map utf8).mapM ofUtf8 = some as := by
  induction as with
  | nil => rfl
  | cons a as ih => simp [List.mapM_cons, ofUtf8_utf8, ih]

theorem annots_back (annots : List String) (h : annotsOk annots = true) (he : annots ≠ []) :
    (splitSp (joinSp (annots.map utf8))).mapM ofUtf8 = some annots ∧ joinSp (annots.map utf8) ≠ [] := by
  have hne : annots.isEmpty = false := by cases annots <;> simp_all
  simp only [annotsOk, hne, Bool.false_or, Bool.and_eq_true, List.all_eq_true, Bool.not_eq_true', bne_iff_ne, ne_eq] at h
  have hsplit := splitSp_joinSp (annots.map utf8) (by simpa using he) (by
    intro a ha
    obtain ⟨s, hs, rfl⟩ := List.mem_map.mp ha
    have := h.1 s hs
    simpa using this)
  exact ⟨by simp only [hsplit]; exact mapM_ofUtf8 annots, h.2⟩

mutual
  theorem lower_raise : ∀ (m : Mich), forgeable m = true →
      ∃ e, lower m = some e ∧ BMich.WF known e = true ∧ raise e = some m
    | .int v, _ => ⟨.int v, by simp [lower], by simp [BMich.WF], by simp [raise]⟩
    | .str s, _ => ⟨.str (utf8 s), by simp [lower], by simp [BMich.WF], by simp [raise, ofUtf8_utf8]⟩
    | .bytes b, _ => ⟨.bytes b, by simp [lower], by simp [BMich.WF], by simp [raise]⟩
    | .seq xs, h => by
      simp only [forgeable] at h
      obtain ⟨es, h1, h2, h3⟩ := lower_raiseL xs h
      exact ⟨.seq es, by simp [lower, h1], by simp [BMich.WF, h2], by simp [raise, h3]⟩
    | .prim p args annots, h => by
      simp only [forgeable, Bool.and_eq_true] at h
      obtain ⟨⟨hp, ha⟩, hargs⟩ := h
      obtain ⟨es, h1, h2, h3⟩ := lower_raiseL args hargs
      simp only [primOk, Bool.and_eq_true, bne_iff_ne, ne_eq] at hp
      obtain ⟨hne, hp⟩ := hp
      cases ht : primTag p with
      | none => simp [ht] at hp
      | some t =>
        simp only [ht, beq_iff_eq] at hp
        by_cases he : annots = []
        · subst he
          refine ⟨.prim t es none, ?_, ?_, ?_⟩
          · simp [lower, hne, ht, h1]
          · simp only [BMich.WF, Bool.and_eq_true]
            exact ⟨⟨by simp [known, hp], by simp⟩, h2⟩
          · simp [raise, hp, h3]
        · obtain ⟨hb1, hb2⟩ := annots_back annots ha he
          have hemp : annots.isEmpty = false := by cases annots <;> simp_all
          refine ⟨.prim t es (some (joinSp (annots.map utf8))), ?_, ?_, ?_⟩
          · simp [lower, hne, ht, h1, hemp]
          · simp only [BMich.WF, Bool.and_eq_true]
            exact ⟨⟨by simp [known, hp], by simpa using hb2⟩, h2⟩
          · simp [raise, hp, h3, hb1]
  theorem lower_raiseL : ∀ (ms : List Mich), forgeableL ms = true →
      ∃ es, lowerList ms = some es ∧ BMich.WFList known es = true ∧ raiseList es = some ms
    | [], _ => ⟨[], by simp [lowerList], by simp [BMich.WFList], by simp [raiseList]⟩
    | m :: ms, h => by
      simp only [forgeableL, Bool.and_eq_true] at h
      obtain ⟨e, h1, h2, h3⟩ := lower_raise m h.1
      obtain ⟨es, g1, g2, g3⟩ := lower_raiseL ms h.2
      exact ⟨e :: es, by simp [lowerList, h1, g1], by simp [BMich.WFList, h2, g2], by simp [raiseList, h3, g3]⟩
end

theorem tables_present : Generated.C05.primTags.isNone = false ∧ Generated.C05.unforgeIntStrict.isNone = false := by
  decide

theorem unforgeMich_forgeMich (m : Mich) (h : forgeable m = true) (bs : Bytes) (hb : forgeMich m = some bs) :
    unforgeMich bs = some m := by
  obtain ⟨e, h1, h2, h3⟩ := lower_raise m h
  simp only [forgeMich, h1, Option.bind_some] at hb
  have := Impl.Forge.unforge_forge known strict e h2 bs hb
  simp [unforgeMich, tables_present.1, tables_present.2, this, h3]

theorem primOk_values : primOk "Unit" = true ∧ primOk "True" = true ∧ primOk "False" = true ∧ primOk "None" = true ∧
    primOk "Some" = true ∧ primOk "Left" = true ∧ primOk "Right" = true ∧ primOk "Pair" = true ∧ primOk "Elt" = true := by
  decide +kernel

theorem fg_prim0 (p : String) (h : primOk p = true) : forgeable (prim0 p) = true := by
  simp [prim0, forgeable, forgeableL, h, annotsOk]

theorem fg_prim1 (p : String) (h : primOk p = true) (m : Mich) (hm : forgeable m = true) :
    forgeable (.prim p [m] []) = true := by
  simp [forgeable, forgeableL, h, annotsOk, hm]

theorem fg_pairOf (ms : List Mich) (h : forgeableL ms = true) : forgeable (pairOf ms) = true := by
  simp [pairOf, forgeable, primOk_values.2.2.2.2.2.2.2.1, annotsOk, h]

theorem fgL_map {α : Type} (f : α → Mich) (xs : List α) (h : ∀ x ∈ xs, forgeable (f x) = true) :
    forgeableL (xs.map f) = true := by
  induction xs with
  | nil => simp [forgeableL]
  | cons x xs ih => simp [forgeableL, h x (by simp), ih (fun y hy => h y (by simp [hy]))]

theorem fg_pairNode (mode : Mode) (ma mb : Mich) (items : List Mich) (ha : forgeable ma = true) (hb : forgeable mb = true)
    (hi : forgeableL items = true) : forgeable (pairNode mode ma mb items) = true := by
  cases mode with
  | readable => exact fg_pairOf items hi
  | legacyOptimized => exact fg_pairOf _ (by simp [forgeableL, ha, hb])
  | optimized =>
    simp only [pairNode]
    split
    · exact fg_pairOf _ hi
    · rename_i x y z
      simp only [forgeableL, Bool.and_eq_true, Bool.and_true] at hi
      exact fg_pairOf _ (by simp [forgeableL, hi.1, fg_pairOf [y, z] (by simp [forgeableL, hi.2.1, hi.2.2])])
    · simpa [forgeable] using hi

theorem fgL_renderE {env : Env} {mode : Mode} {lz : Option Bool} {kvs : List (Val × Val)}
    (hk : ∀ kv ∈ kvs, forgeable (render env mode lz kv.1).1 = true)
    (hv : ∀ kv ∈ kvs, forgeable (render env mode lz kv.2).1 = true) :
    forgeableL (renderE env mode lz kvs) = true := by
  rw [renderE_eq_map]
  exact fgL_map _ _ fun kv hkv => by simp [forgeable, forgeableL, primOk_values, annotsOk, hk kv hkv, hv kv hkv]

theorem fg_dom (env : Env) (mode : Mode) (k : DomKind) (d : DomVal) : forgeable (domToMich env mode k d) = true := by
  simp only [domToMich]; split <;> simp [forgeable]

theorem render_forgeable {env : Env} (mode : Mode)
    (hcode : ∀ code, env.lambdaOk code = true → forgeableL code = true) {τ : Ty} {v : Val} (h : Typed env τ v) :
    ∀ lz, forgeable (render env mode lz v).1 = true ∧ forgeableL (render env mode lz v).2 = true := by
  have P := primOk_values
  induction h with
  | bool b => cases b <;> simp [render, forgeableL, fg_prim0, P]
  | timestamp =>
    simp only [render, tsToMich, forgeableL, and_true]
    intro _; split <;> try split
    all_goals simp [forgeable]
  | blsFr =>
    simp only [render, forgeableL, and_true]
    intro _; split <;> simp [forgeable]
  | some _ ih | left _ ih | right _ ih => exact fun lz => by simp [render, forgeableL, fg_prim1, P, (ih lz).1]
  | @pair _ _ _ x y _ _ ihl ihr =>
    intro lz
    rw [render_pair]
    have hitems : forgeableL ((render env mode lz x).1 ::
        (if flattens y then (render env mode lz y).2 else [(render env mode lz y).1])) = true := by
      split <;> simp [forgeableL, (ihl lz).1, (ihr lz).1, (ihr lz).2]
    exact ⟨fg_pairNode mode _ _ _ (ihl lz).1 (ihr lz).1 hitems, hitems⟩
  | list _ ih | set _ _ ih =>
    simp only [render, forgeable, forgeableL, and_true, renderL_eq_map]
    exact fun lz => fgL_map _ _ fun x hx => (ih x hx lz).1
  | map _ _ _ ihk ihv =>
    simp only [render, forgeable, forgeableL, and_true]
    exact fun lz => fgL_renderE (fun kv hkv => (ihk kv hkv lz).1) fun kv hkv => (ihv kv hkv lz).1
  | bigMap _ _ _ _ ihk ihv =>
    simp only [render, forgeableL, and_true]
    intro _; split
    · exact fgL_renderE (fun kv hkv => (ihk kv hkv _).1) fun kv hkv => (ihv kv hkv _).1
    · simp [forgeable]
  | lambda code h => simp [render, forgeable, forgeableL, hcode code h]
  | ticket _ _ _ _ _ ih =>
    have hi := (ih (some false)).1
    simp only [render, forgeableL, and_true]
    cases mode <;> simp [pairOf, forgeable, forgeableL, P, annotsOk, fg_dom, hi]
  | sapling =>
    simp only [render, forgeableL, and_true]
    intro _; split <;> simp [forgeable, forgeableL]
  | _ => simp [render, forgeable, forgeableL, fg_prim0, fg_dom, P]

end Impl.Pack
