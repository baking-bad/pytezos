import PytezosModel.Proofs.C11CivilYear
/-! C11 — the civil-date round trips and `parseTimestamp (fmtTimestamp t) = some t`.  Hinnant's two algorithms meet in
the middle: a day number and a civil date are both read as a date of an era (`EraDate`); `eraDays` and `eraYear` /
`eraMonth` lead from there to either side, and each algorithm computes the inverse of one of them. -/
namespace Civil

/-- `monthStart mp` is the first day of the year that lies in month `mp` or later: `(153 mp + 2) / 5` is
`(153 mp - 2) / 5` rounded up -/
theorem le_mpOfDoy (mp doy : Int) : mp ≤ mpOfDoy doy ↔ monthStart mp ≤ doy := by
  unfold mpOfDoy monthStart; omega

theorem mpOfDoy_eq (mp doy : Int) : mpOfDoy doy = mp ↔ monthStart mp ≤ doy ∧ doy < monthStart (mp + 1) := by
  have h1 := le_mpOfDoy mp doy
  have h2 := le_mpOfDoy (mp + 1) doy
  omega

/-- the civil month of the month `mp` counted from March, and the civil year: January and February belong to the
next one -/
def eraMonth (mp : Int) : Int := if mp < 10 then mp + 3 else mp - 9
def eraYear (era yoe mp : Int) : Int := if eraMonth mp ≤ 2 then yoe + era * 400 + 1 else yoe + era * 400

theorem era_of_lt {mp : Int} (era yoe : Int) (h : mp < 10) (h0 : 0 ≤ mp) :
    eraMonth mp = mp + 3 ∧ eraYear era yoe mp = yoe + era * 400 := by
  unfold eraYear eraMonth; omega

theorem era_of_ge {mp : Int} (era yoe : Int) (h : ¬ mp < 10) (h1 : mp ≤ 11) :
    eraMonth mp = mp - 9 ∧ eraYear era yoe mp = yoe + era * 400 + 1 := by
  unfold eraYear eraMonth; omega

theorem monthLen_table (y : Int) (mp : Nat) (h : mp < 11) :
    monthLen y (eraMonth mp) = monthStart (mp + 1) - monthStart mp := by
  iterate 11 (rcases mp with _ | mp; · rfl)
  omega

structure EraPos (yoe mp : Int) : Prop where
  yoe0 : 0 ≤ yoe
  yoe1 : yoe ≤ 399
  mp0 : 0 ≤ mp
  mp1 : mp ≤ 11

/-- day `d` of month `mp` (from March) of year `yoe` of an era: the day of the year `monthStart mp + d - 1` stays
inside the month and inside the year, whose 366th day exists when it is long -/
structure EraDate (yoe mp d : Int) : Prop extends EraPos yoe mp where
  d0 : 1 ≤ d
  inMonth : monthStart mp + d - 1 < monthStart (mp + 1)
  inYear : monthStart mp + d - 1 ≤ 365
  long : monthStart mp + d - 1 = 365 → longYoe yoe

def eraDays (era yoe mp d : Int) : Int := era * 146097 + (yearStart yoe + (monthStart mp + d - 1)) - 719468

theorem civilFromDays_era (z : Int) : ∃ era yoe mp d, EraDate yoe mp d ∧ z = eraDays era yoe mp d ∧
    civilFromDays z = (eraYear era yoe mp, eraMonth mp, d) := by
  have hdoe : 0 ≤ z + 719468 - (z + 719468) / 146097 * 146097 ∧
      z + 719468 - (z + 719468) / 146097 * 146097 ≤ 146096 := by omega
  obtain ⟨hy0, hy1⟩ := yoe_range _ hdoe.1 hdoe.2
  obtain ⟨hs0, hs1, hl⟩ := doy_spec _ hdoe.1 hdoe.2
  refine ⟨_, _, _, _, ?_, ?_, rfl⟩
  · generalize z + 719468 - (z + 719468) / 146097 * 146097 - yearStart (yoeOfDoe _) = doy at hs0 hs1 hl
    obtain ⟨hlo, hhi⟩ := (mpOfDoy_eq _ doy).1 rfl
    have h12 : monthStart 12 = 367 := rfl
    exact ⟨⟨hy0, hy1, (le_mpOfDoy 0 doy).2 hs0, Int.not_lt.1 fun h => by have := (le_mpOfDoy 12 doy).1 h; omega⟩,
      by omega, by omega, by omega, fun h => hl (by omega)⟩
  · unfold eraDays; omega

theorem daysFromCivil_era (era : Int) {yoe mp : Int} (d : Int) (h : EraPos yoe mp) :
    daysFromCivil (eraYear era yoe mp) (eraMonth mp) d = eraDays era yoe mp d := by
  obtain ⟨hy0, hy1, hm0, hm1⟩ := h
  have e : (yoe + era * 400) / 400 = era := by omega
  by_cases hmp : mp < 10
  · obtain ⟨hm, hy⟩ := era_of_lt era yoe hmp hm0
    have h1 : ¬ (mp + 3 ≤ 2) := by omega
    have h2 : mp + 3 > 2 := by omega
    simp only [daysFromCivil, eraDays, hm, hy, h1, h2, if_false, if_true, e, Int.add_sub_cancel]
  · obtain ⟨hm, hy⟩ := era_of_ge era yoe hmp hm1
    have h1 : mp - 9 ≤ 2 := by omega
    have h2 : ¬ (mp - 9 > 2) := by omega
    simp only [daysFromCivil, eraDays, hm, hy, h1, h2, if_false, if_true, e, Int.add_sub_cancel, Int.sub_add_cancel]

theorem yearStart_mono {a b : Int} (h : a ≤ b) : yearStart a ≤ yearStart b := by
  unfold yearStart; omega

theorem yearStart_succ (a : Int) :
    yearStart a + 365 ≤ yearStart (a + 1) ∧ (a % 4 = 3 → a % 100 ≠ 99 → yearStart a + 366 ≤ yearStart (a + 1)) := by
  unfold yearStart; omega

/-- a day of the era lies in one year only -/
theorem doySpec_lt {doe y y' : Int} (hlt : y + 1 ≤ y') (h1 : y' ≤ 399) (h : DoySpec doe y) (h' : DoySpec doe y') :
    False := by
  obtain ⟨_, _, hl⟩ := h
  have hm := yearStart_mono hlt
  obtain ⟨hs, hs'⟩ := yearStart_succ y
  have h0 := h'.1
  obtain ⟨h4, h100⟩ := hl (by omega)
  have := hs' h4 (h100.resolve_right (by omega))
  omega

theorem yoeOfDoe_yearStart {y doy : Int} (h0 : 0 ≤ y) (h1 : y ≤ 399) (hd0 : 0 ≤ doy) (hd1 : doy ≤ 365)
    (hl : doy = 365 → longYoe y) :
    (0 ≤ yearStart y + doy ∧ yearStart y + doy ≤ 146096) ∧ yoeOfDoe (yearStart y + doy) = y := by
  have hy : DoySpec (yearStart y + doy) y := ⟨by omega, by omega, fun h => hl (by omega)⟩
  have hs : 0 ≤ yearStart y ∧ yearStart y ≤ 145731 := by unfold yearStart; omega
  have hr : 0 ≤ yearStart y + doy ∧ yearStart y + doy ≤ 146096 := by omega
  obtain ⟨hy0, hy1⟩ := yoe_range _ hr.1 hr.2
  have hy' := doy_spec _ hr.1 hr.2
  exact ⟨hr, Int.le_antisymm (Int.not_lt.1 fun h => doySpec_lt h hy1 hy hy') (Int.not_lt.1 fun h => doySpec_lt h h1 hy' hy)⟩

theorem civilFromDays_eraDays (era : Int) {yoe mp d : Int} (h : EraDate yoe mp d) :
    civilFromDays (eraDays era yoe mp d) = (eraYear era yoe mp, eraMonth mp, d) := by
  obtain ⟨⟨hy0, hy1, hm0, hm1⟩, hd0, hmo, hyr, hl⟩ := h
  have hms : 0 ≤ monthStart mp := by unfold monthStart; omega
  obtain ⟨hr, hyoe⟩ := yoeOfDoe_yearStart hy0 hy1 (by omega) hyr hl
  have hmp : mpOfDoy (monthStart mp + d - 1) = mp := (mpOfDoy_eq _ _).2 ⟨by omega, hmo⟩
  have hera : (eraDays era yoe mp d + 719468) / 146097 = era := by unfold eraDays; omega
  have hdoe : eraDays era yoe mp d + 719468 - era * 146097 = yearStart yoe + (monthStart mp + d - 1) := by
    unfold eraDays; omega
  have hdoy : yearStart yoe + (monthStart mp + d - 1) - yearStart yoe = monthStart mp + d - 1 := by omega
  have hd : monthStart mp + d - 1 - monthStart mp + 1 = d := by omega
  simp only [civilFromDays, hera, hdoe, hyoe, hdoy, hmp, hd]
  rfl

theorem isLeap_eraYear (era : Int) {yoe : Int} (h0 : 0 ≤ yoe) (h1 : yoe ≤ 399) :
    isLeap (yoe + era * 400 + 1) = true ↔ longYoe yoe := by
  simp only [isLeap, Bool.or_eq_true, Bool.and_eq_true, decide_eq_true_eq, ne_eq]
  unfold longYoe
  omega

theorem validDate_era (era : Int) {yoe mp : Int} (d : Int) (hp : EraPos yoe mp) :
    validDate (eraYear era yoe mp) (eraMonth mp) d ↔ EraDate yoe mp d := by
  by_cases h10 : mp ≤ 10
  · obtain ⟨k, rfl⟩ := Int.eq_ofNat_of_zero_le hp.mp0
    -- March … January: the length of the month is the difference of two `monthStart`s, whatever the year
    have ht := monthLen_table (eraYear era yoe k) k (by omega)
    have hs : monthStart (k + 1) ≤ 337 := by unfold monthStart; omega
    have hr : 1 ≤ eraMonth k ∧ eraMonth k ≤ 12 := by unfold eraMonth; omega
    exact ⟨fun ⟨_, _, hd0, hd1⟩ => ⟨hp, hd0, by omega, by omega, fun h => by omega⟩,
      fun h => ⟨hr.1, hr.2, h.d0, by have := h.inMonth; omega⟩⟩
  · obtain rfl : mp = 11 := by have := hp.mp1; omega
    have hl := isLeap_eraYear era hp.yoe0 hp.yoe1
    have h11 : monthStart 11 = 337 := rfl
    have h12 : monthStart (11 + 1) = 367 := rfl
    -- February (`eraMonth 11 = 2`, of the civil year `yoe + era * 400 + 1`): `monthLen` is the leap test, and the 29th
    -- is day 365 of the March-based year
    show _ ∧ _ ∧ 1 ≤ d ∧ d ≤ (if isLeap (yoe + era * 400 + 1) = true then 29 else 28) ↔ _
    by_cases hlong : longYoe yoe
    · rw [if_pos (hl.2 hlong)]
      exact ⟨fun ⟨_, _, hd0, hd1⟩ => ⟨hp, hd0, by omega, by omega, fun _ => hlong⟩,
        fun h => ⟨by decide, by decide, h.d0, by have := h.inYear; omega⟩⟩
    · rw [if_neg (mt hl.1 hlong)]
      exact ⟨fun ⟨_, _, hd0, hd1⟩ => ⟨hp, hd0, by omega, by omega, fun h => by omega⟩,
        fun h => ⟨by decide, by decide, h.d0, by have := h.inYear; have := mt h.long hlong; omega⟩⟩

theorem era_of_month (y : Int) {m : Int} (hm1 : 1 ≤ m) (hm12 : m ≤ 12) :
    ∃ era yoe mp, EraPos yoe mp ∧ y = eraYear era yoe mp ∧ m = eraMonth mp := by
  by_cases hm : m ≤ 2
  · obtain ⟨e1, e2⟩ := era_of_ge ((y - 1) / 400) (y - 1 - (y - 1) / 400 * 400) (mp := m + 9) (by omega) (by omega)
    exact ⟨(y - 1) / 400, y - 1 - (y - 1) / 400 * 400, m + 9, ⟨by omega, by omega, by omega, by omega⟩, by omega, by omega⟩
  · obtain ⟨e1, e2⟩ := era_of_lt (y / 400) (y - y / 400 * 400) (mp := m - 3) (by omega) (by omega)
    exact ⟨y / 400, y - y / 400 * 400, m - 3, ⟨by omega, by omega, by omega, by omega⟩, by omega, by omega⟩

theorem daysFromCivil_civilFromDays (z : Int) :
    daysFromCivil (civilFromDays z).1 (civilFromDays z).2.1 (civilFromDays z).2.2 = z := by
  obtain ⟨era, yoe, mp, d, h, hz, hc⟩ := civilFromDays_era z
  rw [hc]
  exact (daysFromCivil_era era d h.toEraPos).trans hz.symm

theorem civilFromDays_valid (z : Int) :
    validDate (civilFromDays z).1 (civilFromDays z).2.1 (civilFromDays z).2.2 := by
  obtain ⟨era, yoe, mp, d, h, _, hc⟩ := civilFromDays_era z
  rw [hc]
  exact (validDate_era era d h.toEraPos).2 h

theorem civilFromDays_daysFromCivil (y m d : Int) (h : validDate y m d) :
    civilFromDays (daysFromCivil y m d) = (y, m, d) := by
  obtain ⟨era, yoe, mp, hp, rfl, rfl⟩ := era_of_month y h.1 h.2.1
  rw [daysFromCivil_era era d hp]
  exact civilFromDays_eraDays era ((validDate_era era d hp).1 h)

theorem monthLen_le (y m : Int) : monthLen y m ≤ 31 := by
  unfold monthLen; split <;> split <;> omega

theorem daysFromCivil_year (y m d : Int) (hm0 : 1 ≤ m) (hm1 : m ≤ 12) (hd0 : 1 ≤ d) (hd1 : d ≤ 31) :
    (y ≤ 0 → daysFromCivil y m d < tsMin / 86400) ∧ (10000 ≤ y → tsMax / 86400 < daysFromCivil y m d) := by
  unfold daysFromCivil monthStart yearStart tsMin tsMax
  simp only
  split <;> split <;> omega

theorem civilFromDays_year_range (t : Int) (h0 : tsMin ≤ t) (h1 : t ≤ tsMax) :
    1 ≤ (civilFromDays (t / 86400)).1 ∧ (civilFromDays (t / 86400)).1 ≤ 9999 := by
  obtain ⟨hm0, hm1, hd0, hd1⟩ := civilFromDays_valid (t / 86400)
  have hy := daysFromCivil_year (civilFromDays (t / 86400)).1 _ _ hm0 hm1 hd0 (Int.le_trans hd1 (monthLen_le _ _))
  rw [daysFromCivil_civilFromDays] at hy
  omega

theorem digitVal_digitChar (k : Nat) (h : k < 10) : digitVal (digitChar k) = some k := by
  iterate 10 (rcases k with _ | k; · decide)
  omega

theorem digitVal_dec (n : Int) : digitVal (digitChar (n % 10).toNat) = some (n % 10).toNat :=
  digitVal_digitChar _ (by omega)

/-- a decimal digit as a difference: with it the value of a digit string telescopes -/
theorem toNat_mod_ten (n : Int) : ((n % 10).toNat : Int) = n - 10 * (n / 10) := by omega

theorem num2_dec2 (n : Int) (h0 : 0 ≤ n) (h1 : n ≤ 99) :
    num2 (digitChar (n / 10 % 10).toNat) (digitChar (n % 10).toNat) = some n := by
  unfold num2
  rw [digitVal_dec, digitVal_dec]
  simp only [Option.some.injEq, Int.natCast_add, Int.natCast_mul, toNat_mod_ten]
  omega

theorem num4_dec4 (n : Int) (h0 : 0 ≤ n) (h1 : n ≤ 9999) :
    num4 (digitChar (n / 1000 % 10).toNat) (digitChar (n / 100 % 10).toNat) (digitChar (n / 10 % 10).toNat)
      (digitChar (n % 10).toNat) = some n := by
  unfold num4
  have h100 : n / 100 = n / 10 / 10 := (Int.ediv_ediv_of_nonneg (x := n) (y := 10) (z := 10) (by decide)).symm
  have h1000 : n / 1000 = n / 10 / 10 / 10 := by rw [← h100]; exact (Int.ediv_ediv_of_nonneg (x := n) (y := 100) (z := 10) (by decide)).symm
  rw [h1000, h100, digitVal_dec, digitVal_dec, digitVal_dec, digitVal_dec]
  simp only [Option.some.injEq, Int.natCast_add, Int.natCast_mul, toNat_mod_ten]
  omega

theorem clock_fields (t : Int) :
    (0 ≤ t % 86400 / 3600 ∧ t % 86400 / 3600 ≤ 23) ∧ (0 ≤ t % 86400 % 3600 / 60 ∧ t % 86400 % 3600 / 60 ≤ 59) ∧
      (0 ≤ t % 86400 % 60 ∧ t % 86400 % 60 ≤ 59) ∧
      t / 86400 * 86400 + t % 86400 / 3600 * 3600 + t % 86400 % 3600 / 60 * 60 + t % 86400 % 60 = t := by
  omega

theorem parse_fmt (t : Int) (h0 : tsMin ≤ t) (h1 : t ≤ tsMax) :
    ∃ s, fmtTimestamp true t = some s ∧ parseTimestamp s = some t := by
  obtain ⟨hy0, hy1⟩ := civilFromDays_year_range t h0 h1
  obtain ⟨hm0, hm1, hd0, hd1⟩ := civilFromDays_valid (t / 86400)
  have hrt := daysFromCivil_civilFromDays (t / 86400)
  have hd31 := monthLen_le (civilFromDays (t / 86400)).1 (civilFromDays (t / 86400)).2.1
  obtain ⟨⟨hh0, hh1⟩, ⟨hn0, hn1⟩, ⟨hs0, hs1⟩, hsum⟩ := clock_fields t
  simp only [fmtTimestamp, h0, h1, and_self, if_true, yearText, dec4, dec2, List.cons_append, List.nil_append,
    Option.some.injEq, exists_eq_left']
  generalize civilFromDays (t / 86400) = c at *
  obtain ⟨y, m, d⟩ := c
  simp only at hy0 hy1 hm0 hm1 hd0 hd1 hrt hd31
  simp only [parseTimestamp, and_self, if_true]
  rw [num4_dec4 y (Int.le_of_lt hy0) hy1, num2_dec2 m (Int.le_of_lt hm0) (Int.le_trans hm1 (by decide)),
    num2_dec2 d (Int.le_of_lt hd0) (Int.le_trans hd1 (Int.le_trans hd31 (by decide))),
    num2_dec2 _ hh0 (Int.le_trans hh1 (by decide)), num2_dec2 _ hn0 (Int.le_trans hn1 (by decide)),
    num2_dec2 _ hs0 (Int.le_trans hs1 (by decide))]
  have hf : takeFraction ['Z'] = some ([], ['Z']) := by decide
  have hzone : parseZone ['Z'] = some none := by decide
  simp only [hf, hzone, assemble, hy0, hy1, hm0, hm1, hd0, hd1, hh1, hn1, hs1, and_self, if_true, List.isEmpty_nil,
    Option.getD_none, Option.some.injEq, hrt, Int.sub_zero]
  exact hsum

/-- `format_timestamp` raises (`datetime.fromtimestamp`: year out of range) exactly outside 0001…9999 -/
theorem fmtTimestamp_eq_none_iff (padded : Bool) (t : Int) : fmtTimestamp padded t = none ↔ t < tsMin ∨ tsMax < t := by
  unfold fmtTimestamp
  by_cases h : tsMin ≤ t ∧ t ≤ tsMax
  · simp only [h, and_self, if_true, reduceCtorEq, false_iff]; omega
  · simp only [h, if_false, true_iff]; omega

theorem fmtTimestamp_length (t : Int) (s : List Char) (h : fmtTimestamp true t = some s) : s.length = 20 := by
  unfold fmtTimestamp at h
  split at h
  · cases h; rfl
  · cases h

theorem fmtTimestamp_injective (t t' : Int) (s : List Char) (h : fmtTimestamp true t = some s)
    (h' : fmtTimestamp true t' = some s) : t = t' := by
  have r : ∀ u, fmtTimestamp true u = some s → parseTimestamp s = some u := by
    intro u hu
    have hr : tsMin ≤ u ∧ u ≤ tsMax := Classical.byContradiction fun hr => by
      rw [(fmtTimestamp_eq_none_iff true u).2 (by omega)] at hu; cases hu
    obtain ⟨s', hs', hp⟩ := parse_fmt u hr.1 hr.2
    rw [hu] at hs'; cases hs'; exact hp
  exact Option.some.inj ((r t h).symm.trans (r t' h'))

end Civil
