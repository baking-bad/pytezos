import PytezosModel.Proofs.C06Codec
/-! C06, part 2: the Tezos schema on its own, continued.  Layouts (induction on the layout), contents and groups: the canonical
reader `Spec.Op.decodeGroup` reads back what the canonical writer `Spec.Op.writeGroup` wrote. -/
namespace C06Proofs
open Core OpLayout Impl.OpForge Spec.Op
open Generated.C06 (Codec Cond Field)

theorem rt_writeFields :
    ∀ (fs : List (String × SCodec)) (vs : List Val), WFVals fs vs = true →
      ∀ bs, writeFields fs vs = some bs → ∀ rest, decodeFields fs (bs ++ rest) = some (vs, rest)
  | [], [], _, bs, he, rest => by
    cases he
    rfl
  | [], _ :: _, hw, _, _, _ => nomatch hw
  | _ :: _, [], hw, _, _, _ => nomatch hw
  | (n, c) :: fs, v :: vs, hw, bs, he, rest => by
    simp only [WFVals, Bool.and_eq_true] at hw
    simp only [writeFields, Option.bind_eq_bind, Option.bind_eq_some_iff, Option.pure_def, Option.some.injEq] at he
    obtain ⟨a, ha, b, hb, rfl⟩ := he
    simp only [List.append_assoc, decodeFields, rt_writeC c v hw.1 a ha (b ++ rest), rt_writeFields fs vs hw.2 b hb rest,
      Option.map_some]

theorem rt_writeF (f : SField) (v : FVal) (hw : WFF f v = true) (bs : Bytes) (he : writeF f v = some bs) (rest : Bytes) :
    decodeF f (bs ++ rest) = some (normF f v, rest) := by
  cases f with
  | req n c =>
    cases v with
    | opt o => exact Bool.noConfusion hw
    | req v => simp [decodeF, normF, rt_writeC c v hw bs he rest]
  | opt n cond fs =>
    cases v with
    | req v => exact Bool.noConfusion hw
    | opt o =>
      cases o with
      | none =>
        cases he
        simp [decodeF, normF]
      | some vs =>
        simp only [writeF] at he
        by_cases hel : (cond == Cond.elideDefaultUnit && elided vs) = true
        · simp only [hel, if_true, Option.some.injEq] at he
          subst he
          simp [decodeF, normF, hel]
        · simp only [hel, Bool.false_eq_true, if_false] at he
          obtain ⟨body, hb, rfl⟩ := Option.map_eq_some_iff.mp he
          simp [decodeF, normF, hel, rt_writeFields fs vs hw body hb rest]

theorem rt_writeL :
    ∀ (l : List SField) (r : Record), WFRecord l r = true →
      ∀ bs, writeL l r = some bs → ∀ rest, decodeL l (bs ++ rest) = some (normL l r, rest)
  | [], [], _, bs, he, rest => by
    cases he
    rfl
  | [], _ :: _, hw, _, _, _ => nomatch hw
  | _ :: _, [], hw, _, _, _ => nomatch hw
  | f :: fs, v :: vs, hw, bs, he, rest => by
    simp only [WFRecord, Bool.and_eq_true] at hw
    simp only [writeL, Option.bind_eq_bind, Option.bind_eq_some_iff, Option.pure_def, Option.some.injEq] at he
    obtain ⟨a, ha, b, hb, rfl⟩ := he
    simp only [List.append_assoc, decodeL, rt_writeF f v hw.1 a ha (b ++ rest), rt_writeL fs vs hw.2 b hb rest, Option.map_some,
      normL]

theorem rowOfKind_some (k : String) (row : KindRow) (h : rowOfKind k = some row) : row ∈ tezosOps ∧ row.kind = k :=
  find?_row h

theorem rowOfTag_tag : ∀ row ∈ tezosOps, rowOfTag row.tag = some row := by decide +kernel

theorem rt_writeContent (c : Content) (hw : WFContent c = true) (bs : Bytes) (he : writeContent c = some bs) (rest : Bytes) :
    decodeContent (bs ++ rest) = some (normContent c, rest) ∧ 0 < bs.length := by
  unfold WFContent at hw
  unfold writeContent at he
  unfold normContent
  split at hw
  · cases hw
  · rename_i row hr
    simp only [hr] at he ⊢
    obtain ⟨body, hb, rfl⟩ := Option.map_eq_some_iff.mp he
    simp [decodeContent, rowOfTag_tag row (rowOfKind_some _ _ hr).1, rt_writeL row.layout c.fields hw body hb rest,
      (rowOfKind_some _ _ hr).2]

/-- the fuel that is needed is the length of the buffer: every content takes its tag byte of it at least -/
theorem rt_writeContents :
    ∀ (cs : List Content), (∀ c ∈ cs, WFContent c = true) → ∀ bs, writeContents cs = some bs →
      ∀ fuel, bs.length ≤ fuel → decodeContents fuel bs = some (cs.map normContent)
  | [], _, bs, h, fuel, _ => by
    cases h
    unfold decodeContents
    simp
  | c :: cs, hw, bs, h, fuel, hf => by
    simp only [writeContents, Option.bind_eq_bind, Option.bind_eq_some_iff, Option.pure_def, Option.some.injEq] at h
    obtain ⟨a, ha, b, hb, rfl⟩ := h
    obtain ⟨hdec, hpos⟩ := rt_writeContent c (hw c (by simp)) a ha b
    simp only [List.length_append] at hf
    obtain ⟨f, rfl⟩ : ∃ f, fuel = f + 1 := ⟨fuel - 1, by omega⟩
    have hne : ¬ ((a ++ b).length = 0) := by simp only [List.length_append]; omega
    unfold decodeContents
    simp only [hne, if_false, hdec, rt_writeContents cs (fun c' hc' => hw c' (by simp [hc'])) b hb f (by omega), Option.map_some,
      List.map_cons]

theorem decodeGroup_writeGroup (g : Group) (hw : WFGroup g = true) (bs : Bytes) (he : writeGroup g = some bs) :
    decodeGroup bs = some (normGroup g) := by
  simp only [WFGroup, Bool.and_eq_true, beq_iff_eq, Bool.not_eq_true', List.isEmpty_eq_false_iff, List.all_eq_true] at hw
  obtain ⟨⟨hb, hne⟩, hall⟩ := hw
  obtain ⟨body, hbody, rfl⟩ := Option.map_eq_some_iff.mp he
  have hdec := rt_writeContents g.contents hall body hbody (g.branch ++ body).length (by simp)
  -- there is a first content, and it has its tag byte
  have hpos : 0 < body.length := by
    obtain ⟨c, cs, hcs⟩ := List.exists_cons_of_ne_nil hne
    simp only [hcs, writeContents, Option.bind_eq_bind, Option.bind_eq_some_iff, Option.pure_def, Option.some.injEq] at hbody
    obtain ⟨a, ha, b, _, rfl⟩ := hbody
    have := (rt_writeContent c (hall c (by simp [hcs])) a ha []).2
    simp only [List.length_append]
    omega
  have h1 : ¬ ((g.branch ++ body).length ≤ 32) := by simp only [List.length_append]; omega
  have h2 : (g.branch ++ body).drop 32 = body := by rw [← hb]; simp
  have h3 : (g.branch ++ body).take 32 = g.branch := by rw [← hb]; simp
  simp only [decodeGroup, h1, if_false, h2, h3, hdec, Option.map_some, normGroup]

end C06Proofs
