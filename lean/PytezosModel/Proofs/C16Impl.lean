import PytezosModel.Proofs.C16Num
/-! Helper lemmas for C16 about the instruction bodies.  Those that unfold the mirror over the *current* generated
tables (as do the `from_value` lemmas of `C16Num`) stop compiling when the source shape changes, which is what
re-opens the obligations. -/
namespace Impl.Arith
open Generated.C16 PyNum

theorem isSub_int (t : NTy) : isSub t.prim .int = true := by cases t <;> rfl

theorem wrap_fromValue_nat (n : Nat) : wrap (fromValue .nat (n : Int)) = .ok (.one (.num .nat n)) := by
  rw [fromValue_nat_of_nonneg _ (Int.natCast_nonneg n)]; rfl

theorem wrap_fromValue_mutez (v : Int) (h : 0 ≤ v) :
    wrap (fromValue .mutez v) = if v < 2 ^ 63 then .ok (.one (.num .mutez v)) else .error .overflow := by
  rw [fromValue_mutez_of_nonneg v h]
  split <;> rfl

/-- a statement about the four numeric classes is decided by trying them: the comparison of a dispatch table of
the source with a typing table of the reference is one evaluation -/
instance decForallNTy (p : NTy → Prop) [DecidablePred p] : Decidable (∀ t, p t) :=
  decidable_of_iff (p .int ∧ p .nat ∧ p .mutez ∧ p .timestamp)
    ⟨fun ⟨a, b, c, d⟩ t => by cases t <;> assumption, fun h => ⟨h _, h _, h _, h _⟩⟩

theorem dispatch_eq {α : Type} (table : Option (List (List Prim × α))) (key : List Prim) :
    dispatch table key =
      match table.bind (·.lookup key) with
      | some r => .ok r
      | none => .error (if table.isSome then .assertion else .unrecognised) := by
  cases table with
  | none => rfl
  | some rows => rfl

/-- The body ADD and MUL share (`Impl.Arith.arith`), with its test "the result class is a subclass of `int`" a
parameter: `arith` is the instance `isSub · .int` and `Impl.Arith.sub` the instance without a test, both by `rfl`
(which is how `C16.add_spec`, `sub_spec`, `mul_spec` apply `arith_spec`). -/
def arithWith (chk : Prim → Bool) (body : Bool) (table : Option (List (List Prim × List Prim))) (op : Int → Int → Int)
    (a b : Val) : Except Err Out :=
  if !known body then .error .unrecognised else
  match dispatch table [a.prim, b.prim] with
  | .error e => .error e
  | .ok [rt] =>
    if chk rt then
      match a, b with
      | .num _ x, .num _ y => wrap (fromValue rt (op x y))
      | _, _ => .error .unrecognised
    else .error .unrecognised
  | .ok _ => .error .unrecognised

/-- ADD, SUB and MUL against a typing table `ty` that has the rows of the source's table: the exact value in the
result type.  When an operand is not a number no branch builds a value, whatever the table says. -/
theorem arith_spec (chk : Prim → Bool) (hchk : ∀ t : NTy, chk t.prim = true) (body : Bool) (hb : known body = true)
    (table : Option (List (List Prim × List Prim))) (op : Int → Int → Int) (ty : NTy → NTy → Option NTy)
    (htab : ∀ ta tb, table.bind (·.lookup [ta.prim, tb.prim]) = (ty ta tb).map fun t => [t.prim]) (a b : Val) :
    (arithWith chk body table op a b).toOption = Spec.Arith.binNum ty op a b := by
  unfold arithWith
  simp only [hb, Bool.not_true, Bool.false_eq_true, if_false]
  rcases a with ⟨ta, x⟩ | bs | p <;> rcases b with ⟨tb, y⟩ | bs' | q
  · show _ = match ty ta tb with | some t => (Spec.Arith.mk t (op x y)).map Out.one | none => none
    rw [show [(Val.num ta x).prim, (Val.num tb y).prim] = [ta.prim, tb.prim] from rfl, dispatch_eq, htab]
    cases ty ta tb with
    | none => rfl
    | some t => simp only [Option.map_some, hchk, if_true]; exact wrap_fromValue_spec t _
  all_goals
    show _ = none
    split
    · rfl
    · split <;> rfl
    · rfl

/-- OR and XOR share `boolAddTable`: on booleans the boolean operation `fb`, on naturals the `Nat` operation `g` with which
Python's `fi` agrees on non-negative operands, on anything else the dispatch assertion -/
theorem boolAdd_spec (body : Bool) (hb : known body = true) (fi : Int → Int → Int) (fb : Bool → Bool → Bool)
    (g : Nat → Nat → Nat) (hg : ∀ x y, 0 ≤ x → 0 ≤ y → fi x y = ((g x.toNat y.toNat : Nat) : Int))
    (a b : Val) (ha : a.WF) (hb' : b.WF) :
    match a, b with
    | .bool p, .bool q => boolBin body boolAddTable fi fb a b = .ok (.one (.bool (fb p q)))
    | .num .nat x, .num .nat y => boolBin body boolAddTable fi fb a b = .ok (.one (.num .nat (g x.toNat y.toNat)))
    | _, _ => boolBin body boolAddTable fi fb a b = .error .assertion := by
  unfold boolBin
  simp only [hb, Bool.not_true, Bool.false_eq_true, if_false]
  rcases a with ⟨_ | _ | _ | _, x⟩ | bs | p <;> rcases b with ⟨_ | _ | _ | _, y⟩ | bs' | q
  case num.nat.num.nat =>
    show wrap (fromValue .nat (fi x y)) = _
    rw [hg x y ha hb']; exact wrap_fromValue_nat _
  all_goals rfl

theorem subMutez_mutez (x y : Int) :
    subMutez (.num .mutez x) (.num .mutez y) =
      if x < y then .ok (.none1 .mutez) else
        match fromValue .mutez (x - y) with
        | .ok v => .ok (.some1 v)
        | .error e => .error e := rfl

theorem abs_eq_natAbs (x : Int) : PyNum.abs x = (x.natAbs : Int) := by
  unfold PyNum.abs
  split <;> omega

theorem shift_unfold (body : Bool) (hb : known body = true) (sh : Int → Nat → Int) (x y : Int) :
    executeShift body sh (.num .nat x) (.num .nat y) =
      if ¬ (y < 257) then .error .assertion else wrap (fromValue .nat (sh x y.toNat)) := by
  unfold executeShift
  simp only [hb]
  rfl

/-- LSL and LSR on all operands: only two naturals pass the two `assert_type_equal` -/
theorem executeShift_spec (body : Bool) (hb : known body = true) (sh : Int → Nat → Int) (a b : Val) :
    (executeShift body sh a b).toOption =
      match a, b with
      | .num .nat x, .num .nat y => if y ≤ 256 then (Spec.Arith.mk .nat (sh x y.toNat)).map .one else none
      | _, _ => none := by
  obtain rfl : body = true := (Bool.and_eq_true_iff.1 hb).1
  rcases a with ⟨_ | _ | _ | _, x⟩ | bs | p <;> rcases b with ⟨_ | _ | _ | _, y⟩ | bs' | q
  case num.nat.num.nat =>
    show _ = if y ≤ 256 then _ else _
    rw [shift_unfold true hb]
    by_cases h : y ≤ 256
    · rw [if_neg (by omega), if_pos h]; exact wrap_fromValue_spec .nat _
    · rw [if_pos (by omega), if_neg h]; rfl
  all_goals rfl

theorem executeShift_nat (body : Bool) (hb : known body = true) (sh : Int → Nat → Int) (a s r : Nat)
    (hr : sh a s = r) :
    executeShift body sh (.num .nat a) (.num .nat s) =
      if s ≤ 256 then .ok (.one (.num .nat r)) else .error .assertion := by
  rw [shift_unfold body hb, Int.toNat_natCast, hr, wrap_fromValue_nat]
  by_cases h : s ≤ 256
  · rw [if_neg (by omega), if_pos h]
  · rw [if_pos (by omega), if_neg h]

theorem shr_eq (x : Int) (s : Nat) : PyNum.shr x s = x / 2 ^ s :=
  Int.fdiv_eq_ediv_of_nonneg _ (Int.le_of_lt (Int.pow_pos (by omega)))

/-- length BYTES uses for an int -/
def intLen (z : Int) : Nat := if z ≠ 0 then signedLen z else 0

theorem intLen_range (z : Int) : -(2 ^ (8 * intLen z - 1) : Int) ≤ z ∧ z < 2 ^ (8 * intLen z - 1) := by
  unfold intLen
  by_cases h : z = 0
  · subst h; simp
  · simp only [h, ne_eq, not_false_eq_true, if_true]; exact signedLen_range z

theorem toBytes_int (z : Int) : PyNum.toBytes z (intLen z) true = some (toBytesBE (intLen z) (z % 256 ^ intLen z).toNat) := by
  unfold PyNum.toBytes
  simp only [if_true, intLen_range z, and_self]

theorem bytes_int_eq (z : Int) :
    Impl.Arith.bytes (.num .int z) = .ok (.one (.bytes (toBytesBE (intLen z) (z % 256 ^ intLen z).toNat))) := by
  -- `bytes` at the generated `bytesShape` (`signedUnlessNatExactLength`): `int` is not a subclass of `nat`, so signed
  show (match (match PyNum.toBytes z (intLen z) true with
        | some bs => Except.ok bs
        | none => Except.error Err.overflow) with
        | .ok bs => Except.ok (Out.one (Val.bytes bs))
        | .error e => .error e) = _
  rw [toBytes_int]

theorem intLen_pos (z : Int) (h : z ≠ 0) : 0 < intLen z := by
  unfold intLen signedLen; simp only [h, ne_eq, not_false_eq_true, if_true]; omega

theorem fromBytes_int (z : Int) : PyNum.fromBytes (toBytesBE (intLen z) (z % 256 ^ intLen z).toNat) true = z := by
  by_cases h : z = 0
  · subst h; rfl
  · exact fromBytes_toBytes_signed z (intLen z) _ (intLen_pos z h) (toBytes_int z)

theorem toBytes_nat (z : Int) (h : 0 ≤ z) :
    PyNum.toBytes z (unsignedLen z) false = some (toBytesBE (unsignedLen z) z.toNat) := by
  unfold PyNum.toBytes
  simp [h, unsignedLen_range z h]

theorem bytes_nat_eq (z : Int) (h : 0 ≤ z) :
    Impl.Arith.bytes (.num .nat z) = .ok (.one (.bytes (toBytesBE (unsignedLen z) z.toNat))) := by
  show (match (match PyNum.toBytes z (unsignedLen z) false with
        | some bs => Except.ok bs
        | none => Except.error Err.overflow) with
        | .ok bs => Except.ok (Out.one (Val.bytes bs))
        | .error e => .error e) = _
  rw [toBytes_nat z h]

theorem nat_fits (z : Int) (h : 0 ≤ z) : z.toNat < 256 ^ unsignedLen z := by
  have := unsignedLen_range z h
  rw [← cast_pow256] at this
  omega

end Impl.Arith
