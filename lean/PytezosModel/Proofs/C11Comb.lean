import PytezosModel.Proofs.C11RoundTrip
/-! C11 — combs of every length: the renderer produces exactly the reference layout in each mode, and values of
"plain" types need no side condition on the call. -/
namespace Impl.Value
open VC Core Spec.Value

theorem flattens_comb (a b : Val) (rest : List Val) : flattens (combVal false a b rest) = true := by
  cases rest <;> simp [combVal, flattens]

/-- **Impl = Spec for combs**: `to_micheline_value` of the right comb of `a, b, rest…` is the reference layout of the
rendered components, and its `iter_comb` rendering is the flat list — for every length and each of the three modes -/
theorem render_comb (env : Env) (mode : Mode) (lz : Option Bool) :
    ∀ (rest : List Val) (named : Bool) (a b : Val), lastNotFlat b rest = true →
      render env mode lz (combVal named a b rest) =
        (combLayout mode (render env mode lz a).1 (render env mode lz b).1 (rest.map fun x => (render env mode lz x).1),
          (render env mode lz a).1 :: (render env mode lz b).1 :: (rest.map fun x => (render env mode lz x).1)) := by
  intro rest
  induction rest with
  | nil =>
    intro named a b h
    simp only [lastNotFlat, Bool.not_eq_true'] at h
    rw [combVal, render_pair]
    simp only [h, Bool.false_eq_true, if_false, List.map_nil]
    cases mode <;> simp [pairNode, combLayout, nestR]
  | cons c rest ih =>
    intro named a b h
    simp only [lastNotFlat] at h
    rw [combVal, render_pair, ih false b c h]
    simp only [flattens_comb, if_true, List.map_cons]
    cases mode with
    | readable => simp [pairNode, combLayout]
    | legacyOptimized => simp [pairNode, combLayout, nestR]
    | optimized => cases rest <;> simp [pairNode, combLayout]

/-- `faithful` constrains signatures, big_maps and sapling states only -/
theorem faithful_of_plain {env : Env} (mode : Mode) {τ : Ty} {v : Val} (h : Typed env τ v) :
    plainTy τ = true → ∀ lz, faithful mode lz τ v = true := by
  induction h
  case dom k _ _ _ => exact fun hp _ => by cases k <;> first | rfl | cases hp
  case bytes h => rcases h with rfl | rfl | rfl | rfl | rfl <;> exact fun _ _ => rfl
  case bigMap | sapling => exact nofun
  case some ih | ticket ih => exact fun hp _ => ih hp _
  all_goals
    intro hp lz
    -- a value without components falls through to the last clause of `faithful`
    first | rfl | simp only [plainTy, Bool.and_eq_true] at hp
  case left ih => exact ih hp.1 lz
  case right ih => exact ih hp.2 lz
  case pair ihl ihr => exact Bool.and_eq_true_iff.2 ⟨ihl hp.1 lz, ihr hp.2 lz⟩
  case list ih | set ih => exact List.all_eq_true.2 fun x hx => ih x hx hp lz
  case map ihk ihv =>
    exact List.all_eq_true.2 fun kv hkv => Bool.and_eq_true_iff.2 ⟨ihk kv hkv hp.1 lz, ihv kv hkv hp.2 lz⟩

end Impl.Value
