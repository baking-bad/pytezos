import PytezosModel.Proofs.Base58
import PytezosModel.Crypto.Encoding
import PytezosModel.Proofs.Lists
/-! Lemmas about the mirror of `crypto/encoding.py` over an arbitrary table: what `rowOk` buys (length and
human prefix of every encoding of the row), the encode → decode round trip, and soundness of decode.
The closed facts about a table are hypotheses throughout; they are evaluated where a table is at hand (`EncodingTable`,
`Props/C09`, `KeyToy`; one row at a time through `HashText.rowFacts`). -/
namespace Impl.Encoding
open Base58

def IsBytes (bs : List Nat) : Prop := ∀ b ∈ bs, b < 256

theorem IsBytes.append {xs ys : List Nat} (hx : IsBytes xs) (hy : IsBytes ys) : IsBytes (xs ++ ys) := by
  intro b hb
  rcases List.mem_append.mp hb with h | h
  · exact hx b h
  · exact hy b h

/-- what the theorems assume about the checksum function: four bytes -/
structure CksOk (cks : List Nat → List Nat) : Prop where
  len : ∀ v, (cks v).length = 4
  bytes : ∀ v, IsBytes (cks v)

/-- the stand-in checksums of the examples: one byte that depends on the input, three fixed bytes -/
theorem CksOk.of_length_mod (a b c : Nat) (ha : a < 256) (hb : b < 256) (hc : c < 256) :
    CksOk fun v => [v.length % 256, a, b, c] :=
  ⟨fun _ => rfl, fun v x hx => by
    simp only [List.mem_cons, List.not_mem_nil, or_false] at hx
    rcases hx with h | h | h | h <;> omega⟩

theorem rstrip_prefix (s : List Nat) : rstrip s <+: s := by
  induction s with
  | nil => simp [rstrip]
  | cons c cs ih =>
    simp only [rstrip]
    split
    · split
      · exact List.nil_prefix
      · exact List.prefix_iff_eq_append.mpr (by simp)
    next r hr => exact (List.cons_prefix_cons).mpr ⟨rfl, ih⟩

theorem rstrip_of_no_space (s : List Nat) (h : ∀ c ∈ s, isSpace c = false) : rstrip s = s := by
  induction s with
  | nil => rfl
  | cons c cs ih =>
    rw [rstrip, ih fun x hx => h x (List.mem_cons_of_mem c hx)]
    cases cs with
    | nil => simp [h c (by simp)]
    | cons x xs => rfl

theorem rstrip_b58enc (bs : List Nat) : rstrip (b58enc bs) = b58enc bs :=
  rstrip_of_no_space _ fun c hc => by
    have := b58enc_range bs c hc
    simp [isSpace]
    omega

theorem rowOk_spec (r : Row) (hr : rowOk r = true) :
    ∃ d ds b bs, charsDigits r.human = some (d :: ds) ∧ d ≠ 0 ∧ r.bin = b :: bs ∧ b ≠ 0 ∧ IsBytes r.bin ∧
      r.human.length ≤ r.encLen ∧
      ofDigits 58 (d :: ds) * 58 ^ (r.encLen - r.human.length) ≤ ofDigits 256 r.bin * 256 ^ (r.dataLen + 4) ∧
      (ofDigits 256 r.bin + 1) * 256 ^ (r.dataLen + 4) ≤
        (ofDigits 58 (d :: ds) + 1) * 58 ^ (r.encLen - r.human.length) := by
  unfold rowOk at hr
  split at hr
  · cases hr
  next hd hhd =>
    simp only [Bool.and_eq_true, decide_eq_true_eq, List.all_eq_true] at hr
    obtain ⟨⟨⟨⟨⟨hlen, hhead⟩, hbhead⟩, hbytes⟩, hlo⟩, hhi⟩ := hr
    cases hd with
    | nil => cases hhead
    | cons d ds =>
      cases hb : r.bin with
      | nil => rw [hb] at hbhead; cases hbhead
      | cons b bs =>
        rw [hb] at hbhead
        exact ⟨d, ds, b, bs, hhd, of_decide_eq_true hhead, rfl, of_decide_eq_true hbhead, hb ▸ hbytes, hlen,
          hb ▸ hlo, hb ▸ hhi⟩

section Row
variable (r : Row) (hr : rowOk r = true)
include hr

theorem rowOk_bin_bytes : IsBytes r.bin := by
  obtain ⟨_, _, _, _, _, _, _, _, h, _⟩ := rowOk_spec r hr
  exact h

theorem rowOk_enc (payload c : List Nat) (hp : payload.length = r.dataLen) (hpb : IsBytes payload)
    (hc : c.length = 4) (hcb : IsBytes c) :
    (b58enc (r.bin ++ payload ++ c)).length = r.encLen ∧ r.human <+: b58enc (r.bin ++ payload ++ c) := by
  obtain ⟨d, ds, b, bs, hhd, hd0, hbin, hb0, _, hlen, hlo, hhi⟩ := rowOk_spec r hr
  obtain ⟨hdlt, hdmap⟩ := charsDigits_some _ _ hhd
  have hh := ofDigits_cons_pos 58 d ds (by omega) hd0
  have henc0 := b58enc_of_head_ne (r.bin ++ payload ++ c) (by rw [hbin]; simpa using hb0)
  -- the numeral lies in the interval of `bin`, hence in the interval of the human prefix
  have hrest : ofDigits 256 (payload ++ c) < 256 ^ (r.dataLen + 4) := by
    have := ofDigits_lt_pow 256 (payload ++ c) (hpb.append hcb)
    simpa [hp, hc] using this
  have hN : ofDigits 256 (r.bin ++ payload ++ c) =
      ofDigits 256 r.bin * 256 ^ (r.dataLen + 4) + ofDigits 256 (payload ++ c) := by
    rw [List.append_assoc, ofDigits_append]; simp [hp, hc]
  have hhi' : ofDigits 256 (r.bin ++ payload ++ c) <
      (ofDigits 58 (d :: ds) + 1) * 58 ^ (r.encLen - r.human.length) := by
    rw [Nat.add_mul] at hhi; omega
  obtain ⟨tl, htl, hdig⟩ := toDigits_range 58 (by omega) _ _ _ hh (by omega) hhi'
  rw [toDigits_ofDigits 58 (by omega) _ hdlt (by simpa using hd0)] at hdig
  have henc : b58enc (r.bin ++ payload ++ c) = r.human ++ tl.map digitChar := by
    rw [henc0, hdig, List.map_append, hdmap]
  refine ⟨?_, henc ▸ List.prefix_append _ _⟩
  have : r.human.length = (d :: ds).length := by rw [← hdmap, List.length_map]
  rw [henc, List.length_append, List.length_map, htl]; omega

end Row

theorem findDecodeRow_some (tbl : List Row) (s : List Nat) (r : Row) (h : findDecodeRow tbl s = some r) :
    r ∈ tbl ∧ s.length = r.encLen ∧ r.human <+: s := by
  unfold findDecodeRow at h
  have h2 := List.find?_some h
  simp only [Bool.and_eq_true, beq_iff_eq, List.isPrefixOf_iff_prefix] at h2
  exact ⟨List.mem_of_find?_eq_some h, h2.1, h2.2⟩

theorem findEncodeRow_some (tbl : List Row) (n : Nat) (p : List Nat) (r : Row)
    (h : findEncodeRow tbl n p = some r) : r ∈ tbl ∧ n = r.dataLen ∧ p = r.human := by
  unfold findEncodeRow at h
  have h2 := List.find?_some h
  simp only [Bool.and_eq_true, beq_iff_eq] at h2
  exact ⟨List.mem_of_find?_eq_some h, h2.1, h2.2⟩

theorem row_eq_of_match {r r' : Row} (hd : rowsDisjoint r r' = true) {s : List Nat}
    (hl : s.length = r.encLen) (hp : r.human <+: s) (hl' : s.length = r'.encLen) (hp' : r'.human <+: s) :
    r = r' := by
  unfold rowsDisjoint at hd
  simp only [Bool.or_eq_true, Bool.not_eq_true', Bool.and_eq_false_iff, beq_eq_false_iff_ne,
    Bool.or_eq_false_iff, beq_iff_eq] at hd
  rcases hd with (hne | ⟨h1, h2⟩) | heq
  · exact absurd (hl.symm.trans hl') hne
  · rcases List.prefix_or_prefix_of_prefix hp hp' with h | h
    · rw [List.isPrefixOf_iff_prefix.mpr h] at h1; cases h1
    · rw [List.isPrefixOf_iff_prefix.mpr h] at h2; cases h2
  · exact heq

theorem findDecodeRow_unique (tbl : List Row) (r : Row) (hr : r ∈ tbl)
    (hdis : ∀ b ∈ tbl, rowsDisjoint r b = true)
    (s : List Nat) (hl : s.length = r.encLen) (hp : r.human <+: s) : findDecodeRow tbl s = some r :=
  List.find?_unique hr (by simp [hl, List.isPrefixOf_iff_prefix, hp]) fun b hb hpb => by
    simp only [Bool.and_eq_true, beq_iff_eq, List.isPrefixOf_iff_prefix] at hpb
    exact (row_eq_of_match (hdis b hb) hl hp hpb.1 hpb.2).symm

theorem findEncodeRow_unique (tbl : List Row)
    (hdis : ∀ a ∈ tbl, ∀ b ∈ tbl, rowsEncodeDistinct a b = true)
    (r : Row) (hr : r ∈ tbl) : findEncodeRow tbl r.dataLen r.human = some r :=
  List.find?_unique hr (by simp) fun b hb hpb => by
    have hd := hdis r hr b hb
    simp only [rowsEncodeDistinct, Bool.and_eq_true, beq_iff_eq] at hpb hd
    exact (by simpa [hpb.1, hpb.2] using hd : r = b).symm

/-- the two facts about all pairs of rows, as one pass over the table -/
def pairsOk (tbl : List Row) : Bool :=
  tbl.all fun a => tbl.all fun b => rowsDisjoint a b && rowsEncodeDistinct a b

theorem pairsOk_spec {tbl : List Row} (h : pairsOk tbl = true) :
    (∀ a ∈ tbl, ∀ b ∈ tbl, rowsDisjoint a b = true) ∧ ∀ a ∈ tbl, ∀ b ∈ tbl, rowsEncodeDistinct a b = true := by
  simp only [pairsOk, List.all_eq_true, Bool.and_eq_true] at h
  exact ⟨fun a ha b hb => (h a ha b hb).1, fun a ha b hb => (h a ha b hb).2⟩

theorem b58decCheck_b58enc (cks : List Nat → List Nat) (body c : List Nat) (hb : IsBytes body) (hcb : IsBytes c)
    (hc : c.length = 4) :
    b58decCheck cks (b58enc (body ++ c)) = if c = cks body then .ok body else .error .invalidChecksum := by
  unfold b58decCheck
  rw [rstrip_b58enc, b58dec_b58enc _ (hb.append hcb)]
  simp [hc]

theorem b58decCheck_enc (cks : List Nat → List Nat) (hck : CksOk cks) (v : List Nat) (hv : IsBytes v) :
    b58decCheck cks (b58encCheck cks v) = .ok v := by
  rw [b58encCheck, b58decCheck_b58enc cks v _ hv (hck.bytes v) (hck.len v), if_pos rfl]

theorem b58decCheck_ok (cks : List Nat → List Nat) (s data : List Nat) (h : b58decCheck cks s = .ok data) :
    IsBytes data ∧ rstrip s = b58enc (data ++ cks data) := by
  unfold b58decCheck at h
  split at h
  · simp at h
  next rbytes hdec =>
    simp only at h
    split at h
    next hchk =>
      simp at h
      have hsplit : rbytes = data ++ cks data := by
        rw [← h, ← hchk, List.take_append_drop]
      rw [← b58enc_of_b58dec _ _ hdec, ← hsplit]
      exact ⟨fun b hb => b58dec_bytes _ _ hdec b (hsplit ▸ List.mem_append_left _ hb), rfl⟩
    · simp at h

/-- the canonical encoding of payload `v` for row `r` -/
def encOf (cks : List Nat → List Nat) (r : Row) (v : List Nat) : List Nat := b58encCheck cks (r.bin ++ v)

section Table
variable (tbl : List Row) (cks : List Nat → List Nat) (hck : CksOk cks)
  (hok : ∀ r ∈ tbl, rowOk r = true)
  (hdis : ∀ a ∈ tbl, ∀ b ∈ tbl, rowsDisjoint a b = true)
  (hed : ∀ a ∈ tbl, ∀ b ∈ tbl, rowsEncodeDistinct a b = true)

include hck in
theorem encOf_shape (r : Row) (hrow : rowOk r = true) (v : List Nat) (hl : v.length = r.dataLen) (hv : IsBytes v) :
    (encOf cks r v).length = r.encLen ∧ r.human <+: encOf cks r v ∧
      b58decCheck cks (encOf cks r v) = .ok (r.bin ++ v) := by
  obtain ⟨h1, h2⟩ := rowOk_enc r hrow v (cks (r.bin ++ v)) hl hv (hck.len _) (hck.bytes _)
  exact ⟨h1, h2, b58decCheck_enc cks hck (r.bin ++ v) ((rowOk_bin_bytes r hrow).append hv)⟩

theorem encodeWith_ok_iff (v p s : List Nat) :
    encodeWith tbl cks v p = .ok s ↔ ∃ r, findEncodeRow tbl v.length p = some r ∧ s = encOf cks r v := by
  unfold encodeWith
  split
  next h => simp [h]
  next r h => simp [h, encOf, eq_comm]

include hed in
theorem encodeWith_row (r : Row) (hr : r ∈ tbl) (v : List Nat) (hl : v.length = r.dataLen) :
    encodeWith tbl cks v r.human = .ok (encOf cks r v) :=
  (encodeWith_ok_iff tbl cks v r.human _).mpr ⟨r, hl ▸ findEncodeRow_unique tbl hed r hr, rfl⟩

include hck in
theorem decodeWith_enc (chkBin chkLen : Bool) (r : Row) (hr : r ∈ tbl)
    (hdr : ∀ b ∈ tbl, rowsDisjoint r b = true) (hrow : rowOk r = true) (v : List Nat)
    (hl : v.length = r.dataLen) (hv : IsBytes v) :
    decodeWith tbl chkBin chkLen cks (encOf cks r v) = .ok v := by
  obtain ⟨h1, h2, h3⟩ := encOf_shape cks hck r hrow v hl hv
  unfold decodeWith
  rw [findDecodeRow_unique tbl r hr hdr _ h1 h2, h3]
  simp [hl]

include hck hok in
theorem decodeWith_sound (s v : List Nat) (h : decodeWith tbl true true cks s = .ok v) :
    ∃ r ∈ tbl, v.length = r.dataLen ∧ IsBytes v ∧ s = encOf cks r v := by
  unfold decodeWith at h
  split at h
  · simp at h
  next r hfind =>
    obtain ⟨hr, hlen, hpre⟩ := findDecodeRow_some tbl s r hfind
    split at h
    · simp at h
    · simp at h
    next data hdec =>
      obtain ⟨hdb, hrs⟩ := b58decCheck_ok cks s data hdec
      split at h
      · simp at h
      next hcond =>
        simp only [Bool.true_and, Bool.or_eq_true, Bool.not_eq_true', not_or, Bool.not_eq_false,
          beq_iff_eq, List.isPrefixOf_iff_prefix] at hcond
        obtain ⟨⟨t, ht⟩, hdl⟩ := hcond
        simp at h
        have hv : v = t := by rw [← h, ← ht]; simp
        subst hv
        have hvl : v.length = r.dataLen := by rw [← ht] at hdl; simp at hdl; exact hdl
        have hvb : IsBytes v := fun b hb => hdb b (by rw [← ht]; exact List.mem_append_right _ hb)
        obtain ⟨h1, _, _⟩ := encOf_shape cks hck r (hok r hr) v hvl hvb
        -- `rstrip s` is the canonical encoding, of full length, so nothing was stripped
        have hrs' : rstrip s = encOf cks r v := by rw [hrs, ← ht]; rfl
        have hs : rstrip s = s := (rstrip_prefix s).eq_of_length (by rw [hrs', h1, hlen])
        exact ⟨r, hr, hvl, hvb, by rw [← hs, hrs']⟩

include hck hok hdis in
theorem encOf_inj (r r' : Row) (hr : r ∈ tbl) (hr' : r' ∈ tbl) (v v' : List Nat)
    (hl : v.length = r.dataLen) (hv : IsBytes v) (hl' : v'.length = r'.dataLen) (hv' : IsBytes v')
    (h : encOf cks r v = encOf cks r' v') : r = r' ∧ v = v' := by
  obtain ⟨h1, h2, _⟩ := encOf_shape cks hck r (hok r hr) v hl hv
  obtain ⟨h1', h2', _⟩ := encOf_shape cks hck r' (hok r' hr') v' hl' hv'
  rw [← h] at h1' h2'
  have hrr : r = r' := row_eq_of_match (hdis r hr r' hr') h1 h2 h1' h2'
  subst hrr
  refine ⟨rfl, ?_⟩
  have hbin := rowOk_bin_bytes r (hok r hr)
  unfold encOf b58encCheck at h
  have := b58enc_injective _ _ ((hbin.append hv).append (hck.bytes _)) ((hbin.append hv').append (hck.bytes _)) h
  exact List.append_cancel_left (List.append_inj this (by simp [hl, hl'])).1

include hck hok hdis in
theorem validateWith_iff (prefixes : List (List Nat)) (s : List Nat) :
    validateWith tbl true true true cks prefixes s = .ok () ↔
      ∃ r ∈ tbl, r.human ∈ prefixes ∧ ∃ v, v.length = r.dataLen ∧ IsBytes v ∧ s = encOf cks r v := by
  unfold validateWith
  simp only [if_true]
  constructor
  · intro h
    split at h
    next hhit =>
      simp only [List.any_eq_true, Bool.and_eq_true, List.contains_iff_mem, beq_iff_eq,
        List.isPrefixOf_iff_prefix] at hhit
      obtain ⟨r, hr, hmem, hlen, hpre⟩ := hhit
      split at h
      next v hdec =>
        obtain ⟨r', hr', hvl, hvb, hs⟩ := decodeWith_sound tbl cks hck hok s v hdec
        obtain ⟨h1, h2, _⟩ := encOf_shape cks hck r' (hok r' hr') v hvl hvb
        rw [← hs] at h1 h2
        have hrr : r = r' := row_eq_of_match (hdis r hr r' hr') hlen hpre h1 h2
        subst hrr
        exact ⟨r, hr, hmem, v, hvl, hvb, hs⟩
      · simp at h
    · simp at h
  · rintro ⟨r, hr, hmem, v, hvl, hvb, hs⟩
    obtain ⟨h1, h2, _⟩ := encOf_shape cks hck r (hok r hr) v hvl hvb
    have hhit : (tbl.any fun r => prefixes.contains r.human && (s.length == r.encLen && r.human.isPrefixOf s)) = true := by
      simp only [List.any_eq_true, Bool.and_eq_true, List.contains_iff_mem, beq_iff_eq,
        List.isPrefixOf_iff_prefix]
      exact ⟨r, hr, hmem, by rw [hs]; exact h1, by rw [hs]; exact h2⟩
    rw [hhit, hs, decodeWith_enc tbl cks hck true true r hr (hdis r hr) (hok r hr) v hvl hvb]
    simp

end Table

end Impl.Encoding
