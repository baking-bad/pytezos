import PytezosModel.Client.OpSign
/-! The watermark of `OperationGroup.sign` for groups whose kinds the pass table knows (Props/C23). -/
namespace Impl.OpSign
open Impl.Key

theorem anyOtherPass_eq (p : Int) (ks : List String) (hknown : ∀ k ∈ ks, ∃ q, pass k = some q) :
    anyOtherPass p ks = .ok (ks.any fun k => pass k != some p) := by
  induction ks with
  | nil => rfl
  | cons k ks ih =>
    obtain ⟨q, hq⟩ := hknown k (by simp)
    simp only [anyOtherPass, hq, List.any_cons, ih fun k' hk' => hknown k' (by simp [hk'])]
    by_cases hqp : q = p <;> simp [hqp]

theorem watermark_known (C : Codec) (g : Group) (k0 : String) (ks : List String) (hk : g.kinds = k0 :: ks)
    (hknown : ∀ k ∈ g.kinds, ∃ q, pass k = some q) (p0 : Int) (h0 : pass k0 = some p0) :
    watermark C g =
      if g.kinds.any (fun k => pass k != some p0) then .error (.valueError .mixedPasses)
      else if p0 = 0 then
        match g.chainId with
        | none => .error (.valueError .chainUndefined)
        | some cid =>
          match C.decode cid with
          | none => .error (.valueError .codec)
          | some raw => .ok (2 :: raw)
      else .ok [3] := by
  have hvp : ∃ t, Generated.C23.validationPasses = some t := ⟨_, rfl⟩
  obtain ⟨t, ht⟩ := hvp
  have hw : Generated.C23.signWatermarks = some (2, 3) := rfl
  have hany := anyOtherPass_eq p0 g.kinds hknown
  unfold watermark
  rw [ht, hw]
  rw [hk] at hany ⊢
  simp only [h0, hany]
  cases ((k0 :: ks).any fun k => pass k != some p0) <;> rfl

end Impl.OpSign
