import PytezosModel.Proofs.C31
import PytezosModel.Proofs.HashText
import PytezosModel.Client.MerkleText
/-! For the string-level (`Impl.MerkleText`) corollaries of C31: every Merkle root is a value of the hash
function (so it has the digest length), and the `list(map(operation_list_hash, …))` / `list(map(base58_decode, …))`
pair of `operation_list_list_hash` gives the roots of the inner lists back. -/
namespace Proofs.C31
open Impl.Merkle Spec.Merkle Impl.MerkleText Impl.Encoding HashText

theorem node_is_hash (H : Bytes → Bytes) (L : List Bytes) (hL : L ≠ []) (hh : ∀ x ∈ L, ∃ y, x = H y) (j i : Nat) :
    ∃ y, node H (leafOf L) j i = H y := by
  cases j with
  | zero =>
    have hpos : 0 < L.length := List.length_pos_iff.mpr hL
    have hlt : min i (L.length - 1) < L.length := by omega
    simp only [node, leafOf, List.getD_eq_getElem?_getD, List.getElem?_eq_getElem hlt, Option.getD_some]
    exact hh _ (List.getElem_mem hlt)
  | succ j => exact ⟨_, rfl⟩

theorem merkle_hash (H : Bytes → Bytes) (xs : List Bytes) : ∃ y, merkle H xs = some (H y) := by
  unfold merkle
  split
  · exact ⟨[], rfl⟩
  next hne =>
    have hL : xs.map H ≠ [] := by simpa using hne
    obtain ⟨y, hy⟩ := node_is_hash H (xs.map H) hL (by
      intro x hx
      obtain ⟨a, _, rfl⟩ := List.mem_map.mp hx
      exact ⟨a, rfl⟩) (height (xs.map H).length) 0
    exact ⟨y, by rw [root_padPow2 H _ hL, hy]⟩

theorem chars_Lo : chars "Lo" = [76, 111] := by decide
theorem chars_LLo : chars "LLo" = [76, 76, 111] := by decide
theorem chars_vh : chars "vh" = [118, 104] := by decide

/-- the rows of the regenerated `base58_encodings` table under which the three results are written; their closed facts
(`rowFacts`, a kernel evaluation over the table) are hypotheses `hf` here and discharged in `Props/C31.lean` (`result_rows_ok`) -/
def loRow : Row := ⟨[76, 111], 52, [133, 233], 32⟩
def lloRow : Row := ⟨[76, 76, 111], 53, [29, 159, 109], 32⟩
def vhRow : Row := ⟨[118, 104], 52, [1, 106, 242], 32⟩

/-- every group of `operation_list_list_hash`'s argument decodes (`none` as soon as one item of one group does not) -/
def decodeGroups (cks : List Nat → List Nat) : List (List (List Nat)) → Option (List (List Bytes))
  | [] => some []
  | g :: gs =>
    match decodeAll cks g, decodeGroups cks gs with
    | .ok r, some rs => some (r :: rs)
    | _, _ => none

section
variable (cks : List Nat → List Nat) (hck : CksOk cks) (H : Bytes → Bytes) (hH : HashOk H)

include hck hH in
theorem root_text (r : Row) (hf : rowFacts r = true) (h32 : r.dataLen = 32) (raw : List Bytes) :
    ∃ root s, merkle H raw = some root ∧ base58Encode cks root r.human = .ok s ∧
      s.length = r.encLen ∧ r.human <+: s ∧ base58Decode cks s = .ok root := by
  obtain ⟨y, hroot⟩ := merkle_hash H raw
  obtain ⟨s, hs, hl, hp, hd⟩ := text_of_payload cks hck r hf (H y) (by rw [h32]; exact hH.len y) (hH.bytes y)
  exact ⟨H y, s, hroot, hs, hl, hp, hd⟩

include hck hH in
theorem opListHash_text (hf : rowFacts loRow = true) (ops : List (List Nat)) (raw : List Bytes)
    (hdec : decodeAll cks ops = .ok raw) :
    ∃ root s, merkle H raw = some root ∧ operationListHash cks H ops = .ok s ∧
      s.length = 52 ∧ [76, 111] <+: s ∧ base58Decode cks s = .ok root := by
  obtain ⟨root, s, hroot, hs, hl, hp, hd⟩ := root_text cks hck H hH loRow hf rfl raw
  refine ⟨root, s, hroot, ?_, hl, hp, hd⟩
  have hs' : base58Encode cks root [76, 111] = .ok s := hs
  have e2 : reduce H = merkle H := funext (reduce_eq H)
  simp [operationListHash, Generated.C31.opListPrefix, withPrefix, chars_Lo, hdec, reduceE, e2, hroot, liftB, hs']

include hck hH in
/-- `list(map(operation_list_hash, groups))` followed by `list(map(base58_decode, …))` yields the Merkle roots of the
decoded groups -/
theorem listHashes_spec (hf : rowFacts loRow = true) (opss : List (List (List Nat))) (rawss : List (List Bytes))
    (hdec : decodeGroups cks opss = some rawss) :
    ∃ los roots, listHashes cks H opss = .ok los ∧ decodeAll cks los = .ok roots ∧
      rawss.mapM (merkle H) = some roots := by
  induction opss generalizing rawss with
  | nil =>
    simp only [decodeGroups, Option.some.injEq] at hdec
    subst hdec
    exact ⟨[], [], rfl, rfl, rfl⟩
  | cons g gs ih =>
    simp only [decodeGroups] at hdec
    split at hdec
    next r rs hg hgs =>
      injection hdec with hdec
      subst hdec
      obtain ⟨los, roots, h1, h2, h3⟩ := ih rs hgs
      obtain ⟨root, s, hroot, hs, _, _, hd⟩ := opListHash_text cks hck H hH hf _ _ hg
      exact ⟨s :: los, root :: roots, by simp [listHashes, hs, h1], by simp [decodeAll, hd, h2],
        by simp [List.mapM_cons, hroot, h3]⟩
    · simp at hdec

end

end Proofs.C31
