import PytezosModel.Client.Retry
/-! The retry loop `Impl.Retry.loop` in closed form: it goes round while attempts are left and the response is retried
(`rounds`); requests issued, sleeps and outcome are functions of that number.  In the domain of the property the
retried responses are the transient server errors. -/
namespace Proofs.C26
open Impl.Retry

/-- the configuration the property speaks about; `b` = whether the trailing debug statement parses a 200 body -/
def specConfig (b : Bool) : Config :=
  ⟨6, 250, 2000, 500, [Spec.Retry.prevalidatorMarker], Spec.Retry.protoPrefix, Spec.Retry.temporary, b⟩

/-- the constants read from the source are the ones in the property statement -/
theorem config_eq : ∃ b, config = some (specConfig b) := ⟨_, rfl⟩

@[simp] theorem specConfig_protoPrefix (b : Bool) : (specConfig b).protoPrefix = Spec.Retry.protoPrefix := rfl
@[simp] theorem specConfig_temporaryKind (b : Bool) : (specConfig b).temporaryKind = Spec.Retry.temporary := rfl
@[simp] theorem specConfig_markers (b : Bool) : (specConfig b).markers = [Spec.Retry.prevalidatorMarker] := rfl
@[simp] theorem specConfig_attempts (b : Bool) : (specConfig b).attempts = 6 := rfl
@[simp] theorem specConfig_initialDelay (b : Bool) : (specConfig b).initialDelay = 250 := rfl
@[simp] theorem specConfig_maxDelay (b : Bool) : (specConfig b).maxDelay = 2000 := rfl
@[simp] theorem specConfig_statusFloor (b : Bool) : (specConfig b).statusFloor = 500 := rfl
@[simp] theorem specConfig_okBodyParsed (b : Bool) : (specConfig b).okBodyParsed = b := rfl

theorem request_eq (rs : List Resp) : ∃ b, request rs = some (loop (specConfig b) 0 250 rs) := by
  obtain ⟨b, hb⟩ := config_eq
  exact ⟨b, by simp [request, hb, run]⟩

/-- the loop goes round again on `r` while attempts are left: a server error that the classifier calls transient -/
def retries (c : Config) (r : Resp) : Bool :=
  decide (c.statusFloor ≤ r.status) &&
    match isTransient c r with
    | .ok v => v
    | .error _ => false

/-- the outcome when the loop is left on `r`: the classifier's exception, else the statements after the loop -/
def leave (c : Config) (r : Resp) : Outcome :=
  if c.statusFloor ≤ r.status then
    match isTransient c r with
    | .error e => .crash e
    | .ok _ => finish c r
  else finish c r

theorem loop_cons (c : Config) (a d : Nat) (r : Resp) (rest : List Resp) :
    loop c a d (r :: rest) =
      if retries c r = true ∧ a < c.attempts - 1 then
        { loop c (a + 1) (min (d * 2) c.maxDelay) rest with
          sleeps := d :: (loop c (a + 1) (min (d * 2) c.maxDelay) rest).sleeps }
      else ⟨a + 1, [], leave c r⟩ := by
  by_cases hs : c.statusFloor ≤ r.status
  · cases ht : isTransient c r with
    | error e => simp [loop, retries, leave, hs, ht]
    | ok v => cases v <;> by_cases ha : a < c.attempts - 1 <;> simp [loop, retries, leave, hs, ht, ha]
  · simp [loop, retries, leave, hs]

/-- how often the loop goes round from iteration `a` on: while attempts are left and the response is retried -/
def rounds (c : Config) (a : Nat) (rs : List Resp) : Nat :=
  ((rs.take (c.attempts - 1 - a)).takeWhile (retries c)).length

/-- `n` successive values of the variable `delay`, from `d` on -/
def delays (c : Config) : Nat → Nat → List Nat
  | _, 0 => []
  | d, n + 1 => d :: delays c (min (d * 2) c.maxDelay) n

/-- `rounds` follows the loop: one more round, or none -/
theorem rounds_cons (c : Config) (a : Nat) (r : Resp) (rest : List Resp) :
    rounds c a (r :: rest) = if retries c r = true ∧ a < c.attempts - 1 then rounds c (a + 1) rest + 1 else 0 := by
  unfold rounds
  by_cases ha : a < c.attempts - 1
  · rw [show c.attempts - 1 - a = (c.attempts - 1 - (a + 1)) + 1 by omega, List.take_succ_cons, List.takeWhile_cons]
    by_cases hr : retries c r = true
    · rw [if_pos hr, if_pos ⟨hr, ha⟩, List.length_cons]
    · rw [if_neg hr, if_neg fun h => hr h.1]; rfl
  · rw [show c.attempts - 1 - a = 0 by omega, if_neg fun h => ha h.2]; rfl

theorem loop_eq (c : Config) : ∀ (rs : List Resp) (a d : Nat),
    loop c a d rs = ⟨a + 1 + rounds c a rs, delays c d (rounds c a rs),
      match rs[rounds c a rs]? with
      | none => .exhausted
      | some r => leave c r⟩ := by
  intro rs
  induction rs with
  | nil => intro a d; simp [loop, rounds, delays]
  | cons r rest ih =>
    intro a d
    rw [loop_cons, rounds_cons]
    split
    · rw [ih]
      simp only [delays, List.getElem?_cons_succ, Nat.add_assoc, Nat.add_comm 1]
    · rfl

theorem rounds_le (c : Config) (a : Nat) (rs : List Resp) :
    rounds c a rs ≤ c.attempts - 1 - a ∧ rounds c a rs ≤ rs.length := by
  have := (List.takeWhile_sublist (retries c) (l := rs.take (c.attempts - 1 - a))).length_le
  rw [List.length_take] at this
  unfold rounds
  omega

theorem lt_takeWhile_length_iff {α : Type} (p : α → Bool) : ∀ (l : List α) (i : Nat) (hi : i < l.length),
    i ≤ (l.takeWhile p).length → (i < (l.takeWhile p).length ↔ p l[i] = true) := by
  intro l
  induction l with
  | nil => intro i hi; simp at hi
  | cons x xs ih =>
    intro i hi hle
    by_cases hx : p x = true
    · rw [List.takeWhile_cons, if_pos hx] at hle ⊢
      cases i with
      | zero => simp [hx]
      | succ j =>
        simp only [List.length_cons, Nat.add_lt_add_iff_right, List.getElem_cons_succ] at hle ⊢
        exact ih j (by simpa using hi) (by omega)
    · rw [List.takeWhile_cons, if_neg hx] at hle ⊢
      have : i = 0 := by simpa using hle
      subst this
      simp [hx]

theorem lt_rounds_iff (c : Config) (a : Nat) (rs : List Resp) (i : Nat) (hi : i < rs.length) (hle : i ≤ rounds c a rs) :
    i < rounds c a rs ↔ i < c.attempts - 1 - a ∧ retries c rs[i] = true := by
  by_cases hk : i < c.attempts - 1 - a
  · have hi' : i < (rs.take (c.attempts - 1 - a)).length := by rw [List.length_take]; omega
    have key := lt_takeWhile_length_iff (retries c) _ i hi' hle
    rw [List.getElem_take] at key
    exact key.trans (and_iff_right hk).symm
  · have := (rounds_le c a rs).1
    exact ⟨fun h => by omega, fun h => absurd h.1 hk⟩

theorem request_some {rs : List Resp} {t : Trace} (ht : request rs = some t) :
    ∃ b n, n = rounds (specConfig b) 0 rs ∧ t.issued = 1 + n ∧ t.sleeps = delays (specConfig b) 250 n ∧
      t.outcome = match rs[n]? with
        | none => .exhausted
        | some r => leave (specConfig b) r := by
  obtain ⟨b, hb⟩ := request_eq rs
  refine ⟨b, _, rfl, ?_⟩
  rw [← Option.some.inj (hb.symm.trans ht), loop_eq, Nat.zero_add]
  exact ⟨rfl, rfl, rfl⟩

theorem takeWhile_congr {α : Type} {p q : α → Bool} : ∀ {l : List α}, (∀ x ∈ l, p x = q x) → l.takeWhile p = l.takeWhile q
  | [], _ => rfl
  | x :: l, h => by
    rw [List.takeWhile_cons, List.takeWhile_cons, h x (by simp), takeWhile_congr fun y hy => h y (by simp [hy])]

theorem fromResponse_ne_returned (r : Resp) : fromResponse r ≠ .returned := by
  unfold fromResponse fromErrors
  split
  · split
    · simp
    · simp
    · split <;> simp
  · simp

theorem anyProto_wf (b : Bool) (es : List Elem) (h : es.all Spec.Retry.wellFormedElem = true) :
    anyProto (specConfig b) es = .ok (es.any Spec.Retry.isProtocolError) := by
  induction es with
  | nil => rfl
  | cons e es ih =>
    simp only [List.all_cons, Bool.and_eq_true] at h
    cases e with
    | other => simp [anyProto, ih h.2, Spec.Retry.isProtocolError]
    | dict id kind =>
      cases id with
      | other => simp [Spec.Retry.wellFormedElem] at h
      | absent => simp [anyProto, idIsProto, ih h.2, Spec.Retry.isProtocolError]
      | str s =>
        by_cases hp : Spec.Retry.protoPrefix.isPrefixOf s = true
        · simp [anyProto, idIsProto, Spec.Retry.isProtocolError, hp]
        · simp [anyProto, idIsProto, Spec.Retry.isProtocolError, hp, ih h.2]

theorem isTemporary_eq (b : Bool) : isTemporary (specConfig b) = Spec.Retry.isTemporaryError := by
  funext e
  cases e with
  | other => rfl
  | dict id kind => cases kind <;> rfl

theorem hasMarker_eq (b : Bool) (t : Str) : hasMarker (specConfig b) t = isInfix Spec.Retry.prevalidatorMarker t := by
  simp [hasMarker]

theorem isTransient_wf (b : Bool) (r : Resp) (h : Spec.Retry.wellFormed r = true) :
    isTransient (specConfig b) r = .ok (Spec.Retry.transientContent r) := by
  unfold isTransient Spec.Retry.transientContent Spec.Retry.errors Spec.Retry.prevalidatorFailure
  simp only [Spec.Retry.wellFormed, Bool.and_eq_true] at h
  cases hc : r.ctJson with
  | false => simp [hasMarker_eq]
  | true =>
    cases hb : r.body with
    | invalid => simp [hasMarker_eq]
    | nonList => simp [hasMarker_eq]
    | list es =>
      have hw : es.all Spec.Retry.wellFormedElem = true := by simpa [hb] using h.1
      simp only [if_true, anyProto_wf b es hw, isTemporary_eq, hasMarker_eq]
      cases es.any Spec.Retry.isProtocolError <;> cases es.any Spec.Retry.isTemporaryError <;> simp

theorem finish_wf (b : Bool) (r : Resp) (h : Spec.Retry.wellFormed r = true) :
    finish (specConfig b) r = Spec.Retry.outcome r := by
  simp only [Spec.Retry.wellFormed, Bool.and_eq_true, Bool.not_eq_true', Bool.and_eq_false_iff,
    decide_eq_false_iff_not] at h
  unfold finish Spec.Retry.outcome
  by_cases h2 : r.status = 200
  · have hb : ¬ r.body = .invalid := by
      rcases h.2 with h' | h'
      · exact absurd h2 h'
      · exact h'
    simp [h2, hb]
  · by_cases h401 : r.status = 401
    · simp [h401]
    · by_cases h404 : r.status = 404
      · simp [h404]
      · simp [h2, h401, h404]

theorem retries_wf (b : Bool) (r : Resp) (h : Spec.Retry.wellFormed r = true) :
    retries (specConfig b) r = Spec.Retry.transient r := by
  simp only [retries, isTransient_wf b r h, Spec.Retry.transient]
  rfl

theorem leave_wf (b : Bool) (r : Resp) (h : Spec.Retry.wellFormed r = true) :
    leave (specConfig b) r = Spec.Retry.outcome r := by
  simp [leave, isTransient_wf b r h, finish_wf b r h]

theorem rounds_wf (b : Bool) (rs : List Resp) (hw : ∀ r ∈ rs, Spec.Retry.wellFormed r = true) :
    rounds (specConfig b) 0 rs = ((rs.take Spec.Retry.maxRetries).takeWhile Spec.Retry.transient).length := by
  unfold rounds
  rw [takeWhile_congr fun r hr => retries_wf b r (hw r (List.mem_of_mem_take hr))]
  rfl

end Proofs.C26
