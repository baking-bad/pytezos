import PytezosModel.Michelson.View
/-! The rule tables the C32 proofs are written for, character ranges, the lambda flag. -/
namespace Proofs.C32
open Impl.View Spec.View Generated.C32

/-- the rule tables the proofs are written for = what the (repaired) source contains -/
def S0 : CodeShape :=
  { always := ["SELF"], outside := ["CREATE_CONTRACT", "SET_DELEGATE", "TRANSFER_TOKENS"],
    openers := ["LAMBDA", "LAMBDA_REC"], pushRule := some ("PUSH", "lambda") }

def N0 : NameShape :=
  { tooLong := 32, charRanges := some [(37, 37), (46, 46), (48, 57), (64, 64), (65, 90), (95, 95), (97, 122)] }

theorem inRanges_iff (c : Nat) :
    inRanges [(37, 37), (46, 46), (48, 57), (64, 64), (65, 90), (95, 95), (97, 122)] c = true ↔ okCodePoint c := by
  simp only [inRanges, okCodePoint, List.any_cons, List.any_nil, Bool.or_false, Bool.or_eq_true, Bool.and_eq_true,
    decide_eq_true_eq]
  omega

mutual
  theorem hasLambdaType_eq : (t : Mich) → hasLambdaType "lambda" t = mentionsLambda t
    | .prim p args _ => by simp only [hasLambdaType, mentionsLambda, hasLambdaTypeAny_eq args]
    | .seq xs => by simp only [hasLambdaType, mentionsLambda, hasLambdaTypeAny_eq xs]
    | .int _ => rfl
    | .str _ => rfl
    | .bytes _ => rfl
  theorem hasLambdaTypeAny_eq : (ts : List Mich) → hasLambdaTypeAny "lambda" ts = mentionsLambdaAny ts
    | [] => rfl
    | t :: ts => by simp only [hasLambdaTypeAny, mentionsLambdaAny, hasLambdaType_eq t, hasLambdaTypeAny_eq ts]
end

theorem always_iff (p : String) : S0.always.contains p = true ↔ p = "SELF" := by
  simp [S0]

theorem outside_iff (p : String) : S0.outside.contains p = true ↔ p ∈ restricted := by
  simp only [S0, restricted, List.contains_iff_mem, List.mem_cons, List.not_mem_nil, or_false]
  constructor
  · rintro (h | h | h) <;> simp [h]
  · rintro (h | h | h) <;> simp [h]

/-- the flag handed down by the mirror is the Spec's "arguments are a lambda body" -/
theorem flagForArgs_eq (lam : Bool) (p : String) (args : List Mich) (h : (p != "PUSH" || !args.isEmpty) = true) :
    flagForArgs S0 lam p args = .ok (lam || opensLambdaBody p args) := by
  unfold flagForArgs opensLambdaBody
  simp only [S0]
  by_cases hp : p = "PUSH"
  · subst hp
    cases args with
    | nil => simp at h
    | cons ty rest => simp [hasLambdaType_eq]
  · have hp' : (p == "PUSH") = false := by simpa using hp
    simp only [hp', List.contains_cons, List.contains_nil, Bool.or_false, Bool.false_eq_true, if_false, Bool.false_and]

end Proofs.C32
