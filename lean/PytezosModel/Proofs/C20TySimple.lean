import PytezosModel.Proofs.C20TyBasic
import PytezosModel.Proofs.C20Rules
/-! C20 — type preservation for every "pop k, push the results" instruction, rule by rule of `Turns`: the classes of the
operands are the static types the checker saw, so its rule computes, and what is pushed has the computed types. -/
namespace Impl.Tickets

theorem cmp_toVal_typed : ∀ c : Cmp, c.toVal.wt = true ∧ c.toVal.typeOf = c.ty
  | .atom _ => ⟨rfl, rfl⟩
  | .pair l r => by
    obtain ⟨l1, l2⟩ := cmp_toVal_typed l
    obtain ⟨r1, r2⟩ := cmp_toVal_typed r
    simp [Cmp.toVal, Val.wt, Val.typeOf, Cmp.ty, l1, l2, r1, r2]

theorem ticket_class {cls : Ty} {tk : String} {ct : Cmp} {a : Nat} (h : (Val.ticket cls tk ct a).wt = true) :
    cls = .ticket ct.ty := eq_of_beq h

theorem optVal_typed {vt : Ty} {vals : List Val} (hv : ∀ v ∈ vals, v.typeOf = vt ∧ v.wt = true) :
    ∀ r : Option Val, (∀ p, r = some p → p ∈ vals) → (optVal vt r).wt = true ∧ (optVal vt r).typeOf = .option vt
  | none, _ => ⟨rfl, rfl⟩
  | some p, h => have hp := hv p (h p rfl); ⟨hp.2, congrArg Ty.option hp.1⟩

theorem mapUpdate_wt {c : Cfg} {big : Bool} {kt vt : Ty} {keys : List Atom} {vals : List Val} {removed : List Atom}
    {key : Val} {ov prev : Option Val} {dst : Val}
    (h : mapUpdate c big kt vt keys vals removed key ov = .ok (prev, dst)) (wf : MapWT kt vt keys vals)
    (hov : ∀ x, ov = some x → x.typeOf = vt ∧ x.wt = true) :
    (dst.wt = true ∧ dst.typeOf = if big then .bigMap kt vt else .map kt vt)
      ∧ (optVal vt prev).wt = true ∧ (optVal vt prev).typeOf = .option vt := by
  obtain ⟨hprev, ks, vs, rm, rfl, e1, e2, hks, hvs, _⟩ := mapUpdate_spec h wf.len wf.nodup
  refine ⟨⟨mapWT_iff.mpr ⟨e1, e2, fun a ha => ?_, fun v hv => ?_⟩, rfl⟩, optVal_typed wf.vtys prev hprev⟩
  · exact (hks a ha).elim (·.1) (wf.ktys a)
  · exact (hvs v hv).elim (hov v) (wf.vtys v)

theorem optOf_typed {val : Val} {vt : Ty} {ov : Option Val} (hov : optOf val = some ov) (hw : val.wt = true)
    (ht : val.typeOf = .option vt) : storeOk vt ov = true ∧ ∀ x, ov = some x → x.typeOf = vt ∧ x.wt = true := by
  obtain ⟨t, rfl⟩ := optOf_some hov
  cases ov
  · exact ⟨rfl, fun _ hx => nomatch hx⟩
  · have e := Ty.option.inj ht
    exact ⟨beq_iff_eq.mpr e, fun x hx => by cases hx; exact ⟨e, hw⟩⟩

theorem Taken.shape {pre act : List Val} {s s1 : State} {vs : List Val} (h : Taken s vs s1) (hs : Shape pre act s) :
    ∃ rest, act = vs ++ rest ∧ Shape pre rest s1 := by
  cases h with
  | none => exact ⟨act, rfl, hs⟩
  | pop hp => exact hs.of_pop hp

theorem Shape.put {pre rest : List Val} {s : State} (h : Shape pre rest s) (new : List (String × Cmp × Nat)) :
    ∀ res : List Val, Shape pre (res ++ rest) (s.put res true new)
  | [] => ⟨h.1, h.2.1, h.2.2⟩
  | v :: res => (h.put new res).push v

theorem fst_wt {a : Val} {l : List Val} (h : ∀ v ∈ a :: l, v.wt = true) : a.wt = true := h a (.head _)
theorem snd_wt {a b : Val} {l : List Val} (h : ∀ v ∈ a :: b :: l, v.wt = true) : b.wt = true := h b (.tail _ (.head _))
theorem thd_wt {a b d : Val} {l : List Val} (h : ∀ v ∈ a :: b :: d :: l, v.wt = true) : d.wt = true :=
  h d (.tail _ (.tail _ (.head _)))

theorem Turns.typed {c : Cfg} (ok2 : CfgOk2 c) {self : String} {i : Instr} {ops res : List Val} {flag : Bool}
    {new : List (String × Cmp × Nat)} (h : Turns c self i ops res flag new) {rest : List Val} {Δ Γ' : List Ty}
    (hw : ∀ v ∈ ops, v.wt = true) (hr : STy rest Δ) (ht : tySimple c i (ops.map Val.typeOf ++ Δ) = Option.some Γ') :
    flag = true ∧ STy (res ++ rest) Γ' := by
  cases h with
  | ticket hc =>
    obtain ⟨_, rfl⟩ := guard_some ht
    exact ⟨rfl, STy.cons (beq_iff_eq.mpr (congrArg _ (toCmp_ty _ _ hc))) rfl hr⟩
  | ticketZero => obtain ⟨_, rfl⟩ := guard_some ht; exact ⟨rfl, STy.cons rfl rfl hr⟩
  | @readTicket _ _ ct =>
    have hw := fst_wt hw
    obtain rfl := ticket_class hw
    cases ht
    have hct := cmp_toVal_typed ct
    refine ⟨rfl, STy.cons ?_ ?_ (STy.cons hw rfl hr)⟩
    · simp [Val.wt, hct.1]
    · simp [Val.typeOf, hct.2, Atom.ty]
  | splitNone => obtain rfl := ticket_class (fst_wt hw); cases ht; exact ⟨rfl, STy.cons rfl rfl hr⟩
  | splitSome hs =>
    obtain rfl := ticket_class (fst_wt hw)
    cases ht
    obtain ⟨_, _, rfl, rfl⟩ := split_some hs
    refine ⟨rfl, STy.cons ?_ ?_ hr⟩
    · simp [Val.wt, ok2.splitKeeps]
    · simp [Val.typeOf, ok2.splitKeeps]
  | joinNone =>
    obtain rfl := ticket_class ((Bool.and_eq_true _ _).mp (fst_wt hw)).1
    obtain ⟨_, rfl⟩ := guard_some ht
    exact ⟨rfl, STy.cons rfl rfl hr⟩
  | joinSome hj =>
    obtain rfl := ticket_class ((Bool.and_eq_true _ _).mp (fst_wt hw)).1
    obtain ⟨_, rfl⟩ := guard_some ht
    obtain ⟨_, _, rfl⟩ := join_some hj
    refine ⟨rfl, STy.cons ?_ ?_ hr⟩
    · simp [Val.wt, ok2.joinKeeps]
    · simp [Val.typeOf, ok2.joinKeeps]
  | pair =>
    cases ht
    exact ⟨rfl, STy.cons ((Bool.and_eq_true _ _).mpr ⟨fst_wt hw, snd_wt hw⟩) rfl hr⟩
  | unpair =>
    cases ht
    obtain ⟨hl, hr'⟩ := (Bool.and_eq_true _ _).mp (fst_wt hw)
    exact ⟨rfl, STy.cons hl rfl (STy.cons hr' rfl hr)⟩
  | car => cases ht; exact ⟨rfl, STy.cons ((Bool.and_eq_true _ _).mp (fst_wt hw)).1 rfl hr⟩
  | cdr => cases ht; exact ⟨rfl, STy.cons ((Bool.and_eq_true _ _).mp (fst_wt hw)).2 rfl hr⟩
  | some | left | right => cases ht; exact ⟨rfl, STy.cons (fst_wt hw :) rfl hr⟩
  | none | nil | emptyMap | emptyBigMap | emptySet => cases ht; exact ⟨rfl, STy.cons rfl rfl hr⟩
  | cons =>
    obtain ⟨_, rfl⟩ := guard_some ht
    refine ⟨rfl, STy.cons ?_ rfl hr⟩
    exact (Bool.and_eq_true _ _).mpr ⟨(Bool.and_eq_true _ _).mpr ⟨beq_self_eq_true _, fst_wt hw⟩, snd_wt hw⟩
  | swap => cases ht; exact ⟨rfl, STy.cons (snd_wt hw) rfl (STy.cons (fst_wt hw) rfl hr)⟩
  | drop => cases ht; exact ⟨rfl, hr⟩
  | push =>
    obtain ⟨hv, rfl⟩ := guard_some ht
    simp only [Bool.and_eq_true, beq_iff_eq] at hv
    exact ⟨rfl, STy.cons hv.1 hv.2 hr⟩
  | @get big _ _ _ _ _ _ _ hg =>
    obtain ⟨_, _, _, hl⟩ := mapGet_some hg
    obtain ⟨o1, o2⟩ := optVal_typed (mapWT_iff.mp (snd_wt hw)).vtys _ fun p hp => lookup_mem (hl.trans hp)
    cases big <;> obtain ⟨_, rfl⟩ := guard_some ht <;> exact ⟨rfl, STy.cons o1 o2 hr⟩
  | @getAndUpdate val ov big _ _ _ _ _ _ _ _ hov hu =>
    have hvt := by cases big <;> exact (beq_iff_eq.mp ((Bool.and_eq_true _ _).mp (guard_some ht).1).2)
    obtain ⟨hst, hx⟩ := optOf_typed hov (snd_wt hw) hvt
    obtain ⟨⟨d1, d2⟩, o1, o2⟩ := mapUpdate_wt hu (mapWT_iff.mp (thd_wt hw)) hx
    cases big <;> obtain ⟨_, rfl⟩ := guard_some ht <;> exact ⟨hst, STy.cons o1 o2 (STy.cons d1 d2 hr)⟩
  | @update val ov big _ vt _ _ _ _ _ _ hov hu =>
    -- `val` is an option, so the set rule of the checker (second operand `bool`) is not the one that fired
    obtain ⟨t, hvt⟩ : ∃ t, val.typeOf = .option t := by obtain ⟨t, rfl⟩ := optOf_some hov; cases ov <;> exact ⟨_, rfl⟩
    simp only [List.map_cons, hvt] at ht
    have e : t = vt := by
      cases big <;> exact Ty.option.inj (beq_iff_eq.mp ((Bool.and_eq_true _ _).mp (guard_some ht).1).2)
    subst e
    obtain ⟨hst, hx⟩ := optOf_typed hov (snd_wt hw) hvt
    obtain ⟨⟨d1, d2⟩, _⟩ := mapUpdate_wt hu (mapWT_iff.mp (thd_wt hw)) hx
    cases big <;> obtain ⟨_, rfl⟩ := guard_some ht <;> exact ⟨hst, STy.cons d1 d2 hr⟩
  | @updateSet k b xs =>
    obtain ⟨_, rfl⟩ := guard_some ht
    have hs := thd_wt hw
    simp only [Val.wt, Bool.and_eq_true, nodupB_iff, List.all_eq_true, beq_iff_eq] at hs
    refine ⟨rfl, STy.cons ?_ rfl hr⟩
    simp only [Val.wt, Bool.and_eq_true, nodupB_iff, List.all_eq_true, beq_iff_eq]
    cases b
    · exact ⟨hs.1.sublist List.filter_sublist, fun a ha => hs.2 a (List.mem_filter.mp ha).1⟩
    · exact ⟨setAdd_nodup hs.1, fun a ha => (setAdd_mem ha).elim (· ▸ rfl) (hs.2 a)⟩
  | memSet => obtain ⟨_, rfl⟩ := guard_some ht; exact ⟨rfl, STy.cons rfl rfl hr⟩
  | @memMap _ big => cases big <;> obtain ⟨_, rfl⟩ := guard_some ht <;> exact ⟨rfl, STy.cons rfl rfl hr⟩
  | lambda | apply => cases ht

theorem simple_typed {c : Cfg} (ok2 : CfgOk2 c) {pre act : List Val} {s s' : State} {Γ Γ' : List Ty} (i : Instr)
    (ht : tySimple c i Γ = some Γ') (hs : Shape pre act s) (hty : STy act Γ) (h : simple c s i = some (.ok s')) :
    ∃ act', Shape pre act' s' ∧ STy act' Γ' := by
  obtain ⟨hk, hp, rfl⟩ := simple_turns h
  obtain ⟨rest, rfl, hs1⟩ := hk.shape hs
  obtain ⟨hw, rfl⟩ := hty
  rw [List.map_append] at ht
  obtain ⟨rfl, hty'⟩ := hp.typed ok2 (fun v hv => hw v (List.mem_append_left _ hv))
    ⟨fun v hv => hw v (List.mem_append_right _ hv), rfl⟩ ht
  exact ⟨_, hs1.put _ _, hty'⟩

end Impl.Tickets
