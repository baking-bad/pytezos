import PytezosModel.Proofs.EncodingTable
import PytezosModel.Michelson.AddressForge
/-! Lemmas for C10: how the mirror of `forge_address` & co. behaves on canonical Base58Check strings.

What the proofs need of the regenerated dispatch tables is collected in closed booleans (`entryOk`, `readTablesOk`,
`keyOk`, `sigLenOk`, `chainIdOk`) and, like the two shape flags `unforgeLengthFirst` / `splitFirstOnly`, enters
the lemmas as a hypothesis: `Props/C10` evaluates each of them once, so that a tree whose tables or shapes are not in
order fails there.  The `…Recognised` flags are evaluated in place. -/
namespace Impl.AddrForge
open Base58 Impl.Encoding

theorem splitPercent_ne_nil (s : List Nat) : splitPercent s ≠ [] := by
  induction s with
  | nil => simp [splitPercent]
  | cons c cs ih =>
    simp only [splitPercent]
    split
    · simp
    · split <;> simp

theorem splitPercentOnce_no (s : List Nat) (h : 37 ∉ s) : splitPercentOnce s = [s] := by
  induction s with
  | nil => rfl
  | cons c cs ih =>
    have hc : c ≠ 37 := fun e => h (by simp [e])
    have hcs : 37 ∉ cs := fun e => h (by simp [e])
    simp [splitPercentOnce, hc, ih hcs]

theorem splitPercentOnce_append (a ep : List Nat) (h : 37 ∉ a) :
    splitPercentOnce (a ++ 37 :: ep) = [a, ep] := by
  induction a with
  | nil => simp [splitPercentOnce]
  | cons c cs ih =>
    have hc : c ≠ 37 := fun e => h (by simp [e])
    have hcs : 37 ∉ cs := fun e => h (by simp [e])
    simp [splitPercentOnce, hc, ih hcs]

theorem find?_congr {α} (l : List α) (p q : α → Bool) (h : ∀ x ∈ l, p x = q x) : l.find? p = l.find? q := by
  induction l with
  | nil => rfl
  | cons a as ih =>
    simp only [List.find?_cons, h a (by simp)]
    rw [ih (fun x hx => h x (by simp [hx]))]

theorem isPrefixOf_len2 (k data : List Nat) (hk : k.length = 2) :
    k.isPrefixOf data = (k == data.take 2) := by
  rw [Bool.eq_iff_iff, List.isPrefixOf_iff_prefix, beq_iff_eq, List.prefix_iff_eq_take, hk]

theorem not_prefix_of_incomparable (a b tl : List Nat) (h : (a.isPrefixOf b || b.isPrefixOf a) = false) :
    b.isPrefixOf (a ++ tl) = false := by
  rw [Bool.eq_false_iff]
  intro hb
  rw [List.isPrefixOf_iff_prefix] at hb
  rcases List.prefix_or_prefix_of_prefix (List.prefix_append a tl) hb with h1 | h1
  · have := List.isPrefixOf_iff_prefix.mpr h1; simp [this] at h
  · have := List.isPrefixOf_iff_prefix.mpr h1; simp [this] at h

abbrev Entry := List Nat × List Nat × List Nat

/-- closed facts about one entry `(textual prefix, bytes in front, bytes behind)` of the `forge_address`
chain, evaluated for every entry of the regenerated chain:
a 20-byte row of the base58 table carries this human prefix, is `rowOk`, and its binary prefix is as long as
the textual prefix; the textual-prefix rule selects this length; the chain finds the entry; and the tables of
`unforge_address` map the entry's bytes back to the same human prefix (the prefix ↔ tag maps are inverse); and
(not about the entry) every key of `tz_prefixes` has two bytes -/
def entryOk (e : Entry) : Bool :=
  (match findEncodeRow table 20 e.1 with
   | some r => rowOk r && r.bin.length == e.1.length
   | none => false) &&
  (e.1.length == (if e.1 == Generated.C10.longTextPrefix then 4 else 3)) &&
  (e.1 == Generated.C10.longTextPrefix ||
    !(e.1.isPrefixOf Generated.C10.longTextPrefix || Generated.C10.longTextPrefix.isPrefixOf e.1)) &&
  (Generated.C10.forgeAddressChain.find? (fun x => x.1 == e.1) == some e) &&
  (match e.2.1, e.2.2 with
   | [a, t], [] =>
     a == 0 && Generated.C10.tzPrefixes.find? (fun x => x.1 == [a, t]) == some ([a, t], e.1)
   | [a], [z] =>
     Generated.C10.tzPrefixes.all (fun x => x.1.head? != some a) &&
     Generated.C10.originatedChain.find? (fun x => x.1 == a && x.2.1 == z) == some (a, z, e.1)
   | _, _ => false) &&
  Generated.C10.tzPrefixes.all (fun x => x.1.length == 2)

theorem forge_recognised : (Generated.C10.forgeAddressRecognised && Generated.C10.unforgeAddressRecognised
    && Generated.C10.forgeContractRecognised && Generated.C10.unforgeContractRecognised
    && Generated.C10.publicKeyRecognised && Generated.C10.chainIdRecognised
    && Generated.C10.signatureRecognised && Generated.C10.forgeBase58Recognised) = true := by decide

theorem entryOk_spec (e : Entry) (he : entryOk e = true) :
    (∃ r, findEncodeRow table 20 e.1 = some r ∧ rowOk r = true ∧ r.bin.length = e.1.length) ∧
    e.1.length = (if e.1 = Generated.C10.longTextPrefix then 4 else 3) ∧
    (e.1 = Generated.C10.longTextPrefix ∨
      (e.1.isPrefixOf Generated.C10.longTextPrefix || Generated.C10.longTextPrefix.isPrefixOf e.1) = false) ∧
    Generated.C10.forgeAddressChain.find? (fun x => x.1 == e.1) = some e ∧
    ((∃ t, e.2.1 = [0, t] ∧ e.2.2 = [] ∧
        Generated.C10.tzPrefixes.find? (fun x => x.1 == [0, t]) = some ([0, t], e.1)) ∨
      (∃ a z, e.2.1 = [a] ∧ e.2.2 = [z] ∧ (∀ x ∈ Generated.C10.tzPrefixes, x.1.head? ≠ some a) ∧
        Generated.C10.originatedChain.find? (fun x => x.1 == a && x.2.1 == z) = some (a, z, e.1))) ∧
    (∀ x ∈ Generated.C10.tzPrefixes, x.1.length = 2) := by
  unfold entryOk at he
  simp only [Bool.and_eq_true, beq_iff_eq, Bool.or_eq_true, Bool.not_eq_true', List.all_eq_true] at he
  obtain ⟨⟨⟨⟨⟨hrow, hlen⟩, hcmp⟩, hchain⟩, hshape⟩, hall⟩ := he
  refine ⟨?_, hlen, hcmp, hchain, ?_, hall⟩
  · split at hrow
    next r hr => exact ⟨r, hr, by simpa using hrow⟩
    · cases hrow
  · split at hshape
    next a t hpre hpost =>
      simp only [Bool.and_eq_true, beq_iff_eq] at hshape
      obtain ⟨rfl, hfind⟩ := hshape
      exact Or.inl ⟨t, hpre, hpost, hfind⟩
    next a z hpre hpost =>
      simp only [Bool.and_eq_true, beq_iff_eq, List.all_eq_true, bne_iff_ne] at hshape
      exact Or.inr ⟨a, z, hpre, hpost, hshape⟩
    · cases hshape

section
variable (cks : List Nat → List Nat) (hck : CksOk cks)

include hck in
theorem encOf_facts (r : Row) (hrow : rowOk r = true) (v : List Nat) (hl : v.length = r.dataLen)
    (hv : IsBytes v) :
    (∃ tl, encOf cks r v = r.human ++ tl) ∧ decodeCheck cks (encOf cks r v) = .ok (r.bin ++ v) := by
  obtain ⟨_, ⟨tl, htl⟩, hdec⟩ := encOf_shape cks hck r hrow v hl hv
  exact ⟨⟨tl, htl.symm⟩, by rw [decodeCheck, hdec]⟩

include hck in
theorem base58Decode_enc (r : Row) (hr : r ∈ table) (hrow : rowOk r = true) (v : List Nat)
    (hl : v.length = r.dataLen) (hv : IsBytes v) : base58Decode cks (encOf cks r v) = .ok v :=
  (base58Decode_eq cks _).trans (decodeWith_enc table cks hck true true r hr (table_rows_disjoint r hr) hrow v hl hv)

theorem entryOk_length (e : Entry) (he : entryOk e = true) (h : List Nat) (hl : h.length = 20) :
    (e.2.1 ++ h ++ e.2.2).length = 22 := by
  obtain ⟨_, _, _, _, hshape, _⟩ := entryOk_spec e he
  rcases hshape with ⟨t, h1, h2, _⟩ | ⟨a, z, h1, h2, _⟩ <;> simp [h1, h2, hl]

include hck in
theorem forgeAddress_entry (e : Entry) (he : entryOk e = true) (h : List Nat) (hl : h.length = 20)
    (hb : IsBytes h) (tzOnly : Bool) :
    ∃ s, base58Encode cks h e.1 = .ok s ∧
      forgeAddress cks s tzOnly = .ok (if tzOnly then (e.2.1 ++ h ++ e.2.2).drop 1 else e.2.1 ++ h ++ e.2.2) := by
  obtain ⟨⟨r, hfind, hrow, hbl⟩, hlen, hcmp, hchain, _, _⟩ := entryOk_spec e he
  obtain ⟨_, hdl, hhum⟩ := findEncodeRow_some table 20 e.1 r hfind
  refine ⟨encOf cks r h, (base58Encode_ok_iff cks h e.1 _).mpr ⟨r, hl ▸ hfind, rfl⟩, ?_⟩
  obtain ⟨⟨tl, hs⟩, hdec⟩ := encOf_facts cks hck r hrow h (hl.trans hdl) hb
  -- the textual-prefix rule cuts exactly `e.1` off the string
  have hplen : (if Generated.C10.longTextPrefix.isPrefixOf (e.1 ++ tl) = true then 4 else 3) = e.1.length := by
    rw [hlen]
    rcases hcmp with heq | hne
    · rw [heq, List.isPrefixOf_iff_prefix.mpr (List.prefix_append _ _), if_pos rfl, if_pos rfl]
    · have hn : e.1 ≠ Generated.C10.longTextPrefix := by
        intro heq
        rw [heq, List.isPrefixOf_iff_prefix.mpr (List.prefix_refl _)] at hne
        cases hne
      rw [not_prefix_of_incomparable e.1 _ tl hne, if_neg hn, if_neg Bool.false_ne_true]
  have hrec : Generated.C10.forgeAddressRecognised = true := by decide
  unfold forgeAddress
  rw [hrec, hdec]
  simp only [Bool.not_true, Bool.false_eq_true, if_false]
  rw [hs, ← hhum, hplen, List.take_left' rfl, hchain, List.drop_left' hbl]

/-- rewriting the `startswith` loop over `tz_prefixes` as a lookup of the first two bytes -/
theorem tz_find_take2 (hall : ∀ x ∈ Generated.C10.tzPrefixes, x.1.length = 2) (data : List Nat) :
    Generated.C10.tzPrefixes.find? (fun x => x.1.isPrefixOf data) =
      Generated.C10.tzPrefixes.find? (fun x => x.1 == data.take 2) :=
  find?_congr _ _ _ fun x hx => isPrefixOf_len2 x.1 data (hall x hx)

theorem unforgeAddress_entry (hlf : Generated.C10.unforgeLengthFirst = true)
    (e : Entry) (he : entryOk e = true) (h : List Nat) (hl : h.length = 20) (s : List Nat)
    (hs : base58Encode cks h e.1 = .ok s) :
    unforgeAddress cks (e.2.1 ++ h ++ e.2.2) = .ok s ∧
      (e.2.1.length = 2 → unforgeAddress cks ((e.2.1 ++ h ++ e.2.2).drop 1) = .ok s) := by
  have hrec : Generated.C10.unforgeAddressRecognised = true := by decide
  obtain ⟨_, _, _, _, hshape, hall⟩ := entryOk_spec e he
  rcases hshape with ⟨t, hpre, hpost, hfind⟩ | ⟨a, z, hpre, hpost, hno, hfind⟩
  · -- implicit account: `00 t` ++ h, and `t` ++ h in the key-hash form
    rw [hpre, hpost]
    refine ⟨?_, fun _ => ?_⟩
    · simp [unforgeAddress, hrec, hlf, tz_find_take2 hall, hl, hfind, hs, ofEnc]
    · simp [unforgeAddress, tzLookup, hrec, hlf, hl, hfind, hs, ofEnc]
  · -- originated: `a` ++ h ++ `z`; no entry of `tz_prefixes` starts with `a`
    rw [hpre, hpost]
    refine ⟨?_, fun hc => by simp at hc⟩
    have hnone : Generated.C10.tzPrefixes.find? (fun x => x.1 == List.take 2 ([a] ++ h ++ [z])) = none := by
      apply List.find?_eq_none.mpr
      intro x hx hxe
      rw [beq_iff_eq] at hxe
      exact hno x hx (by rw [hxe]; rfl)
    have hpred : (fun (x : Nat × Nat × List Nat) => [x.1].isPrefixOf ([a] ++ h ++ [z]) && ([a] ++ h ++ [z]).getLast? == some x.2.1)
        = (fun x => x.1 == a && x.2.1 == z) := by
      funext x
      rw [List.getLast?_concat, Bool.eq_iff_iff]
      simp only [List.isPrefixOf, List.cons_append, List.nil_append, Bool.and_true, Bool.and_eq_true, beq_iff_eq,
        Option.some.injEq]
      exact and_congr_right' eq_comm
    unfold unforgeAddress
    rw [hrec, hlf, tz_find_take2 hall, hnone]
    simp only [hpred, hfind]
    simp [hl, hs, ofEnc]

/-- closed facts in the reading direction: every entry of `tz_prefixes` / of the originated chain is the
image of an entry of the `forge_address` chain, and the kinds' rows all carry 20-byte payloads -/
def readTablesOk : Bool :=
  Generated.C10.tzPrefixes.all (fun x =>
    match x.1 with
    | [0, _] => Generated.C10.forgeAddressChain.contains (x.2, x.1, [])
    | _ => false) &&
  Generated.C10.originatedChain.all (fun x => Generated.C10.forgeAddressChain.contains (x.2.2, [x.1], [x.2.1])) &&
  Generated.C10.forgeAddressChain.all (fun e => table.all (fun r => !(r.human == e.1) || r.dataLen == 20))

theorem ofEnc_ok {α} (x : Except Impl.Encoding.Err α) (a : α) (h : ofEnc x = .ok a) : x = .ok a := by
  revert h
  fun_cases ofEnc x
  · exact fun h => congrArg _ (Except.ok.inj h)
  · nofun
  · nofun

theorem readTablesOk_spec (hrt : readTablesOk = true) :
    (∀ x ∈ Generated.C10.tzPrefixes, ∃ t, x.1 = [0, t] ∧ (x.2, x.1, []) ∈ Generated.C10.forgeAddressChain) ∧
    (∀ x ∈ Generated.C10.originatedChain, (x.2.2, [x.1], [x.2.1]) ∈ Generated.C10.forgeAddressChain) ∧
    (∀ e ∈ Generated.C10.forgeAddressChain, ∀ r ∈ table, r.human = e.1 → r.dataLen = 20) := by
  unfold readTablesOk at hrt
  simp only [Bool.and_eq_true, List.all_eq_true, List.contains_iff_mem, Bool.or_eq_true, Bool.not_eq_true',
    beq_eq_false_iff_ne, beq_iff_eq] at hrt
  obtain ⟨⟨htz, horig⟩, hlen⟩ := hrt
  refine ⟨fun x hx => ?_, horig, fun e he r hr hh => (hlen e he r hr).resolve_left (fun h => h hh)⟩
  have hc := htz x hx
  split at hc
  next t hk => exact ⟨t, hk, List.contains_iff_mem.mp hc⟩
  · cases hc

theorem encode_len20 (hrt : readTablesOk = true) (e : Entry) (he : e ∈ Generated.C10.forgeAddressChain)
    (v s : List Nat) (h : ofEnc (base58Encode cks v e.1) = .ok s) :
    v.length = 20 ∧ base58Encode cks v e.1 = .ok s := by
  have henc := ofEnc_ok _ _ h
  obtain ⟨r, hr, _⟩ := (base58Encode_ok_iff cks v e.1 s).mp henc
  obtain ⟨hm, hd, hh⟩ := findEncodeRow_some table _ _ r hr
  exact ⟨hd.trans ((readTablesOk_spec hrt).2.2 e he r hm hh.symm), henc⟩

/-- the key-hash form `t ++ hash` (21 bytes): the tag is looked up as `00 t` in `tz_prefixes` -/
theorem keyHashForm_sound (hrt : readTablesOk = true) (data s : List Nat)
    (h : (match tzLookup data with
        | none => (Except.error Err.keyError : Except Err (List Nat))
        | some hp => ofEnc (base58Encode cks (data.drop 1) hp)) = .ok s) :
    ∃ e ∈ Generated.C10.forgeAddressChain, ∃ hash, hash.length = 20 ∧ base58Encode cks hash e.1 = .ok s ∧
      e.2.1.length = 2 ∧ e.2.2 = [] ∧ data = (e.2.1 ++ hash ++ e.2.2).drop 1 := by
  split at h
  · cases h
  next hp hlook =>
    unfold tzLookup at hlook
    rw [Option.map_eq_some_iff] at hlook
    obtain ⟨x, hx, rfl⟩ := hlook
    obtain ⟨t, hk, hc⟩ := (readTablesOk_spec hrt).1 x (List.mem_of_find?_eq_some hx)
    obtain ⟨hlen, henc⟩ := encode_len20 cks hrt (x.2, x.1, []) hc _ s h
    have hxk := List.find?_some hx
    rw [beq_iff_eq, hk] at hxk
    refine ⟨(x.2, x.1, []), hc, data.drop 1, hlen, henc, by simp [hk], rfl, ?_⟩
    cases data with
    | nil => simp at hlen
    | cons b bs =>
      simp only [List.take_succ_cons, List.take_zero, List.cons.injEq, and_true, true_and] at hxk
      simp [hk, hxk]

theorem unforgeAddress_sound (hlf : Generated.C10.unforgeLengthFirst = true) (hrt : readTablesOk = true)
    (data s : List Nat) (h : unforgeAddress cks data = .ok s) :
    ∃ e ∈ Generated.C10.forgeAddressChain, ∃ hash, hash.length = 20 ∧ base58Encode cks hash e.1 = .ok s ∧
      (data = e.2.1 ++ hash ++ e.2.2 ∨ (e.2.1.length = 2 ∧ data = (e.2.1 ++ hash ++ e.2.2).drop 1)) := by
  have hrec : Generated.C10.unforgeAddressRecognised = true := by decide
  unfold unforgeAddress at h
  rw [hrec, hlf] at h
  simp only [Bool.not_true, Bool.false_eq_true, if_false, Bool.true_and] at h
  split at h
  · -- 21 bytes: the key-hash form
    obtain ⟨e, he, hash, h1, h2, h3, _, h5⟩ := keyHashForm_sound cks hrt data s h
    exact ⟨e, he, hash, h1, h2, Or.inr ⟨h3, h5⟩⟩
  next hlen21 =>
    split at h
    next x hx =>
      -- `data` starts with a key `00 t` of `tz_prefixes`
      obtain ⟨t, hk, hc⟩ := (readTablesOk_spec hrt).1 x (List.mem_of_find?_eq_some hx)
      obtain ⟨hlen, henc⟩ := encode_len20 cks hrt (x.2, x.1, []) hc _ s h
      have hxk := List.find?_some hx
      obtain ⟨rest, hrest⟩ := List.isPrefixOf_iff_prefix.mp hxk
      have hd : data.drop 2 = rest := by rw [← hrest, hk]; simp
      exact ⟨(x.2, x.1, []), hc, rest, hd ▸ hlen, hd ▸ henc, Or.inl (by simp [hrest])⟩
    next hnone =>
      split at h
      next x hx =>
        -- `data` starts with `a` and ends with `z` for an entry `(a, z, _)` of the originated chain
        have hc := (readTablesOk_spec hrt).2.1 x (List.mem_of_find?_eq_some hx)
        obtain ⟨hlen, henc⟩ := encode_len20 cks hrt (x.2.2, [x.1], [x.2.1]) hc _ s h
        refine ⟨(x.2.2, [x.1], [x.2.1]), hc, (data.drop 1).dropLast, hlen, henc, Or.inl ?_⟩
        have hxk := List.find?_some hx
        simp only [Bool.and_eq_true, List.isPrefixOf_iff_prefix, beq_iff_eq] at hxk
        obtain ⟨⟨rest, hrest⟩, hlast⟩ := hxk
        have hd : data.drop 1 = rest := by rw [← hrest]; simp
        rw [hd] at hlen ⊢
        -- `data` ends with `z`; as `rest` is not empty (its `dropLast` has 20 bytes), so does `rest`
        obtain ⟨ys, hys⟩ := List.getLast?_eq_some_iff.mp hlast
        rw [← hrest] at hys
        cases ys with
        | nil =>
          simp only [List.cons_append, List.nil_append, List.cons.injEq] at hys
          rw [hys.2] at hlen
          cases hlen
        | cons y ys' =>
          simp only [List.cons_append, List.nil_append, List.cons.injEq] at hys
          rw [← hrest, hys.2, List.dropLast_concat, List.append_assoc]
      next hnone2 =>
        -- the final `else` is the key-hash form again; it answers for 21 bytes only, and those went the first way
        obtain ⟨e, he, hash, h1, h2, h3, h4, h5⟩ := keyHashForm_sound cks hrt data s h
        exfalso
        apply hlen21
        rw [h5, h4]
        simp [h1, h3]

theorem percent_not_in_encoded (v p s : List Nat) (h : base58Encode cks v p = .ok s) : 37 ∉ s := by
  obtain ⟨r, _, rfl⟩ := (base58Encode_ok_iff cks v p s).mp h
  intro h37
  have := b58enc_range _ 37 h37
  omega

/-- what `forge_contract` appends for an entrypoint: nothing for `default` -/
def epBytes : Option (List Nat) → List Nat
  | none => []
  | some n => if n = defaultName then [] else n

/-- the readable value: address, then `%name` if an entrypoint is given -/
def withEp (s : List Nat) : Option (List Nat) → List Nat
  | none => s
  | some n => s ++ 37 :: n

theorem forgeContract_of (hsf : Generated.C10.splitFirstOnly = true) (s addr : List Nat) (hp : 37 ∉ s)
    (hf : forgeAddress cks s false = .ok addr) (ep : Option (List Nat)) :
    forgeContract cks (withEp s ep) = .ok (addr ++ epBytes ep) := by
  have hrec : Generated.C10.forgeContractRecognised = true := by decide
  unfold forgeContract
  rw [hrec, hsf]
  simp only [Bool.not_true, Bool.false_eq_true, if_false, if_true]
  cases ep with
  | none =>
    simp only [withEp, splitPercentOnce_no s hp, hf, epBytes, List.append_nil]
    simp
  | some n =>
    simp only [withEp, splitPercentOnce_append s n hp, hf, epBytes]
    by_cases hn : n = defaultName <;> simp [hn]

theorem unforgeContract_of (addr s tail : List Nat) (hl : addr.length = 22)
    (hu : unforgeAddress cks addr = .ok s) (hascii : ∀ c ∈ tail, c < 128) :
    unforgeContract cks (addr ++ tail) = .ok (if tail = [] then s else s ++ 37 :: tail) := by
  have hrec : Generated.C10.unforgeContractRecognised = true := by decide
  unfold unforgeContract
  rw [hrec, List.take_left' hl, hu, List.drop_left' hl]
  simp only [Bool.not_true, Bool.false_eq_true, if_false, List.length_append, hl]
  cases tail with
  | nil => simp
  | cons c cs =>
    have : ((c :: cs).all fun x => decide (x < 128)) = true := by
      rw [List.all_eq_true]; intro x hx; exact decide_eq_true (hascii x hx)
    simp [this]

/-- closed facts about one entry (textual prefix, tag) of the `forge_public_key` chain: the two maps are
inverse at this entry, and every table row with this human prefix is `rowOk`, has a 4-byte binary prefix
(the code cuts `[4:]`) and is the row `base58_encode` selects for its payload length -/
def keyOk (e : List Nat × Nat) : Bool :=
  e.1.length == 4 &&
  (Generated.C10.keyTagOfPrefix.find? (fun x => x.1 == e.1) == some e) &&
  (Generated.C10.keyPrefixOfTag.find? (fun x => x.1 == e.2) == some (e.2, e.1)) &&
  table.all (fun r => !(r.human == e.1) ||
    (rowOk r && r.bin.length == 4 && findEncodeRow table r.dataLen e.1 == some r)) &&
  table.any (fun r => r.human == e.1)

include hck in
theorem publicKey_entry (e : List Nat × Nat) (he : keyOk e = true) (r : Row) (hr : r ∈ table)
    (hh : r.human = e.1) (k : List Nat) (hl : k.length = r.dataLen) (hk : IsBytes k) :
    ∃ s, base58Encode cks k e.1 = .ok s ∧ forgePublicKey cks s = .ok (e.2 :: k) ∧
      unforgePublicKey cks (e.2 :: k) = .ok s := by
  have hrec : Generated.C10.publicKeyRecognised = true := by decide
  unfold keyOk at he
  simp only [Bool.and_eq_true, beq_iff_eq, List.all_eq_true, Bool.or_eq_true, Bool.not_eq_true',
    beq_eq_false_iff_ne] at he
  obtain ⟨⟨⟨⟨hlen, hfwd⟩, hbwd⟩, hrows⟩, _⟩ := he
  rcases hrows r hr with hne | ⟨⟨hrow, hbl⟩, hfind⟩
  · exact absurd hh hne
  have hfind' : findEncodeRow table k.length e.1 = some r := by rw [hl]; exact hfind
  have henc := (base58Encode_ok_iff cks k e.1 _).mpr ⟨r, hfind', rfl⟩
  obtain ⟨⟨tl, hs⟩, hdec⟩ := encOf_facts cks hck r hrow k hl hk
  refine ⟨encOf cks r k, henc, ?_, ?_⟩
  · unfold forgePublicKey
    rw [hrec, hdec]
    simp only [Bool.not_true, Bool.false_eq_true, if_false]
    rw [hs, hh, List.take_left' hlen, hfwd, List.drop_left' hbl]
  · unfold unforgePublicKey
    rw [hrec]
    simp only [Bool.not_true, Bool.false_eq_true, if_false, hbwd, henc, ofEnc]

theorem unforgePublicKey_sound
    (hinv : Generated.C10.keyPrefixOfTag.all (fun x => Generated.C10.keyTagOfPrefix.contains (x.2, x.1)) = true)
    (data s : List Nat) (h : unforgePublicKey cks data = .ok s) :
    ∃ e ∈ Generated.C10.keyTagOfPrefix, ∃ k, data = e.2 :: k ∧ base58Encode cks k e.1 = .ok s := by
  have hrec : Generated.C10.publicKeyRecognised = true := by decide
  unfold unforgePublicKey at h
  rw [hrec] at h
  simp only [Bool.not_true, Bool.false_eq_true, if_false] at h
  split at h
  · simp at h
  next t rest =>
    split at h
    · simp at h
    next x hx =>
      have hxm := List.mem_of_find?_eq_some hx
      have hxk := List.find?_some hx
      rw [beq_iff_eq] at hxk
      have := List.all_eq_true.mp hinv x hxm
      rw [List.contains_iff_mem] at this
      exact ⟨(x.2, x.1), this, rest, by simp [hxk], ofEnc_ok _ _ h⟩

/-- the translator recognised these three functions, so each mirror is its body -/
theorem forgeBase58_eq (s : List Nat) : forgeBase58 cks s = ofEnc (base58Decode cks s) := rfl

theorem unforgeChainId_eq (d : List Nat) :
    unforgeChainId cks d = ofEnc (base58Encode cks d Generated.C10.chainIdPrefix) := rfl

theorem unforgeSignature_eq (d : List Nat) :
    unforgeSignature cks d =
      match Generated.C10.signaturePrefixes.find? (sigAlternative d.length) with
      | none => .error .unrecognisedSource
      | some e => ofEnc (base58Encode cks d e.2) := rfl

include hck in
theorem forgeBase58_enc (r : Row) (hr : r ∈ table) (hrow : rowOk r = true) (v : List Nat)
    (hl : v.length = r.dataLen) (hv : IsBytes v) : forgeBase58 cks (encOf cks r v) = .ok v := by
  rw [forgeBase58_eq, base58Decode_enc cks hck r hr hrow v hl hv]; rfl

/-- closed fact for one call `base58_encode(d, p)` with `len(d) = n`: a row is selected and it is `rowOk` -/
def selOk (n : Nat) (p : List Nat) : Bool :=
  match findEncodeRow table n p with
  | none => false
  | some r => rowOk r

include hck in
theorem forgeBase58_encode (d p : List Nat) (hs : selOk d.length p = true) (hd : IsBytes d) :
    ∃ s, ofEnc (base58Encode cks d p) = .ok s ∧ forgeBase58 cks s = .ok d := by
  unfold selOk at hs
  split at hs
  · cases hs
  next r hf =>
    obtain ⟨hm, hl, _⟩ := findEncodeRow_some table _ _ r hf
    exact ⟨encOf cks r d, by rw [(base58Encode_ok_iff cks d p _).mpr ⟨r, hf, rfl⟩]; rfl,
      forgeBase58_enc cks hck r hm hs d hl hd⟩

/-- closed fact for one payload length `n` of `unforge_signature`: a prefix is selected for it and `selOk` -/
def sigLenOk (n : Nat) : Bool :=
  match Generated.C10.signaturePrefixes.find? (sigAlternative n) with
  | none => false
  | some e => selOk n e.2

include hck in
theorem signature_bytes (d : List Nat) (hd : IsBytes d) (hn : sigLenOk d.length = true) :
    ∃ s, unforgeSignature cks d = .ok s ∧ forgeBase58 cks s = .ok d := by
  rw [unforgeSignature_eq]
  unfold sigLenOk at hn
  split at hn
  · cases hn
  next e _ => exact forgeBase58_encode cks hck d e.2 hn hd

def chainIdOk : Bool := selOk 4 Generated.C10.chainIdPrefix

include hck in
theorem chainId_bytes (hok : chainIdOk = true) (d : List Nat) (hd : IsBytes d) (hl : d.length = 4) :
    ∃ s, unforgeChainId cks d = .ok s ∧ forgeBase58 cks s = .ok d := by
  rw [unforgeChainId_eq]
  exact forgeBase58_encode cks hck d _ (hl ▸ hok) hd

end

end Impl.AddrForge
