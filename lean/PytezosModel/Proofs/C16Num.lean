import PytezosModel.Michelson.Arith
/-! Helper lemmas for C16: the CPython primitives re-defined in `PyNum` satisfy the characterisations the Python
reference gives for them (bit_length, divmod, to_bytes / from_bytes); the `from_value` constructors, read off the
generated `guards`, build a value exactly when the type has one; the digit-by-digit `PyNum.bitop` computes
two's-complement bits. -/
namespace PyNum

theorem bitsAux_le_iff : ∀ f n k, n < 2 ^ f → (bitsAux f n ≤ k ↔ n < 2 ^ k)
  | 0, n, k, h => by
    rw [Nat.lt_one_iff.1 h]
    exact ⟨fun _ => Nat.two_pow_pos k, fun _ => Nat.zero_le k⟩
  | f + 1, n, k, h => by
    unfold bitsAux
    split
    next hn =>
      rw [hn]
      exact ⟨fun _ => Nat.two_pow_pos k, fun _ => Nat.zero_le k⟩
    next hn =>
      cases k with
      | zero => exact ⟨fun h => absurd h (Nat.not_succ_le_zero _), fun h => absurd (Nat.lt_one_iff.1 h) hn⟩
      | succ k =>
        have h2 : n / 2 < 2 ^ f := by rw [Nat.pow_succ] at h; omega
        rw [Nat.succ_le_succ_iff, bitsAux_le_iff f (n / 2) k h2, Nat.pow_succ, Nat.div_lt_iff_lt_mul (by decide)]

/-- Python's documented characterisation: `bit_length` is the least `k` with `|z| < 2^k` -/
theorem bitLength_le_iff (z : Int) (k : Nat) : bitLength z ≤ k ↔ z.natAbs < 2 ^ k :=
  bitsAux_le_iff _ _ _ Nat.lt_two_pow_self

/-- with `two_pow_le_natAbs`, the other form in the Python documentation: `2^(k-1) ≤ |z| < 2^k` for `z ≠ 0` -/
theorem natAbs_lt_two_pow_bitLength (z : Int) : z.natAbs < 2 ^ bitLength z :=
  (bitLength_le_iff z _).1 (Nat.le_refl _)

theorem two_pow_le_natAbs (z : Int) (h : 0 < bitLength z) : 2 ^ (bitLength z - 1) ≤ z.natAbs :=
  Nat.le_of_not_lt fun hlt => by have := (bitLength_le_iff z _).2 hlt; omega

/-! `omega` takes a power with a variable exponent as an atom, and the cast of a `Nat` power as another one: the two
`cast_…` equations are what it has to be told. -/

theorem cast_two_pow (k : Nat) : ((2 ^ k : Nat) : Int) = (2 : Int) ^ k := Int.natCast_pow 2 k

theorem cast_pow256 (k : Nat) : ((256 ^ k : Nat) : Int) = (256 : Int) ^ k := Int.natCast_pow 256 k

theorem pow256 (k : Nat) : (256 : Nat) ^ k = 2 ^ (8 * k) := (Nat.pow_mul 2 8 k).symm

theorem int_pow256_eq (k : Nat) : (256 : Int) ^ k = 2 ^ (8 * k) := by rw [Int.pow_mul]; rfl

theorem two_pow_pred : ∀ k : Nat, 0 < k → (2 : Int) ^ k = 2 * 2 ^ (k - 1)
  | k + 1, _ => by rw [Int.pow_succ, Int.mul_comm]; rfl

theorem int_pow256 (L : Nat) (hL : 0 < L) : (256 : Int) ^ L = 2 * 2 ^ (8 * L - 1) := by
  rw [int_pow256_eq]; exact two_pow_pred _ (Nat.mul_pos (by decide) hL)

theorem nat_pow256 (L : Nat) (hL : 0 < L) : (256 : Nat) ^ L = 2 * 2 ^ (8 * L - 1) := by
  cases L with
  | zero => exact absurd hL (Nat.lt_irrefl 0)
  | succ L => rw [pow256]; exact Nat.pow_succ'

theorem natAbs_lt_two_pow (z : Int) (k : Nat) : z.natAbs < 2 ^ k ↔ -(2 ^ k : Int) < z ∧ z < 2 ^ k := by
  rw [← cast_two_pow]
  omega

/-- two's complement: a number in `[-H, H)` is its residue modulo `2H`, less `2H` in the upper half -/
theorem signed_of_emod (z H : Int) (h : -H ≤ z ∧ z < H) :
    (if H ≤ z % (2 * H) then z % (2 * H) - 2 * H else z % (2 * H)) = z := by
  by_cases hz : z < 0
  · have e : z % (2 * H) = z + 2 * H := by
      rw [← Int.add_emod_right z (2 * H)]
      exact Int.emod_eq_of_lt (by omega) (by omega)
    rw [e, if_pos (by omega)]
    omega
  · rw [Int.emod_eq_of_lt (by omega) (by omega), if_neg (by omega)]

/-- the first of the three facts by which the Python reference defines `divmod` (the other two: `divmod_pos`, `divmod_neg`) -/
theorem divmod_eq (a b : Int) : b * (divmod a b).1 + (divmod a b).2 = a := Int.mul_fdiv_add_fmod a b

theorem divmod_pos (a b : Int) (hb : 0 < b) : 0 ≤ (divmod a b).2 ∧ (divmod a b).2 < b :=
  ⟨Int.fmod_nonneg_of_pos a hb, Int.fmod_lt_of_pos a hb⟩

/-- floor and Euclidean division differ exactly when the divisor is negative and does not divide: then the floor
quotient is one less and the floor remainder is `a % b + b`, which lies in `(b, 0)` -/
theorem divmod_cases (a b : Int) (hb : b ≠ 0) :
    (divmod a b = (a / b, a % b) ∧ 0 ≤ a % b ∧ (b < 0 → a % b = 0)) ∨
    (divmod a b = (a / b - 1, a % b + b) ∧ b < a % b + b ∧ a % b + b < 0) := by
  have h0 := Int.emod_nonneg a hb
  simp only [divmod, Int.fdiv_eq_ediv, Int.fmod_eq_emod]
  by_cases hc : 0 ≤ b ∨ b ∣ a
  · refine .inl ⟨by simp only [if_pos hc, Int.sub_zero, Int.add_zero], h0, fun hneg => ?_⟩
    exact Int.emod_eq_zero_of_dvd (hc.resolve_left (by omega))
  · have hlt := Int.emod_lt a hb
    have hne : a % b ≠ 0 := fun h => hc (.inr (Int.dvd_of_emod_eq_zero h))
    exact .inr ⟨by simp only [if_neg hc], by omega, by omega⟩

theorem divmod_neg (a b : Int) (hb : b < 0) : b < (divmod a b).2 ∧ (divmod a b).2 ≤ 0 := by
  rcases divmod_cases a b (by omega) with ⟨e, _, h⟩ | ⟨e, h⟩ <;> rw [e]
  · exact ⟨by rw [h hb]; exact hb, by rw [h hb]; exact Int.le_refl 0⟩
  · exact ⟨h.1, Int.le_of_lt h.2⟩

/-- EDIV's correction step turns floor division into Euclidean division -/
theorem divmod_euclid (x y : Int) (hy : y ≠ 0) :
    (if (divmod x y).2 < 0 then ((divmod x y).1 + 1, (divmod x y).2 + abs y) else divmod x y) = (x / y, x % y) := by
  rcases divmod_cases x y hy with ⟨e, h, _⟩ | ⟨e, h1, h2⟩ <;> rw [e]
  · exact if_neg (Int.not_lt.2 h)
  · have hy' : y < 0 := by omega
    rw [if_pos h2, abs, if_pos hy']
    exact Prod.ext (by show x / y - 1 + 1 = x / y; omega) (by show x % y + y + -y = x % y; omega)

/-- `Core.Bytes.WF`, under a name of this module's own because `Michelson/Arith` and this module do not
import `Core/Bytes` -/
def BytesWF (bs : List Nat) : Prop := ∀ b ∈ bs, b < 256

theorem toBytesBE_length (k n : Nat) : (toBytesBE k n).length = k := by
  induction k generalizing n with
  | zero => rfl
  | succ k ih => rw [toBytesBE, List.length_append, ih]; rfl

theorem toBytesBE_wf (k n : Nat) : BytesWF (toBytesBE k n) := by
  induction k generalizing n with
  | zero => exact fun b hb => nomatch hb
  | succ k ih =>
    intro b hb
    rcases List.mem_append.1 hb with hb | hb
    · exact ih _ b hb
    · rw [List.mem_singleton.1 hb]; exact Nat.mod_lt _ (by decide)

theorem fromBytesBE_foldl (bs : List Nat) (acc : Nat) :
    bs.foldl (fun acc b => acc * 256 + b) acc = acc * 256 ^ bs.length + fromBytesBE bs := by
  induction bs generalizing acc with
  | nil => simp [fromBytesBE]
  | cons b bs ih =>
    simp only [fromBytesBE, List.foldl_cons, List.length_cons]
    rw [ih, ih (0 * 256 + b)]
    simp only [fromBytesBE, Nat.pow_succ, Nat.add_mul, Nat.zero_mul, Nat.zero_add]
    rw [Nat.mul_assoc, Nat.mul_comm 256, Nat.add_assoc]

theorem fromBytesBE_cons (b : Nat) (bs : List Nat) :
    fromBytesBE (b :: bs) = b * 256 ^ bs.length + fromBytesBE bs := by
  simp only [fromBytesBE, List.foldl_cons]
  rw [fromBytesBE_foldl]; simp [fromBytesBE]

theorem fromBytesBE_snoc (bs : List Nat) (d : Nat) : fromBytesBE (bs ++ [d]) = fromBytesBE bs * 256 + d := by
  simp [fromBytesBE, List.foldl_append]

theorem fromBytesBE_lt (bs : List Nat) (h : BytesWF bs) : fromBytesBE bs < 256 ^ bs.length := by
  induction bs with
  | nil => exact Nat.one_pos
  | cons b bs ih =>
    have hb : b < 256 := h b (List.mem_cons_self ..)
    have := ih (fun x hx => h x (List.mem_cons_of_mem _ hx))
    rw [fromBytesBE_cons, List.length_cons, Nat.pow_succ]
    have hm : b * 256 ^ bs.length ≤ 255 * 256 ^ bs.length := Nat.mul_le_mul_right _ (by omega)
    omega

theorem fromBytesBE_toBytesBE (k n : Nat) (h : n < 256 ^ k) : fromBytesBE (toBytesBE k n) = n := by
  induction k generalizing n with
  | zero => simp at h; subst h; rfl
  | succ k ih =>
    rw [toBytesBE, fromBytesBE_snoc, ih]
    · omega
    · rw [Nat.pow_succ] at h; omega

theorem fromBytes_signed_ne (bs : List Nat) (hne : bs ≠ []) :
    fromBytes bs true =
      if 2 ^ (8 * bs.length - 1) ≤ fromBytesBE bs then (fromBytesBE bs : Int) - 2 ^ (8 * bs.length) else fromBytesBE bs := by
  simp only [fromBytes, hne, ne_eq, not_false_eq_true, true_and]

theorem fromBytes_toBytes_signed (z : Int) (L : Nat) (bs : List Nat) (hL : 0 < L)
    (h : toBytes z L true = some bs) : fromBytes bs true = z := by
  unfold toBytes at h
  rw [if_pos rfl] at h
  split at h
  next hr =>
    cases h
    -- the digits are those of `n`, the residue of `z` modulo `256^L = 2H`
    generalize hn : (z % 256 ^ L).toNat = n
    rw [int_pow256 L hL] at hn
    have hH : (0 : Int) < 2 * 2 ^ (8 * L - 1) := by omega
    have hn' : (n : Int) = z % (2 * 2 ^ (8 * L - 1)) :=
      hn ▸ Int.toNat_of_nonneg (Int.emod_nonneg z (Int.ne_of_gt hH))
    have hlt : n < 256 ^ L := by
      have := Int.emod_lt_of_pos z hH
      rw [nat_pow256 L hL, ← Int.ofNat_lt, Int.natCast_mul, cast_two_pow]
      omega
    have hne : toBytesBE L n ≠ [] := List.ne_nil_of_length_pos (by rw [toBytesBE_length]; exact hL)
    rw [fromBytes_signed_ne _ hne, toBytesBE_length, fromBytesBE_toBytesBE L n hlt]
    simp only [← Int.ofNat_le, cast_two_pow, hn', two_pow_pred (8 * L) (by omega)]
    exact signed_of_emod z _ hr
  next => cases h

theorem fromBytesBE_eq_beUnsigned (bs : List Nat) : fromBytesBE bs = Spec.Arith.beUnsigned bs := by
  induction bs with
  | nil => rfl
  | cons b bs ih => rw [fromBytesBE_cons, Spec.Arith.beUnsigned, ih]

theorem leading_digit_le_iff (P rest b c : Nat) (h : rest < P) : c * P ≤ b * P + rest ↔ c ≤ b := by
  have hP : 0 < P := Nat.lt_of_le_of_lt (Nat.zero_le _) h
  rw [← Nat.le_div_iff_mul_le hP, Nat.add_comm, Nat.add_mul_div_right _ _ hP, Nat.div_eq_of_lt h, Nat.zero_add]

/-- the threshold test of `from_bytes(signed=True)` is the top bit of the first byte -/
theorem half_le_fromBytesBE_iff (b : Nat) (bs : List Nat) (h : BytesWF (b :: bs)) :
    2 ^ (8 * (b :: bs).length - 1) ≤ fromBytesBE (b :: bs) ↔ 128 ≤ b := by
  have hp : 2 ^ (8 * (b :: bs).length - 1) = 128 * 256 ^ bs.length := by
    show 2 ^ (8 * bs.length + 7) = _
    rw [pow256, Nat.pow_add, Nat.mul_comm]
  rw [hp, fromBytesBE_cons]
  exact leading_digit_le_iff _ _ b 128 (fromBytesBE_lt bs fun x hx => h x (List.mem_cons_of_mem _ hx))

theorem fromBytes_signed_eq (bs : List Nat) (h : BytesWF bs) : fromBytes bs true = Spec.Arith.beSigned bs := by
  cases bs with
  | nil => rfl
  | cons b bs =>
    have hh := half_le_fromBytesBE_iff b bs h
    rw [fromBytesBE_eq_beUnsigned] at hh
    rw [fromBytes_signed_ne _ (List.cons_ne_nil b bs), Spec.Arith.beSigned, ← int_pow256_eq, fromBytesBE_eq_beUnsigned]
    exact ite_congr (propext hh) (fun _ => rfl) (fun _ => rfl)

theorem fromBytes_unsigned_eq (bs : List Nat) : fromBytes bs false = (Spec.Arith.beUnsigned bs : Int) := by
  simp [fromBytes, fromBytesBE_eq_beUnsigned]

theorem fromBytes_signed_range (bs : List Nat) (h : BytesWF bs) (hne : bs ≠ []) :
    -(2 ^ (8 * bs.length - 1) : Int) ≤ fromBytes bs true ∧ fromBytes bs true < 2 ^ (8 * bs.length - 1) := by
  have hL : 0 < bs.length := List.length_pos_iff.2 hne
  have hlt := fromBytesBE_lt bs h
  rw [nat_pow256 _ hL] at hlt
  rw [fromBytes_signed_ne bs hne, two_pow_pred (8 * bs.length) (by omega), ← cast_two_pow]
  split <;> omega

theorem bits63 (x : Int) (h : 0 ≤ x) : 63 < bitLength x ↔ 2 ^ 63 ≤ x := by
  have := bitLength_le_iff x 63
  omega

end PyNum

open PyNum
namespace Impl.Arith

/-- `z` fits `k` bits and a sign iff `z + (z < 0)` has at most `k` bits: the number whose `bit_length` BYTES takes -/
theorem signed_fits_iff (z : Int) (k : Nat) :
    (-(2 ^ k : Int) ≤ z ∧ z < 2 ^ k) ↔ bitLength (z + if z < 0 then 1 else 0) ≤ k := by
  rw [bitLength_le_iff, natAbs_lt_two_pow]
  split <;> omega

/-- the length BYTES computes for a signed operand is enough for `to_bytes(…, signed=True)` -/
theorem signedLen_range (z : Int) :
    -(2 ^ (8 * signedLen z - 1) : Int) ≤ z ∧ z < 2 ^ (8 * signedLen z - 1) :=
  (signed_fits_iff z _).2 (by unfold signedLen; omega)

set_option linter.unusedVariables false in
theorem signedLen_minimal (z : Int) (hz : z ≠ 0) (L : Nat) (hL : 0 < L) (hlt : L < signedLen z) :
    ¬ (-(2 ^ (8 * L - 1) : Int) ≤ z ∧ z < 2 ^ (8 * L - 1)) := fun h => by
  have := (signed_fits_iff z _).1 h
  unfold signedLen at hlt
  omega

set_option linter.unusedVariables false in
theorem unsignedLen_range (z : Int) (hz : 0 ≤ z) : z < 256 ^ unsignedLen z := by
  rw [int_pow256_eq]
  exact ((natAbs_lt_two_pow z _).1 ((bitLength_le_iff z _).1 (by unfold unsignedLen; omega))).2

theorem unsignedLen_minimal (z : Int) (hz : 0 ≤ z) (L : Nat) (h : z < 256 ^ L) : unsignedLen z ≤ L := by
  rw [int_pow256_eq] at h
  have := (bitLength_le_iff z (8 * L)).2 ((natAbs_lt_two_pow z _).2 ⟨by omega, h⟩)
  unfold unsignedLen
  omega

theorem fromValue_int (x : Int) : fromValue .int x = .ok (.num .int x) := rfl
theorem fromValue_timestamp (x : Int) : fromValue .timestamp x = .ok (.num .timestamp x) := rfl

theorem fromValue_nat (x : Int) : fromValue .nat x = if x < 0 then .error .assertion else .ok (.num .nat x) := by
  -- `fromValue` at the row the generated `guards` has for `nat` (for `mutez` below: non-negative, then the 63 bits)
  show (match runGuards [.assertNonneg] x with | .ok () => _ | .error e => _) = _
  simp only [runGuards]
  by_cases h : x < 0 <;> simp only [h, ↓reduceIte]

theorem fromValue_mutez (x : Int) : fromValue .mutez x =
    if x < 0 then .error .assertion else if 63 < PyNum.bitLength x then .error .overflow else .ok (.num .mutez x) := by
  show (match runGuards [.assertNonneg, .overflowIfBitsGt 63] x with | .ok () => _ | .error e => _) = _
  simp only [runGuards, gt_iff_lt]
  by_cases h : x < 0 <;> by_cases h2 : 63 < PyNum.bitLength x <;> simp only [h, h2, ↓reduceIte]

theorem fromValue_nat_of_nonneg (x : Int) (h : 0 ≤ x) : fromValue .nat x = .ok (.num .nat x) := by
  rw [fromValue_nat, if_neg (Int.not_lt.2 h)]

/-- for a non-negative amount the 63-bit test of `MutezType.from_value` is the only one, and it is `x < 2^63` -/
theorem fromValue_mutez_of_nonneg (x : Int) (h : 0 ≤ x) :
    fromValue .mutez x = if x < 2 ^ 63 then .ok (.num .mutez x) else .error .overflow := by
  rw [fromValue_mutez, if_neg (Int.not_lt.2 h)]
  by_cases h2 : x < 2 ^ 63
  · rw [if_pos h2, if_neg fun hb => absurd ((bits63 x h).1 hb) (Int.not_le.2 h2)]
  · rw [if_neg h2, if_pos ((bits63 x h).2 (Int.not_lt.1 h2))]

/-- the `from_value` constructors build a value exactly when the type has one -/
theorem fromValue_spec (t : NTy) (x : Int) : (fromValue t.prim x).toOption = Spec.Arith.mk t x := by
  cases t with
  | int => rfl
  | timestamp => rfl
  | nat =>
    show (fromValue .nat x).toOption = if 0 ≤ x then some (.num .nat x) else none
    by_cases h : 0 ≤ x
    · rw [fromValue_nat_of_nonneg x h, if_pos h]; rfl
    · rw [fromValue_nat, if_pos (Int.not_le.1 h), if_neg h]; rfl
  | mutez =>
    show (fromValue .mutez x).toOption = if 0 ≤ x ∧ x < 2 ^ 63 then some (.num .mutez x) else none
    by_cases h : 0 ≤ x
    · rw [fromValue_mutez_of_nonneg x h]
      by_cases h2 : x < 2 ^ 63
      · rw [if_pos h2, if_pos ⟨h, h2⟩]; rfl
      · rw [if_neg h2, if_neg fun hc => h2 hc.2]; rfl
    · rw [fromValue_mutez, if_pos (Int.not_le.1 h), if_neg fun hc => h hc.1]; rfl

theorem mk_eq (t : NTy) (x : Int) : Spec.Arith.mk t x = if (Val.num t x).WF then some (.num t x) else none := by
  cases t <;> rfl

theorem toOption_eq_some {α : Type} {r : Except Err α} {v : α} (h : r.toOption = some v) : r = .ok v := by
  cases r with
  | ok a => exact congrArg Except.ok (Option.some.inj h)
  | error e => cases h

theorem fromValue_ok_iff (t : NTy) (x : Int) (v : Val) :
    fromValue t.prim x = .ok v ↔ (Val.num t x).WF ∧ v = .num t x := by
  have hs := fromValue_spec t x
  rw [mk_eq] at hs
  constructor
  · intro e
    rw [e] at hs
    split at hs <;> cases hs
    exact ⟨‹_›, rfl⟩
  · rintro ⟨h, rfl⟩
    rw [if_pos h] at hs
    exact toOption_eq_some hs

theorem wrap_toOption (r : Except Err Val) : (wrap r).toOption = r.toOption.map .one := by
  cases r <;> rfl

theorem wrap_fromValue_spec (t : NTy) (x : Int) : (wrap (fromValue t.prim x)).toOption = (Spec.Arith.mk t x).map .one := by
  rw [wrap_toOption, fromValue_spec]

theorem edivNum_spec (tq tr : NTy) (x y : Int) :
    (edivNum tq.prim tr.prim x y).toOption = Spec.Arith.edivAt tq tr x y := by
  unfold edivNum Spec.Arith.edivAt
  split
  · rfl
  · next hy =>
    simp only [divmod_euclid x y hy, ← fromValue_spec]
    cases fromValue tq.prim (x / y) <;> cases fromValue tr.prim (x % y) <;> rfl

end Impl.Arith

namespace Spec.Arith

theorem bit_ofNat (n i : Nat) : bit (n : Int) i = n.testBit i := rfl
theorem bit_negSucc (n i : Nat) : bit (Int.negSucc n) i = !n.testBit i := rfl

theorem bit_zero_eq (z : Int) : bit z 0 = decide (z % 2 = 1) := by
  cases z with
  | ofNat n => exact (Nat.testBit_zero n).trans (decide_eq_decide.2 (Int.ofNat_inj (n := 1)).symm)
  | negSucc n =>
    rw [bit_negSucc, Nat.testBit_zero]
    -- `Int.negSucc n % 2`, by the definition of `Int.emod`
    show _ = decide (Int.subNatNat 2 (n % 2 + 1) = 1)
    rcases Nat.mod_two_eq_zero_or_one n with h | h <;> rw [h] <;> rfl

/-- `Int./` by 2 halves the `Nat` under either constructor -/
theorem bit_succ_eq (z : Int) (i : Nat) : bit z (i + 1) = bit (z / 2) i := by
  cases z with
  | ofNat n => exact Nat.testBit_succ n i
  | negSucc n => exact congrArg (!·) (Nat.testBit_succ n i)

theorem bit_zero_int (i : Nat) : bit 0 i = false := Nat.zero_testBit i

theorem bit_neg_one (i : Nat) : bit (-1) i = true := congrArg (!·) (Nat.zero_testBit i)

theorem bit_sign_ite (c : Bool) (i : Nat) : bit (if c then -1 else 0) i = c := by
  cases c
  · exact bit_zero_int i
  · exact bit_neg_one i

/-- `a` is `0` or `-1`; the range is written with `2 ^ 0` to be the hypothesis of `bit_bitop` at `n = 0` as it stands -/
theorem bit_of_sign (a : Int) (h : -(2 ^ 0 : Int) ≤ a ∧ a < 2 ^ 0) (i : Nat) : bit a i = decide (a < 0) := by
  have : a = 0 ∨ a = -1 := by omega
  rcases this with rfl | rfl
  · exact bit_zero_int i
  · exact bit_neg_one i

theorem bit_cons_zero (r : Int) (c : Bool) : bit (2 * r + if c then 1 else 0) 0 = c := by
  rw [bit_zero_eq, Int.add_comm, Int.add_mul_emod_self_left]
  cases c <;> rfl

theorem bit_cons_succ (r : Int) (c : Bool) (i : Nat) : bit (2 * r + if c then 1 else 0) (i + 1) = bit r i := by
  rw [bit_succ_eq, Int.add_comm, Int.add_mul_ediv_left _ _ (by decide)]
  cases c <;> exact congrArg (bit · i) (Int.zero_add r)

theorem half_range (a P : Int) (h : -(P * 2) ≤ a ∧ a < P * 2) : -P ≤ a / 2 ∧ a / 2 < P := by omega

theorem bit_bitop (f : Bool → Bool → Bool) : ∀ (n : Nat) (a b : Int) (i : Nat),
    (-(2 ^ n : Int) ≤ a ∧ a < 2 ^ n) → (-(2 ^ n : Int) ≤ b ∧ b < 2 ^ n) →
    bit (bitop f n a b) i = f (bit a i) (bit b i) := by
  intro n
  induction n with
  | zero =>
    intro a b i ha hb
    rw [bitop, bit_sign_ite, bit_of_sign a ha, bit_of_sign b hb]
  | succ n ih =>
    intro a b i ha hb
    rw [bitop]
    cases i with
    | zero => rw [bit_cons_zero, bit_zero_eq a, bit_zero_eq b]
    -- `2 ^ (n + 1)` unfolds to `2 ^ n * 2`, the shape in which `half_range` takes the bound
    | succ j => rw [bit_cons_succ, ih _ _ j (half_range a _ ha) (half_range b _ hb), bit_succ_eq a, bit_succ_eq b]

theorem bitLength_le_range (z : Int) (k : Nat) (h : bitLength z ≤ k) : -(2 ^ k : Int) ≤ z ∧ z < 2 ^ k :=
  have := (natAbs_lt_two_pow z k).1 ((bitLength_le_iff z k).1 h)
  ⟨Int.le_of_lt this.1, this.2⟩

theorem bit_bitop_width (f : Bool → Bool → Bool) (a b : Int) (i : Nat) :
    bit (bitop f (width a b) a b) i = f (bit a i) (bit b i) :=
  bit_bitop f _ a b i (bitLength_le_range a _ (Nat.le_max_left ..)) (bitLength_le_range b _ (Nat.le_max_right ..))

theorem bit_and (a b : Int) (i : Nat) : bit (PyNum.and a b) i = (bit a i && bit b i) := bit_bitop_width _ a b i
theorem bit_or (a b : Int) (i : Nat) : bit (PyNum.or a b) i = (bit a i || bit b i) := bit_bitop_width _ a b i
theorem bit_xor (a b : Int) (i : Nat) : bit (PyNum.xor a b) i = (bit a i != bit b i) := bit_bitop_width _ a b i

theorem bit_invert (a : Int) (i : Nat) : bit (PyNum.invert a) i = !bit a i := by
  cases a with
  | ofNat n => exact congrArg (bit · i) (show PyNum.invert (Int.ofNat n) = Int.negSucc n from (Int.negSucc_eq n).symm)
  | negSucc n =>
    rw [show PyNum.invert (Int.negSucc n) = (n : Int) by unfold PyNum.invert; omega, bit_ofNat, bit_negSucc,
      Bool.not_not]

theorem testBit_of_le {n i : Nat} (h : n ≤ i) : n.testBit i = false :=
  Nat.testBit_lt_two_pow (Nat.lt_of_le_of_lt h Nat.lt_two_pow_self)

theorem bit_sign (z : Int) : (z < 0) ↔ ∃ k, ∀ i, k ≤ i → bit z i = true := by
  cases z with
  | ofNat n =>
    refine ⟨fun h => absurd h (Int.not_lt.2 (Int.natCast_nonneg n)), fun ⟨k, hk⟩ => ?_⟩
    have h1 : n.testBit (max k n) = true := hk (max k n) (Nat.le_max_left ..)
    rw [testBit_of_le (Nat.le_max_right ..)] at h1
    cases h1
  | negSucc n =>
    refine ⟨fun _ => ⟨n, fun i hi => ?_⟩, fun _ => Int.negSucc_lt_zero n⟩
    rw [bit_negSucc, testBit_of_le hi]; rfl

/-- a statement "bit `i` of the result is …" for every `i`, as `C16.and_spec` and `not_spec` make it, leaves one result -/
theorem bit_ext (x y : Int) (h : ∀ i, bit x i = bit y i) : x = y := by
  have hs : x < 0 ↔ y < 0 := by rw [bit_sign, bit_sign]; simp only [h]
  cases x with
  | ofNat n =>
    cases y with
    | ofNat m => exact congrArg Int.ofNat (Nat.eq_of_testBit_eq h)
    | negSucc m => exact absurd (hs.2 (Int.negSucc_lt_zero m)) (Int.not_lt.2 (Int.natCast_nonneg n))
  | negSucc n =>
    cases y with
    | ofNat m => exact absurd (hs.1 (Int.negSucc_lt_zero n)) (Int.not_lt.2 (Int.natCast_nonneg m))
    | negSucc m => exact congrArg Int.negSucc (Nat.eq_of_testBit_eq fun i => Bool.not_inj (h i))

theorem toNat_testBit (r : Int) (h : 0 ≤ r) (i : Nat) : r.toNat.testBit i = bit r i := by
  cases r with
  | ofNat n => rfl
  | negSucc n => exact absurd h (by simp)

theorem nonneg_of_bits (r : Int) (k : Nat) (h : ∀ i, k ≤ i → bit r i = false) : 0 ≤ r :=
  Int.not_lt.1 fun hneg => by
    obtain ⟨k', hk'⟩ := (bit_sign r).1 hneg
    have h2 := hk' (max k k') (Nat.le_max_right ..)
    rw [h (max k k') (Nat.le_max_left ..)] at h2
    cases h2

theorem bit_high_false (z : Int) (h : 0 ≤ z) : ∀ i, z.toNat ≤ i → bit z i = false := by
  intro i hi
  rw [← toNat_testBit z h]
  exact testBit_of_le hi

theorem and_nonneg_right (a b : Int) (hb : 0 ≤ b) : 0 ≤ PyNum.and a b :=
  nonneg_of_bits _ b.toNat fun i hi => by rw [bit_and, bit_high_false b hb i hi, Bool.and_false]

theorem and_nonneg_left (a b : Int) (ha : 0 ≤ a) : 0 ≤ PyNum.and a b :=
  nonneg_of_bits _ a.toNat fun i hi => by rw [bit_and, bit_high_false a ha i hi, Bool.false_and]

/-- on naturals the digit-by-digit combination by `f` is the bitwise operation of `Nat` that combines by `f`;
`f false false = false` is what keeps the result a natural number -/
theorem bitop_nat (f : Bool → Bool → Bool) (g : Nat → Nat → Nat) (hf : f false false = false)
    (hg : ∀ m n i, (g m n).testBit i = f (m.testBit i) (n.testBit i)) (a b : Int) (ha : 0 ≤ a) (hb : 0 ≤ b) :
    bitop f (width a b) a b = ((g a.toNat b.toNat : Nat) : Int) := by
  have h0 : 0 ≤ bitop f (width a b) a b :=
    nonneg_of_bits _ (max a.toNat b.toNat) fun i hi => by
      rw [bit_bitop_width, bit_high_false a ha i (Nat.le_trans (Nat.le_max_left ..) hi),
        bit_high_false b hb i (Nat.le_trans (Nat.le_max_right ..) hi), hf]
  rw [← Int.toNat_of_nonneg h0]
  refine congrArg Nat.cast (Nat.eq_of_testBit_eq fun i => ?_)
  rw [toNat_testBit _ h0, bit_bitop_width, hg, toNat_testBit a ha, toNat_testBit b hb]

/-- on naturals Python's `&`, `|`, `^` are the bitwise operations of `Nat` -/
theorem and_nat (a b : Int) (ha : 0 ≤ a) (hb : 0 ≤ b) : PyNum.and a b = ((a.toNat &&& b.toNat : Nat) : Int) :=
  bitop_nat _ _ rfl Nat.testBit_and a b ha hb

theorem or_nat (a b : Int) (ha : 0 ≤ a) (hb : 0 ≤ b) : PyNum.or a b = ((a.toNat ||| b.toNat : Nat) : Int) :=
  bitop_nat _ _ rfl Nat.testBit_or a b ha hb

theorem xor_nat (a b : Int) (ha : 0 ≤ a) (hb : 0 ≤ b) : PyNum.xor a b = ((a.toNat ^^^ b.toNat : Nat) : Int) :=
  bitop_nat _ _ rfl Nat.testBit_xor a b ha hb

end Spec.Arith
