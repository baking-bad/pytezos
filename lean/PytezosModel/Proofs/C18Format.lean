import PytezosModel.Proofs.C18Lex
/-! C18 helper lemmas: the text produced by the formatter — in either layout — lexes to the token stream of the
expression.  The layout decisions (`inline`, the `line_size` tests) only choose between separators made of blanks
and newlines, so one induction covers both layouts. -/
namespace Impl.Text

def DS (s : List Char) : Prop := ∃ c cs, s = c :: cs ∧ c ∈ delimChars

theorem DS.delim {s : List Char} (h : DS s) (rest : List Char) : Delim (s ++ rest) := by
  obtain ⟨c, cs, rfl, hc⟩ := h
  intro c' cs' h'
  cases h'
  exact hc

theorem DS.append {s : List Char} (h : DS s) (t : List Char) : DS (s ++ t) := by
  obtain ⟨c, cs, rfl, hc⟩ := h
  exact ⟨c, cs ++ t, rfl, hc⟩

theorem map_map_append (o : Option (List Tok)) (a b : List Tok) :
    (o.map (b ++ ·)).map (a ++ ·) = o.map ((a ++ b) ++ ·) := by
  cases o <;> simp [List.append_assoc]

section
variable {sp : LexSpec}

theorem LxS.toLx {s ts} (h : LxS sp s ts) : Lx sp s ts := fun rest _ => h rest

theorem LxS.append {s1 s2 ts1 ts2} (h1 : LxS sp s1 ts1) (h2 : LxS sp s2 ts2) : LxS sp (s1 ++ s2) (ts1 ++ ts2) := by
  intro rest
  rw [List.append_assoc, h1, h2, map_map_append]

theorem LxS.append_lx {s1 s2 ts1 ts2} (h1 : LxS sp s1 ts1) (h2 : Lx sp s2 ts2) : Lx sp (s1 ++ s2) (ts1 ++ ts2) := by
  intro rest hd
  rw [List.append_assoc, h1, h2 rest hd, map_map_append]

theorem Lx.append {s1 s2 ts1 ts2} (h1 : Lx sp s1 ts1) (h2 : Lx sp s2 ts2) (hds : DS s2) :
    Lx sp (s1 ++ s2) (ts1 ++ ts2) := by
  intro rest hd
  rw [List.append_assoc, h1 _ (hds.delim rest), h2 rest hd, map_map_append]

def Tl (sp : LexSpec) (tail : List Char) (ts : List Tok) : Prop := (tail = [] ∧ ts = []) ∨ (DS tail ∧ Lx sp tail ts)

theorem Lx.append_tl {s tail ts ts'} (h1 : Lx sp s ts) (h2 : Tl sp tail ts') : Lx sp (s ++ tail) (ts ++ ts') := by
  rcases h2 with ⟨rfl, rfl⟩ | ⟨hds, h2⟩
  · simpa using h1
  · exact h1.append h2 hds

/-- what the formatter puts between two pieces or after the last one: text that starts with a delimiter and lexes to
`t` whatever follows (blanks, a newline with its indentation, punctuation, or several of these in a row) -/
structure Sep (sp : LexSpec) (ws : List Char) (t : List Tok) : Prop where
  lx : LxS sp ws t
  ds : DS ws

theorem Sep.append {w1 w2 t1 t2} (h1 : Sep sp w1 t1) (h2 : LxS sp w2 t2) : Sep sp (w1 ++ w2) (t1 ++ t2) :=
  ⟨h1.lx.append h2, h1.ds.append _⟩

theorem Lx.sep {s1 s2 ws ts1 ts2 t} (h1 : Lx sp s1 ts1) (hs : Sep sp ws t) (h2 : Lx sp s2 ts2) :
    Lx sp (s1 ++ ws ++ s2) (ts1 ++ t ++ ts2) := by
  simpa only [List.append_assoc] using h1.append (hs.lx.append_lx h2) (hs.ds.append _)

theorem Lx.blank {s1 s2 ws ts1 ts2} (h1 : Lx sp s1 ts1) (hs : Sep sp ws []) (h2 : Lx sp s2 ts2) :
    Lx sp (s1 ++ ws ++ s2) (ts1 ++ ts2) := by
  simpa only [List.append_nil] using h1.sep hs h2

theorem Lx.close {s ws ts t} (h : Lx sp s ts) (hs : Sep sp ws t) : Lx sp (s ++ ws) (ts ++ t) :=
  h.append hs.lx.toLx hs.ds

variable (ok : SpecOK sp)
include ok

theorem sep_space : Sep sp [' '] [] := by
  refine ⟨fun rest => ?_, ' ', [], rfl, by decide⟩
  rw [List.cons_append, List.nil_append, lexWith_skip sp ' ' _ ok.ign_space]
  cases lexWith sp rest <;> simp

theorem sep_nl (n : Nat) : Sep sp ('\n' :: spaces n) [] := by
  refine ⟨fun rest => ?_, '\n', _, rfl, by decide⟩
  rw [List.cons_append, lexWith_skip sp '\n' _ ok.ign_nl, lexWith_spaces ok]
  cases lexWith sp rest <;> simp

theorem sep_punct (c : Char) (t : Tok) (h : (c, t) ∈ punctToks) : Sep sp [c] [t] :=
  ⟨lex_punct ok c t h, c, [], rfl, (by decide : ∀ p ∈ punctToks, p.1 ∈ delimChars) _ h⟩

theorem head_lx (s : List Char) (ts : List Tok) (hs : Lx sp s ts) (annots : List String)
    (ha : annots.all (fun a => annotLexes sp a.toList) = true) :
    Lx sp (joinSep [' '] (s :: annots.map String.toList)) (ts ++ annotToks annots) := by
  induction annots generalizing s ts with
  | nil => simpa [joinSep, annotToks] using hs
  | cons a as ih =>
    simp only [List.all_cons, Bool.and_eq_true] at ha
    have h := ih a.toList [Tok.annot a.toList] (lex_annot ok a.toList ha.1) ha.2
    exact hs.blank (sep_space ok) h

end

/-- the `expr` computed by `format_node` for a primitive application (before the parentheses are decided) -/
def primExpr (cfg : FmtCfg) (inline : Bool) (indent : Nat) (p : String) (args : List Mich) (annots : List String) :
    List Char :=
  let expr0 := joinSep [' '] (p.toList :: annots.map String.toList)
  if isComplex cfg p then
    let argIndent := indent + 2
    let items := fmtArgs cfg inline argIndent args
    let length := indent + expr0.length + sumLen items + items.length + 1
    if inline || length < cfg.lineSize then expr0 ++ [' '] ++ joinSep [' '] items
    else joinSep ('\n' :: spaces argIndent) (expr0 :: items)
  else
    match args with
    | [] => expr0
    | [a] => expr0 ++ [' '] ++ fmtNode cfg inline (indent + (expr0.length + 1)) false false a
    | a :: b :: rest =>
      fmtLoop cfg inline indent (isInline cfg p) (indent + (expr0.length + 2)) (indent + 2) expr0 (a :: b :: rest)

theorem fmtNode_prim (cfg : FmtCfg) (inline : Bool) (indent : Nat) (isRoot wrapped : Bool) (p : String)
    (args : List Mich) (annots : List String) :
    fmtNode cfg inline indent isRoot wrapped (.prim p args annots) =
      if isFramed cfg p args annots && !isRoot && !wrapped then ['('] ++ primExpr cfg inline indent p args annots ++ [')']
      else primExpr cfg inline indent p args annots := by
  match args with
  | [] => simp only [fmtNode, primExpr]
  | [a] => simp only [fmtNode, primExpr]
  | a :: b :: rest => simp only [fmtNode, primExpr]

section main
variable {sp : LexSpec} (ok : SpecOK sp) (tags : List String) (cfg : FmtCfg) (inline : Bool)

def NodesLx (sp : LexSpec) (cfg : FmtCfg) (inline : Bool) (l : List Mich) : Prop :=
  ∀ x ∈ l, ∀ indent isRoot wrapped, Lx sp (fmtNode cfg inline indent isRoot wrapped x) (toksNode cfg isRoot wrapped x)

theorem NodesLx.tail {x : Mich} {xs : List Mich} (h : NodesLx sp cfg inline (x :: xs)) : NodesLx sp cfg inline xs :=
  fun y hy => h y (List.mem_cons_of_mem x hy)

theorem items_lx (x : Mich) (xs : List Mich) (h : NodesLx sp cfg inline (x :: xs)) (ind : Nat) (sep : List Char)
    (hs : Sep sp sep [Tok.semi]) :
    Lx sp (joinSep sep (fmtItems cfg inline ind (x :: xs))) (toksItems cfg (x :: xs)) := by
  have h1 := h x List.mem_cons_self ind false true
  match xs, h with
  | [], _ => exact h1
  | y :: ys, h => exact h1.sep hs (items_lx y ys h.tail ind sep hs)

theorem args_lx (a : Mich) (as : List Mich) (h : NodesLx sp cfg inline (a :: as)) (ind : Nat) (sep : List Char)
    (hs : Sep sp sep []) :
    Lx sp (joinSep sep (fmtArgs cfg inline ind (a :: as))) (toksArgs cfg (a :: as)) := by
  have h1 := h a List.mem_cons_self ind false false
  match as, h with
  | [], _ => simpa [fmtArgs, joinSep, toksArgs] using h1
  | b :: bs, h => exact h1.blank hs (args_lx b bs h.tail ind sep hs)

include ok

theorem seq_lx (x : Mich) (xs : List Mich) (h : NodesLx sp cfg inline (x :: xs)) (indent : Nat) (isRoot wrapped : Bool) :
    Lx sp (fmtNode cfg inline indent isRoot wrapped (.seq (x :: xs))) (toksNode cfg isRoot wrapped (.seq (x :: xs))) := by
  have hie : ∀ k, (fmtItems cfg inline k (x :: xs)).isEmpty = false := fun _ => rfl
  have semi : ∀ {ws}, Sep sp ws [] → Sep sp (';' :: ws) [Tok.semi] :=
    fun h => (sep_punct ok ';' .semi (by decide)).append h.lx
  simp only [fmtNode, toksNode, hie, Bool.false_eq_true, if_false]
  cases isRoot && isScript cfg (x :: xs) with
  | true =>
    simp only [if_true]
    split
    · exact items_lx cfg inline x xs h _ _ (semi (sep_space ok))
    · exact items_lx cfg inline x xs h _ _ (semi (sep_nl ok _))
  | false =>
    simp only [Bool.false_eq_true, if_false]
    have braces : ∀ s, Lx sp s (toksItems cfg (x :: xs)) →
        Lx sp (['{', ' '] ++ s ++ [' ', '}']) ([Tok.lcurly] ++ toksItems cfg (x :: xs) ++ [Tok.rcurly]) := by
      intro s hs
      have hopen := (sep_punct ok '{' .lcurly (by decide)).lx.append (sep_space ok).lx
      have hclose := (sep_space ok).append (sep_punct ok '}' .rcurly (by decide)).lx
      exact hopen.append_lx (hs.close hclose)
    split
    · exact braces _ (items_lx cfg inline x xs h _ _ ((sep_space ok).append (semi (sep_space ok)).lx))
    · exact braces _ (items_lx cfg inline x xs h _ _ ((sep_space ok).append (semi (sep_nl ok _)).lx))

theorem loop_lx (args : List Mich) (h : NodesLx sp cfg inline args) (indent : Nat) (isInl : Bool)
    (altIndent argIndent : Nat) (expr : List Char) :
    ∃ tail, fmtLoop cfg inline indent isInl altIndent argIndent expr args = expr ++ tail ∧
      Tl sp tail (toksArgs cfg args) :=
  match args, h with
  | [], _ => ⟨[], (List.append_nil _).symm, Or.inl ⟨rfl, rfl⟩⟩
  | a :: rest, h => by
    have hA := h a List.mem_cons_self argIndent false false
    -- either way the argument follows the text so far after a blank separator `ws`
    have step : ∀ ws k e', e' = expr ++ (ws ++ fmtNode cfg inline argIndent false false a) → Sep sp ws [] →
        ∃ tail, fmtLoop cfg inline indent isInl altIndent k e' rest = expr ++ tail ∧
          Tl sp tail (toksArgs cfg (a :: rest)) := by
      intro ws k e' he hs
      obtain ⟨tail, ht, htl⟩ := loop_lx rest h.tail indent isInl altIndent k e'
      refine ⟨ws ++ fmtNode cfg inline argIndent false false a ++ tail, ?_, Or.inr ⟨hs.ds.append _ |>.append _, ?_⟩⟩
      · rw [ht, he]; simp [List.append_assoc]
      · simpa [toksArgs, List.append_assoc] using hs.lx.append_lx (hA.append_tl htl)
    simp only [fmtLoop]
    split
    · exact step [' '] _ _ (by simp) (sep_space ok)
    · exact step ('\n' :: spaces argIndent) _ _ (by simp) (sep_nl ok _)

theorem primExpr_lx_of (p : String) (args : List Mich) (annots : List String)
    (hp : primLexes sp p.toList = true) (ha : annots.all (fun a => annotLexes sp a.toList) = true)
    (hargs : NodesLx sp cfg inline args) (indent : Nat) :
    Lx sp (primExpr cfg inline indent p args annots) ([Tok.prim p.toList] ++ annotToks annots ++ toksArgs cfg args) := by
  have h0 : Lx sp (joinSep [' '] (p.toList :: annots.map String.toList)) ([Tok.prim p.toList] ++ annotToks annots) :=
    head_lx ok _ _ (lex_prim ok p.toList hp) annots ha
  unfold primExpr
  dsimp only
  split
  · -- complex: the arguments all on the line of the head, or one per line
    match args, hargs with
    | [], _ =>
      simp only [fmtArgs, joinSep, toksArgs, List.append_nil]
      split
      · simpa using h0.close (sep_space ok)
      · exact h0
    | a :: as, hargs =>
      have hA := fun sep hs => args_lx cfg inline a as hargs (indent + 2) sep hs
      split
      · exact h0.blank (sep_space ok) (hA _ (sep_space ok))
      · exact h0.blank (sep_nl ok _) (hA _ (sep_nl ok _))
  · -- otherwise by the number of arguments: none, one on the same line, or the loop
    match args, hargs with
    | [], _ => simpa [toksArgs] using h0
    | [a], hargs =>
      simpa [toksArgs] using h0.blank (sep_space ok) (hargs a List.mem_cons_self
        (indent + ((joinSep [' '] (p.toList :: annots.map String.toList)).length + 1)) false false)
    | a :: b :: rest, hargs =>
      obtain ⟨tail, htail, htl⟩ := loop_lx ok cfg inline (a :: b :: rest) hargs indent (isInline cfg p)
        (indent + ((joinSep [' '] (p.toList :: annots.map String.toList)).length + 2)) (indent + 2)
        (joinSep [' '] (p.toList :: annots.map String.toList))
      dsimp only
      rw [htail]
      exact h0.append_tl htl

theorem fmtNode_lx (e : Mich) (hwf : wfNode sp tags e = true) : ∀ indent isRoot wrapped,
    Lx sp (fmtNode cfg inline indent isRoot wrapped e) (toksNode cfg isRoot wrapped e) := by
  refine wfNode_induct sp tags ?_ ?_ ?_ ?_ ?_ e hwf
  · exact fun v _ _ _ => lex_int ok v
  · exact fun s _ _ _ => (lex_str ok s.toList).toLx
  · exact fun b hb _ _ _ => lex_bytes ok b hb
  · intro xs ih indent isRoot wrapped
    match xs, ih with
    | [], _ => exact ((lex_punct ok '{' .lcurly (by decide)).append (lex_punct ok '}' .rcurly (by decide))).toLx
    | x :: xs, ih => exact seq_lx ok cfg inline x xs ih indent isRoot wrapped
  · intro p args annots _ hp ha ih indent isRoot wrapped
    have hexpr := primExpr_lx_of ok cfg inline p args annots hp ha ih indent
    rw [fmtNode_prim]
    simp only [toksNode]
    split
    · exact (lex_punct ok '(' .lparen (by decide)).append_lx (hexpr.close (sep_punct ok ')' .rparen (by decide)))
    · exact hexpr

theorem nodes_lx (l : List Mich) (hl : wfList sp tags l = true) : NodesLx sp cfg inline l :=
  fun x hx => fmtNode_lx ok tags cfg inline x (wfList_mem sp tags hl x hx)

theorem primExpr_lx (p : String) (args : List Mich) (annots : List String)
    (hp : primLexes sp p.toList = true) (ha : annots.all (fun a => annotLexes sp a.toList) = true)
    (hargs : wfList sp tags args = true) (indent : Nat) :
    Lx sp (primExpr cfg inline indent p args annots) ([Tok.prim p.toList] ++ annotToks annots ++ toksArgs cfg args) :=
  primExpr_lx_of ok cfg inline p args annots hp ha (nodes_lx ok tags cfg inline args hargs) indent

theorem fmtItems_lx (x : Mich) (xs : List Mich) (hx : wfNode sp tags x = true) (hxs : wfList sp tags xs = true)
    (ind : Nat) (sep : List Char) (hsep : LxS sp sep [Tok.semi]) (hds : DS sep) :
    Lx sp (joinSep sep (fmtItems cfg inline ind (x :: xs))) (toksItems cfg (x :: xs)) :=
  items_lx cfg inline x xs (nodes_lx ok tags cfg inline (x :: xs) (by simp [wfList, hx, hxs])) ind sep ⟨hsep, hds⟩

theorem fmtArgs_lx (a : Mich) (as : List Mich) (ha : wfNode sp tags a = true) (has : wfList sp tags as = true)
    (ind : Nat) (sep : List Char) (hsep : LxS sp sep []) (hds : DS sep) :
    Lx sp (joinSep sep (fmtArgs cfg inline ind (a :: as))) (toksArgs cfg (a :: as)) :=
  args_lx cfg inline a as (nodes_lx ok tags cfg inline (a :: as) (by simp [wfList, ha, has])) ind sep ⟨hsep, hds⟩

theorem fmtLoop_lx (args : List Mich) (hargs : wfList sp tags args = true) (indent : Nat) (isInl : Bool)
    (altIndent argIndent : Nat) (expr : List Char) :
    ∃ tail, fmtLoop cfg inline indent isInl altIndent argIndent expr args = expr ++ tail ∧
      Tl sp tail (toksArgs cfg args) :=
  loop_lx ok cfg inline args (nodes_lx ok tags cfg inline args hargs) indent isInl altIndent argIndent expr

end main
end Impl.Text
