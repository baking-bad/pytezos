import PytezosModel.Proofs.Encoding
import PytezosModel.Client.OpSign
/-! Non-vacuity witnesses for the hypotheses of C07 / C08 / C23: `Toy.codec`, the C09 mirror of Base58Check (real Base58,
a 4-byte stand-in checksum) over exactly the rows key.py and group.py use, as regenerated from the source; and
`Toy.prims`, a trivial signature scheme / hash / box — not secure, it only shows that `Laws` is consistent. -/
namespace Impl.Key.Toy

def toEnc (r : Row) : Impl.Encoding.Row := ⟨r.human, r.encLen, r.bin, r.dataLen⟩

/-- every kind the three mirrors hand to `base58_encode` / `base58_decode` -/
def rows : List Row := sigRows ++ keyRows ++ pkhRows ++ Impl.OpSign.hashRows

def tbl : List Impl.Encoding.Row := rows.map toEnc

def cks (v : List Nat) : List Nat := [v.length % 256, 1, 2, 3]

theorem cks_ok : Impl.Encoding.CksOk cks := .of_length_mod 1 2 3 (by omega) (by omega) (by omega)

def codec : Codec where
  encode v pfx :=
    match Impl.Encoding.encodeWith tbl cks v pfx with
    | .ok s => some s
    | .error _ => none
  decode s :=
    match Impl.Encoding.decodeWith tbl true true cks s with
    | .ok v => some v
    | .error _ => none

theorem tbl_ok : ∀ r ∈ tbl, Impl.Encoding.rowOk r = true := by decide +kernel
theorem tbl_pairs_ok : Impl.Encoding.pairsOk tbl = true := by decide +kernel
theorem tbl_dis : ∀ a ∈ tbl, ∀ b ∈ tbl, Impl.Encoding.rowsDisjoint a b = true :=
  (Impl.Encoding.pairsOk_spec tbl_pairs_ok).1
theorem tbl_ed : ∀ a ∈ tbl, ∀ b ∈ tbl, Impl.Encoding.rowsEncodeDistinct a b = true :=
  (Impl.Encoding.pairsOk_spec tbl_pairs_ok).2

theorem b58enc_ascii (bs : List Nat) : ∀ ch ∈ Base58.b58enc bs, ch < 128 := fun ch h => by
  have := Base58.b58enc_range bs ch h
  omega

theorem codec_laws : CodecLaws codec rows := by
  constructor
  intro r hr v hl hv
  have hr' : toEnc r ∈ tbl := List.mem_map_of_mem hr
  have hrow := tbl_ok _ hr'
  have henc : Impl.Encoding.encodeWith tbl cks v r.human = .ok _ :=
    Impl.Encoding.encodeWith_row tbl cks tbl_ed (toEnc r) hr' v hl
  have hshape := Impl.Encoding.encOf_shape cks cks_ok (toEnc r) hrow v hl hv
  have hdec := Impl.Encoding.decodeWith_enc tbl cks cks_ok true true (toEnc r) hr' (tbl_dis _ hr') hrow v hl hv
  refine ⟨Impl.Encoding.encOf cks (toEnc r) v, ?_, ?_, hshape.1, hshape.2.1, ?_⟩
  · simp only [codec, henc]
  · simp only [codec, hdec]
  · exact b58enc_ascii _

theorem laws_mono (C : Codec) (rs rs' : List Row) (h : CodecLaws C rs) (hsub : ∀ r ∈ rs', r ∈ rs) :
    CodecLaws C rs' :=
  ⟨fun r hr => h.enc_dec r (hsub r hr)⟩

theorem codec_laws_sig : CodecLaws codec sigRows :=
  laws_mono codec rows _ codec_laws (by intro r hr; simp [rows, hr])

theorem codec_laws_key : CodecLaws codec keyRows :=
  laws_mono codec rows _ codec_laws (by intro r hr; simp [rows, hr])

theorem codec_laws_pkh : CodecLaws codec pkhRows :=
  laws_mono codec rows _ codec_laws (by intro r hr; simp [rows, hr])

theorem codec_laws_hash : CodecLaws codec Impl.OpSign.hashRows :=
  laws_mono codec rows _ codec_laws (by intro r hr; simp [rows, hr])

/-- a one-byte "digest" of a payload -/
def tagOf (m : Bytes) : Nat := m.sum % 256

def prims : Prims where
  blake2b n m := List.replicate n (tagOf m)
  sha256 m := List.replicate 32 (tagOf m)
  edSeedKeypair seed := if seed.length = 32 ∧ seed.all (· < 256) = true then some (seed, seed ++ seed) else none
  edSkToPk sk := if sk.length = 64 then some (sk.drop 32) else none
  edSkToSeed sk := if sk.length = 64 then some (sk.take 32) else none
  pub c sk := if c = .ed then none else some (List.replicate (pkLen c) (tagOf sk))
  sign c _ m := some (List.replicate (sigLen c) (tagOf m))
  verify c _ m s := if s = List.replicate (sigLen c) (tagOf m) then .accept else .reject
  pbkdf2 _ _ pw salt := List.replicate 32 (tagOf (pw ++ salt))
  boxSeal _ _ m := List.replicate 16 0 ++ m
  boxOpen _ _ c := some (c.drop 16)
  toSeed text pass := List.replicate 64 (tagOf (text ++ pass))

theorem isBytes_of_all (b : Bytes) (h : b.all (· < 256) = true) : IsBytes b := by
  intro x hx
  have := List.all_eq_true.mp h x hx
  exact of_decide_eq_true this

/-- what every digest, key and signature of the toy scheme is: `n` copies of a tag byte -/
theorem replicate_tag (n : Nat) (m : Bytes) :
    (List.replicate n (tagOf m)).length = n ∧ IsBytes (List.replicate n (tagOf m)) :=
  ⟨List.length_replicate, fun y hy => by
    rw [List.eq_of_mem_replicate hy]
    exact Nat.mod_lt _ (by omega)⟩

theorem laws : Laws prims where
  sign_verify := by
    intro c pk sk _ m
    exact ⟨_, rfl, by simp [prims]⟩
  sign_len := by
    intro c sk m s h
    simp only [prims, Option.some.injEq] at h
    subst h
    exact replicate_tag _ _
  pk_len := by
    intro c pk sk h
    cases c
    · obtain ⟨seed, hs⟩ := h
      simp only [prims] at hs
      split at hs
      · rename_i hc; cases hs; exact ⟨hc.1, isBytes_of_all _ hc.2⟩
      · cases hs
    all_goals
      simp only [KeyPair, prims, reduceCtorEq, if_false, Option.some.injEq] at h
      subst h
      exact replicate_tag _ _
  ed_keypair := by
    intro seed pk sk h
    simp only [prims] at h
    split at h
    · rename_i hc
      cases h
      have h64 : (seed ++ seed).length = 64 := by simp [hc.1]
      have hb := isBytes_of_all _ hc.2
      refine ⟨hc.1, hb, h64, ?_, ?_, ?_⟩
      · intro x hx; rcases List.mem_append.mp hx with h | h <;> exact hb x h
      · simp only [prims, h64, if_true, ← hc.1, List.drop_left]
      · simp only [prims, h64, if_true, ← hc.1, List.take_left]
    · cases h
  blake_len := fun n m => replicate_tag n m
  sha_len := fun m => replicate_tag 32 m
  seal_open := by
    intro k n m
    simp [prims]
  seal_len := by
    intro k n m hm
    refine ⟨by simp [prims], ?_⟩
    intro x hx
    simp only [prims] at hx
    rcases List.mem_append.mp hx with h | h
    · rw [List.eq_of_mem_replicate h]; omega
    · exact hm x h

def keyBl : Key := ⟨List.replicate 48 (tagOf (List.range 32)), some (List.range 32), .bl⟩

theorem keyBl_valid : ValidKey prims keyBl := ⟨List.range 32, rfl, by decide, rfl⟩

def keyEd : Key := ⟨List.range 32, some (List.range 32 ++ List.range 32), .ed⟩

theorem keyEd_valid : ValidKey prims keyEd := ⟨_, rfl, by decide, ⟨List.range 32, by decide +kernel⟩⟩

def keyP2 : Key := ⟨List.replicate 33 (tagOf (List.range 32)), some (List.range 32), .p2⟩

theorem keyP2_valid : ValidKey prims keyP2 := ⟨List.range 32, rfl, by decide, rfl⟩

end Impl.Key.Toy
