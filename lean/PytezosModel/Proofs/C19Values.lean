import PytezosModel.Michelson.MacroSem
/-! C19 helper lemmas about the reference side only: the rewriting-rule meanings of `Spec` (`build`, `unbuild`, `cxr`,
`setCxr`, `mapCxr`, `dixp`, `duxp`) agree with their value-level readings. -/
namespace C19.Values
open Spec Sem

def pushPair : Option (Val × Stack) → Result
  | some (v, S) => .ok (v :: S)
  | none => .err

theorem under_one_then (f g : F) (a : Val) (S : Stack) : (under 1 f ⨾ g) (a :: S) = (f ⨾ fun S' => g (a :: S')) S := by
  show ((f S).bind _).bind g = (f S).bind _
  cases f S <;> rfl

/-- `build t` followed by `k`: `k` sees the value of the tree on top of the rest; a leaf takes nothing off the stack, so
there `k` has to be what fails on the empty stack -/
theorem build_then (t : PairTree) : ∀ (k : F) (S : Stack), (t = .leaf → k [] = .err) →
    (build t ⨾ k) S = match treeVal? t S with
      | some (v, S') => k (v :: S')
      | none => .err := by
  induction t with
  | leaf =>
    intro k S hk
    cases S with
    | nil => exact hk rfl
    | cons x S => rfl
  | node l r ihl ihr =>
    intro k S _
    show ((build l ⨾ under 1 (build r) ⨾ pairStep) ⨾ k) S = _
    rw [seqF_assoc, seqF_assoc, ihl _ S (fun _ => rfl)]
    simp only [treeVal?]
    cases treeVal? l S with
    | none => rfl
    | some x =>
      obtain ⟨a, S1⟩ := x
      dsimp only
      rw [under_one_then, ihr _ S1 (fun _ => rfl)]
      cases treeVal? r S1 with
      | none => rfl
      | some y => rfl

theorem build_value (l r : PairTree) (S : Stack) : build (.node l r) S = pushPair (treeVal? (.node l r) S) := by
  have := build_then (.node l r) .ok S (fun h => nomatch h)
  rw [seqF_ok_right] at this
  rw [this]
  cases treeVal? (.node l r) S with
  | none => rfl
  | some x => rfl

def pushList (S : Stack) : Option (List Val) → Result
  | some ls => .ok (ls ++ S)
  | none => .err

theorem unbuild_value (t : PairTree) : ∀ (v : Val) (S : Stack), unbuild t (v :: S) = pushList S (flatten? t v) := by
  induction t with
  | leaf => intro v S; rfl
  | node l r ihl ihr =>
    intro v S
    cases v with
    | pair a b =>
      simp only [unbuild, seqF, unpairStep, bind_ok, under, ihr b S, flatten?]
      cases flatten? r b with
      | none =>
        cases flatten? l a <;> rfl
      | some ys =>
        simp only [pushList, bind_ok, ihl a (ys ++ S)]
        cases flatten? l a with
        | none => rfl
        | some xs => simp
    | _ => rfl

theorem unbuild_nil (l r : PairTree) : unbuild (.node l r) [] = .err := rfl

theorem flatten_treeVal (t : PairTree) : ∀ (S : Stack) (v : Val) (S' : Stack), treeVal? t S = some (v, S') →
    ∃ ls, flatten? t v = some ls ∧ ls ++ S' = S := by
  induction t with
  | leaf =>
    intro S v S' h
    cases S with
    | nil => cases h
    | cons x S =>
      cases h
      exact ⟨[v], rfl, rfl⟩
  | node l r ihl ihr =>
    intro S v S' h
    simp only [treeVal?] at h
    cases h1 : treeVal? l S with
    | none => simp [h1] at h
    | some x =>
      obtain ⟨a, S1⟩ := x
      simp only [h1] at h
      cases h2 : treeVal? r S1 with
      | none => simp [h2] at h
      | some y =>
        obtain ⟨b, S2⟩ := y
        simp only [h2, Option.some.injEq, Prod.mk.injEq] at h
        obtain ⟨rfl, rfl⟩ := h
        obtain ⟨xs, hx, hxs⟩ := ihl S a S1 h1
        obtain ⟨ys, hy, hys⟩ := ihr S1 b S2 h2
        refine ⟨xs ++ ys, by simp [flatten?, hx, hy], ?_⟩
        rw [List.append_assoc, hys, hxs]

theorem unbuild_build (l r : PairTree) {S S' : Stack} (h : build (.node l r) S = .ok S') :
    unbuild (.node l r) S' = .ok S := by
  rw [build_value l r S] at h
  cases ht : treeVal? (.node l r) S with
  | none => rw [ht] at h; cases h
  | some x =>
    obtain ⟨v, S1⟩ := x
    rw [ht] at h
    cases h
    obtain ⟨ls, hf, hls⟩ := flatten_treeVal _ _ _ _ ht
    rw [unbuild_value, hf, ← hls]
    rfl

def pushVal (S : Stack) : Option Val → Result
  | some v => .ok (v :: S)
  | none => .err

theorem cxr_value (p : Path) : ∀ (v : Val) (S : Stack), cxr p (v :: S) = pushVal S (getPath p v) := by
  induction p with
  | nil => intro v S; rfl
  | cons d q ih =>
    intro v S
    cases v with
    | pair a b =>
      cases d
      · exact ih a S
      · exact ih b S
    | _ => cases d <;> rfl

theorem cxr_nil (p : Path) (hp : p ≠ []) : cxr p [] = .err := by
  cases p with
  | nil => exact absurd rfl hp
  | cons d q => cases d <;> rfl

/-- what `SET_CA…R`/`MAP_CA…R` put around the step `g` for the rest of the path: `g` works on the first component, and
the pair is rebuilt around its answer -/
theorem descendA_value (g : F) (a b : Val) (T S : Stack) (o : Option Val) (h : g (a :: T) = pushVal S o) :
    (dupStep ⨾ under 1 (carStep ⨾ g) ⨾ cdrStep ⨾ swapStep ⨾ pairStep) (.pair a b :: T) =
      pushVal S (o.map (.pair · b)) := by
  simp only [seqF, dupStep, under, carStep, bind_ok, h]
  cases o <;> rfl

theorem descendD_value (g : F) (a b : Val) (T S : Stack) (o : Option Val) (h : g (b :: T) = pushVal S o) :
    (dupStep ⨾ under 1 (cdrStep ⨾ g) ⨾ carStep ⨾ pairStep) (.pair a b :: T) = pushVal S (o.map (.pair a ·)) := by
  simp only [seqF, dupStep, under, cdrStep, bind_ok, h]
  cases o <;> rfl

theorem setCxr_value (p : Path) : ∀ (v x : Val) (S : Stack), setCxr p (v :: x :: S) = pushVal S (setPath p v x) := by
  induction p with
  | nil => intro v x S; rfl
  | cons d q ih =>
    intro v x S
    cases q with
    | nil => cases d <;> cases v <;> rfl
    | cons e q =>
      cases v with
      | pair a b =>
        cases d
        · exact descendA_value _ a b _ S _ (ih a x S)
        · exact descendD_value _ a b _ S _ (ih b x S)
      | _ => cases d <;> rfl

theorem setCxr_one (p : Path) : ∀ v : Val, setCxr p [v] = .err := by
  induction p with
  | nil => intro v; rfl
  | cons d q ih =>
    intro v
    cases q with
    | nil => cases d <;> cases v <;> rfl
    | cons e q =>
      cases v with
      | pair a b =>
        cases d
        · exact descendA_value _ a b [] [] none (ih a)
        · exact descendD_value _ a b [] [] none (ih b)
      | _ => cases d <;> rfl

theorem setCxr_nil (p : Path) : setCxr p [] = .err := by
  match p with
  | [] => rfl
  | [.A] => rfl
  | [.D] => rfl
  | .A :: _ :: _ => rfl
  | .D :: _ :: _ => rfl

/-- code that only rewrites the top element, whatever lies below -/
def Local (c : F) (f : Val → Val) : Prop := ∀ (x : Val) (T : Stack), c (x :: T) = .ok (f x :: T)

/-- should `c` leave an empty stack, the `SWAP` after it has one element and fails, which `pairStep []` stands for -/
theorem mapCxr_car (c : F) (a b : Val) (S : Stack) :
    mapCxr [.A] c (.pair a b :: S) = (c (a :: S)).bind fun T => pairStep (match T with
      | a' :: T' => a' :: b :: T'
      | [] => []) := by
  show (((c (a :: S)).bind fun S' => Result.ok (b :: S')).bind swapStep).bind pairStep = _
  cases c (a :: S) with
  | ok T => cases T <;> rfl
  | failed v => rfl
  | err => rfl

theorem mapCxr_cdr (c : F) (a b : Val) (S : Stack) :
    mapCxr [.D] c (.pair a b :: S) = (c (b :: .pair a b :: S)).bind (swapStep ⨾ carStep ⨾ pairStep) := by
  show (((c (b :: .pair a b :: S)).bind swapStep).bind carStep).bind pairStep = _
  cases c (b :: .pair a b :: S) <;> rfl

theorem mapCxr_value (p : Path) (c : F) (f : Val → Val) (hc : Local c f) :
    ∀ (v : Val) (S : Stack), mapCxr p c (v :: S) = pushVal S (mapPath p f v) := by
  induction p with
  | nil => intro v S; rfl
  | cons d q ih =>
    intro v S
    cases q with
    | nil =>
      cases v with
      | pair a b =>
        cases d
        · rw [mapCxr_car, hc]
          rfl
        · rw [mapCxr_cdr, hc]
          rfl
      | _ => cases d <;> rfl
    | cons e q =>
      cases v with
      | pair a b =>
        cases d
        · exact descendA_value _ a b S S _ (ih a S)
        · exact descendD_value _ a b S S _ (ih b S)
      | _ => cases d <;> rfl

theorem dixp_eq_under (n : Nat) (c : F) : dixp n c = under n c := by
  induction n with
  | zero => simp [dixp, under_zero]
  | succ n ih => rw [dixp, ih, Nat.add_comm, under_add]

theorem duxp_eq_dupN (n : Nat) (hn : 1 ≤ n) : duxp n = dupN n := by
  induction n with
  | zero => omega
  | succ n ih =>
    cases n with
    | zero =>
      funext S
      cases S <;> rfl
    | succ n =>
      rw [duxp, ih (by omega)]
      funext S
      match S with
      | [] => rfl
      | x :: T =>
        simp only [seqF, under, dupN, List.getElem?_cons_succ]
        cases T[n]? <;> rfl

end C19.Values
