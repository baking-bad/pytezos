import PytezosModel.Core.Bytes
import PytezosModel.Proofs.C16Num
namespace Core

theorem natToBE_eq : ∀ (n v : Nat), natToBE n v = if v < 256 ^ n then some (PyNum.toBytesBE n v) else none
  | 0, v => by
    by_cases h : v = 0 <;> simp [natToBE, PyNum.toBytesBE, h]
  | n + 1, v => by
    rw [natToBE, natToBE_eq n (v / 256), PyNum.toBytesBE]
    have hp : (256 : Nat) ^ (n + 1) = 256 ^ n * 256 := Nat.pow_succ ..
    by_cases h : v / 256 < 256 ^ n
    · have : v < 256 ^ (n + 1) := by rw [hp]; omega
      simp [h, this]
    · have : ¬ v < 256 ^ (n + 1) := by rw [hp]; omega
      simp [h, this]

theorem natToBE_spec (n v : Nat) (bs : Bytes) (h : natToBE n v = some bs) :
    bs.length = n ∧ beToNat bs = v ∧ Bytes.WF bs := by
  rw [natToBE_eq] at h
  split at h
  · cases h
    exact ⟨PyNum.toBytesBE_length n v, PyNum.fromBytesBE_toBytesBE n v ‹_›, PyNum.toBytesBE_wf n v⟩
  · cases h

theorem unforgeArray_append (k : Nat) (hdr data rest : Bytes) (h1 : hdr.length = k) (h2 : beToNat hdr = data.length) :
    unforgeArray k (hdr ++ (data ++ rest)) = some (data, rest) := by
  subst h1
  simp [unforgeArray, h2]

theorem forgeArray_some (k : Nat) (data bs : Bytes) (h : forgeArray k data = some bs) :
    ∃ hdr, bs = hdr ++ data ∧ hdr.length = k ∧ beToNat hdr = data.length := by
  obtain ⟨hdr, hr, rfl⟩ := Option.map_eq_some_iff.mp h
  obtain ⟨h1, h2, _⟩ := natToBE_spec _ _ _ hr
  exact ⟨hdr, rfl, h1, h2⟩

theorem unforgeArray_forgeArray (k : Nat) (data bs rest : Bytes) (h : forgeArray k data = some bs) :
    unforgeArray k (bs ++ rest) = some (data, rest) := by
  obtain ⟨hdr, rfl, h1, h2⟩ := forgeArray_some k data bs h
  rw [List.append_assoc, unforgeArray_append k hdr data rest h1 h2]

theorem forgeArray_length (k : Nat) (data bs : Bytes) (h : forgeArray k data = some bs) :
    bs.length = k + data.length := by
  obtain ⟨hdr, rfl, h1, _⟩ := forgeArray_some k data bs h
  rw [List.length_append, h1]

theorem unforgeArray_split (k : Nat) (d data rest : Bytes) (h : unforgeArray k d = some (data, rest)) :
    d = d.take k ++ data ++ rest ∧ k ≤ d.length ∧ data.length = beToNat (d.take k) := by
  simp only [unforgeArray] at h
  split at h
  · simp at h
  · split at h
    · simp at h
    · simp only [Option.some.injEq, Prod.mk.injEq] at h
      obtain ⟨rfl, rfl⟩ := h
      refine ⟨?_, by omega, ?_⟩
      · rw [List.append_assoc, List.take_append_drop, List.take_append_drop]
      · rw [List.length_take]; omega

theorem unforgeArray_local (k : Nat) (d data rest : Bytes) (h : unforgeArray k d = some (data, rest)) (tail : Bytes) :
    unforgeArray k ((d.take k ++ data) ++ tail) = some (data, tail) := by
  obtain ⟨_, hk, hl⟩ := unforgeArray_split k d data rest h
  rw [List.append_assoc, unforgeArray_append k _ data tail (by rw [List.length_take]; omega) hl.symm]

theorem forgeArray_drop (k : Nat) (data bs rest : Bytes) (h : forgeArray k data = some bs) :
    (bs ++ rest).drop k = data ++ rest := by
  obtain ⟨hdr, rfl, h1, _⟩ := forgeArray_some k data bs h
  rw [List.append_assoc, List.drop_left' h1]

theorem unforgeArray_zero4 (rest : Bytes) : unforgeArray 4 ([0, 0, 0, 0] ++ rest) = some ([], rest) := by
  simp [unforgeArray, beToNat]

/-- a reader takes a value from the head of a buffer and hands back what follows it -/
abbrev Reader (α : Type) := Bytes → Option (α × Bytes)

/-- a reader looks only at the bytes it consumes: they are a prefix of the buffer, and what follows them is handed back -/
def Local {α : Type} (p : Reader α) : Prop :=
  ∀ d a r, p d = some (a, r) → ∃ c, d = c ++ r ∧ ∀ tail, p (c ++ tail) = some (a, tail)

theorem Local.map {α β : Type} {p : Reader α} (hp : Local p) (g : α → β) :
    Local fun d => (p d).map fun x => (g x.1, x.2) := by
  intro d b r h
  obtain ⟨⟨a, r'⟩, hq, heq⟩ := Option.map_eq_some_iff.mp h
  obtain ⟨rfl, rfl⟩ := Prod.mk.inj heq
  obtain ⟨c, rfl, hc⟩ := hp d a r' hq
  exact ⟨c, rfl, fun tail => by simp only [hc tail, Option.map_some]⟩

theorem Local.bind {α β : Type} {p : Reader α} {q : α → Reader β} (hp : Local p)
    (hq : ∀ a, Local (q a)) : Local fun d => (p d).bind fun x => q x.1 x.2 := by
  intro d b r h
  obtain ⟨⟨a, r'⟩, h1, h2⟩ := Option.bind_eq_some_iff.mp h
  obtain ⟨c, rfl, hc⟩ := hp d a r' h1
  obtain ⟨c', rfl, hc'⟩ := hq a r' b r h2
  exact ⟨c ++ c', (List.append_assoc ..).symm, fun tail => by simp only [List.append_assoc, hc (c' ++ tail), Option.bind_some, hc' tail]⟩

theorem Local.ite {α : Type} {p q : Reader α} (hp : Local p) (hq : Local q) (c : Prop) [Decidable c] :
    Local fun d => if c then p d else q d := by
  by_cases h : c <;> simp only [h, if_true, if_false] <;> assumption

theorem Local.pure {α : Type} (a : α) : Local fun d => some (a, d) :=
  fun _ _ _ h => ⟨[], by cases h; rfl, fun _ => by cases h; rfl⟩

theorem Local.fail {α : Type} : Local fun _ => (none : Option (α × Bytes)) := nofun

theorem Local.byte {α : Type} {p : Reader α} {q : Nat → Reader α} (h0 : p [] = none)
    (hp : ∀ b d, p (b :: d) = q b d) (hq : ∀ b, Local (q b)) (d : Bytes) (a : α) (r : Bytes) (h : p d = some (a, r)) :
    ∃ c, d = c ++ r ∧ c ≠ [] ∧ ∀ tail, p (c ++ tail) = some (a, tail) := by
  rcases d with _ | ⟨b, d⟩
  · rw [h0] at h
    cases h
  · obtain ⟨c, rfl, hc⟩ := hq b d a r (hp b d ▸ h)
    exact ⟨b :: c, rfl, List.cons_ne_nil _ _, fun tail => by rw [List.cons_append, hp, hc]⟩

theorem local_array (k : Nat) : Local (unforgeArray k) := fun d v r h =>
  ⟨d.take k ++ v, (unforgeArray_split k d v r h).1, unforgeArray_local k d v r h⟩

end Core
