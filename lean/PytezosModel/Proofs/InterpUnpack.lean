import PytezosModel.Proofs.InterpUnpackTags
/-! UNPACK: the mirror of `MichelsonType.unpack` (`unforge_micheline` + `from_micheline_value`, every exception swallowed)
against the reference (`Spec.unpackV`: the strict decoder followed by the protocol's reading of an expression at a type). -/
namespace Interp
open Core Impl.Lower Typing

theorem parseValue_annot (hs : List (String × Nat)) (t : Nat) (args : List BMich) (a : Bytes) :
    Impl.parseValue hs (.prim t args (some a)) = none := by simp [Impl.parseValue]

/-- under `prim_int[t] = nm`, comparing a handler's name with `nm` is comparing its tag with `t` -/
theorem name_beq {name nm : String} {n t : Nat} (hiff : ∀ t, primOfTag t = some name ↔ t = n) (hp : primOfTag t = some nm) :
    (name == nm) = decide (t = n) := by
  by_cases e : t = n
  · have := (hiff t).mpr e
    rw [hp] at this
    cases this
    simp [e]
  · have : name ≠ nm := fun h => e ((hiff t).mp (h ▸ hp))
    simp [e, this]

theorem ne_of_none {name : String} {n t : Nat} (hiff : ∀ t, primOfTag t = some name ↔ t = n) (hp : primOfTag t = none) : t ≠ n :=
  fun e => by rw [(hiff t).mpr e] at hp; cases hp

theorem parseValue_one (name : String) (n k : Nat) (hiff : ∀ t, primOfTag t = some name ↔ t = n) (t : Nat) (args : List BMich) :
    Impl.parseValue [(name, k)] (.prim t args none) = if t = n ∧ args.length = k then some (0, args) else none := by
  unfold Impl.parseValue
  simp only [Option.isSome_none, Bool.false_eq_true, if_false]
  cases hp : primOfTag t with
  | none => simp [ne_of_none hiff hp]
  | some nm => simp [List.findIdx?_cons, name_beq hiff hp, @eq_comm _ k]

theorem parseValue_two (n1 : String) (t1 k1 : Nat) (n2 : String) (t2 k2 : Nat)
    (h1 : ∀ t, primOfTag t = some n1 ↔ t = t1) (h2 : ∀ t, primOfTag t = some n2 ↔ t = t2) (t : Nat) (args : List BMich) :
    Impl.parseValue [(n1, k1), (n2, k2)] (.prim t args none)
      = if t = t1 ∧ args.length = k1 then some (0, args) else if t = t2 ∧ args.length = k2 then some (1, args) else none := by
  unfold Impl.parseValue
  simp only [Option.isSome_none, Bool.false_eq_true, if_false]
  cases hp : primOfTag t with
  | none => simp [ne_of_none h1 hp, ne_of_none h2 hp]
  | some nm =>
    simp [List.findIdx?_cons, name_beq h1 hp, name_beq h2 hp, @eq_comm _ k1, @eq_comm _ k2]
    split
    · rfl
    · split <;> rfl

theorem pv_unit (t : Nat) (args : List BMich) : Impl.parseValue [("Unit", 0)] (.prim t args none)
    = if t = 11 ∧ args.length = 0 then some (0, args) else none := parseValue_one "Unit" 11 0 ofTag_Unit t args
theorem pv_elt (t : Nat) (args : List BMich) : Impl.parseValue [("Elt", 2)] (.prim t args none)
    = if t = 4 ∧ args.length = 2 then some (0, args) else none := parseValue_one "Elt" 4 2 ofTag_Elt t args
theorem pv_bool (t : Nat) (args : List BMich) : Impl.parseValue [("False", 0), ("True", 0)] (.prim t args none)
    = if t = 3 ∧ args.length = 0 then some (0, args) else if t = 10 ∧ args.length = 0 then some (1, args) else none :=
  parseValue_two "False" 3 0 "True" 10 0 ofTag_False ofTag_True t args
theorem pv_option (t : Nat) (args : List BMich) : Impl.parseValue [("Some", 1), ("None", 0)] (.prim t args none)
    = if t = 9 ∧ args.length = 1 then some (0, args) else if t = 6 ∧ args.length = 0 then some (1, args) else none :=
  parseValue_two "Some" 9 1 "None" 6 0 ofTag_Some ofTag_None t args
theorem pv_or (t : Nat) (args : List BMich) : Impl.parseValue [("Left", 1), ("Right", 1)] (.prim t args none)
    = if t = 5 ∧ args.length = 1 then some (0, args) else if t = 8 ∧ args.length = 1 then some (1, args) else none :=
  parseValue_two "Left" 5 1 "Right" 8 1 ofTag_Left ofTag_Right t args

theorem mapAll_eq (f g : BMich → Option Val) (h : ∀ x, f x = g x) : ∀ xs, Impl.mapAll f xs = Spec.readAll g xs
  | [] => rfl
  | x :: xs => by
    simp only [Impl.mapAll, Spec.readAll, h x, mapAll_eq f g h xs]
    cases g x <;> cases Spec.readAll g xs <;> rfl

theorem tuple2_eq (a b : Option Val) : Impl.tuple2 a b = Spec.mkPair a b := by cases a <;> cases b <;> rfl

theorem parseElts_eq (fk fv gk gv : BMich → Option Val) (hk : ∀ x, fk x = gk x) (hv : ∀ x, fv x = gv x) :
    ∀ xs, Impl.parseElts fk fv xs = Spec.readElts gk gv xs
  | [] => rfl
  | e :: xs => by
    have ih := parseElts_eq fk fv gk gv hk hv xs
    cases e with
    | prim t args an =>
      cases an with
      | some a => simp [Impl.parseElts, Spec.readElts, parseValue_annot]
      | none =>
        rcases args with _ | ⟨a, _ | ⟨b, _ | ⟨c, rest⟩⟩⟩
        · simp [Impl.parseElts, Spec.readElts, pv_elt]
        · simp [Impl.parseElts, Spec.readElts, pv_elt]
        · by_cases h4 : t = 4
          · subst h4
            simp [Impl.parseElts, Spec.readElts, pv_elt, tuple2_eq, hk, hv, ih]
            cases Spec.mkPair (gk a) (gv b) <;> cases Spec.readElts gk gv xs <;> rfl
          · simp [Impl.parseElts, Spec.readElts, pv_elt, h4]
        · simp [Impl.parseElts, Spec.readElts, pv_elt]
    | _ => simp [Impl.parseElts, Spec.readElts, Impl.parseValue]

/-! ### `check_constraints` on keys of one simple comparable type is "strictly ascending" -/
section
variable {α β : Type} (g : α → β) (eqα : α → α → Bool) (eqβ : β → β → Bool) (heq : ∀ a b, eqβ (g a) (g b) = eqα a b)
include heq

theorem classes_foldl_map : ∀ (l acc : List α),
    (l.map g).foldl (fun acc x => if acc.any (fun e => eqβ e x) then acc else acc ++ [x]) (acc.map g)
      = (l.foldl (fun acc x => if acc.any (fun e => eqα e x) then acc else acc ++ [x]) acc).map g
  | [], _ => rfl
  | x :: l, acc => by
    simp only [List.map_cons, List.foldl_cons]
    have : (acc.map g).any (fun e => eqβ e (g x)) = acc.any (fun e => eqα e x) := by
      rw [List.any_map]; congr 1; funext e; exact heq e x
    rw [this]
    split
    · exact classes_foldl_map l acc
    · have := classes_foldl_map l (acc ++ [x])
      simpa using this

theorem classes_map (l : List α) : _root_.Impl.Coll.classes eqβ (l.map g) = (_root_.Impl.Coll.classes eqα l).map g :=
  classes_foldl_map g eqα eqβ heq l []

theorem listEq_map : ∀ a b : List α, _root_.Impl.Coll.listEq eqβ (a.map g) (b.map g) = _root_.Impl.Coll.listEq eqα a b
  | [], [] => rfl
  | [], _ :: _ => rfl
  | _ :: _, [] => rfl
  | x :: xs, y :: ys => by simp only [List.map_cons, _root_.Impl.Coll.listEq, heq, listEq_map xs ys]
end

theorem constraintsOk_eq {k : Ty} {vs : List Val} (hall : ∀ v ∈ vs, isKey k v = true) :
    Impl.constraintsOk vs = strictSorted vs := by
  obtain ⟨ys, rfl⟩ := lift_keys vs hall
  have hcc : _root_.Impl.Coll.checkConstraints Impl.valEq Impl.valLt (ys.map Subtype.val)
      = _root_.Impl.Coll.checkConstraints (eqK : KeyOf k → KeyOf k → Bool) ltK ys := by
    unfold _root_.Impl.Coll.checkConstraints
    rw [classes_map Subtype.val eqK Impl.valEq (fun _ _ => rfl),
      ← sortBy_map Subtype.val id id ltK Impl.valLt (fun _ _ => rfl),
      listEq_map Subtype.val eqK Impl.valEq (fun _ _ => rfl)]
    simp only [List.length_map]
  have hiff := Coll.checkConstraints_ok_iff (strictTotalK k) ys
  have hss : strictSorted (ys.map Subtype.val) = true ↔ Coll.StrictSorted (ltK : KeyOf k → KeyOf k → Bool) ys := by
    rw [strictSorted_iff, ltK_eq]
    exact List.pairwise_map
  unfold Impl.constraintsOk
  rw [hcc]
  by_cases hs : strictSorted (ys.map Subtype.val) = true
  · rw [hiff.mpr (hss.mp hs), hs]
  · have hne : _root_.Impl.Coll.checkConstraints (eqK : KeyOf k → KeyOf k → Bool) ltK ys ≠ .ok () :=
      fun e => hs (hss.mpr (hiff.mp e))
    have hf : strictSorted (ys.map Subtype.val) = false := by simpa using hs
    rw [hf]
    cases hq : _root_.Impl.Coll.checkConstraints (eqK : KeyOf k → KeyOf k → Bool) ltK ys with
    | error _ => rfl
    | ok u => cases u; exact absurd hq hne

theorem toKV_fst_eq : (fun e => (Impl.toKV e).1) = keyOf := by
  funext e; cases e <;> rfl

theorem printable_lt (c : Nat) (h : Spec.printable c = true) : c < 128 := by
  simp only [Spec.printable, Bool.or_eq_true, beq_iff_eq, Bool.and_eq_true, decide_eq_true_eq] at h
  omega

theorem strFromValue_eq (s : List Nat) : Impl.strFromValue s = if s.all Spec.printable then some (.str s) else none := by
  unfold Impl.strFromValue
  have e : (s.all fun c => c == 10 || (decide (32 ≤ c) && decide (c ≤ 126))) = s.all Spec.printable := rfl
  rw [e]
  by_cases hp : s.all Spec.printable = true
  · have : (s.all fun c => decide (c < 128)) = true := by
      rw [List.all_eq_true] at hp ⊢
      intro c hc; simpa using printable_lt c (hp c hc)
    simp [hp, this]
  · simp [hp]

/-- **`from_micheline_value` reads what the protocol reads**, class by class, on every expression -/
theorem fromMich_eq (rt : List Nat → Option Int) : ∀ t : Ty, unpackable t = true →
    ∀ m : BMich, Impl.fromMich rt t m = Spec.readVal rt t m := by
  intro t
  induction t with
  | unit =>
    intro _ m
    cases m with
    | prim t args an =>
      cases an with
      | some a => simp [Impl.fromMich, Spec.readVal, parseValue_annot]
      | none =>
        cases args with
        | nil => by_cases h : t = 11 <;> simp [Impl.fromMich, Spec.readVal, pv_unit, h]
        | cons a as => simp [Impl.fromMich, Spec.readVal, pv_unit]
    | _ => simp [Impl.fromMich, Spec.readVal, Impl.parseValue]
  | bool =>
    intro _ m
    cases m with
    | prim t args an =>
      cases an with
      | some a => simp [Impl.fromMich, Spec.readVal, parseValue_annot]
      | none =>
        cases args with
        | nil =>
          by_cases h : t = 10
          · subst h; simp [Impl.fromMich, Spec.readVal, pv_bool]
          · by_cases h3 : t = 3
            · subst h3; simp [Impl.fromMich, Spec.readVal, pv_bool]
            · simp [Impl.fromMich, Spec.readVal, pv_bool, h, h3]
        | cons a as => simp [Impl.fromMich, Spec.readVal, pv_bool]
    | _ => simp [Impl.fromMich, Spec.readVal, Impl.parseValue]
  | int => intro _ m; cases m <;> simp [Impl.fromMich, Spec.readVal, Impl.litInt]
  | nat =>
    intro _ m
    cases m with
    | int v => by_cases h : 0 ≤ v <;> simp [Impl.fromMich, Spec.readVal, Impl.litInt, numFromValue_eq, Spec.numOk, h]
    | _ => simp [Impl.fromMich, Spec.readVal, Impl.litInt]
  | mutez =>
    intro _ m
    cases m with
    | int v =>
      by_cases h : 0 ≤ v ∧ v < (9223372036854775808 : Int) <;> simp [Impl.fromMich, Spec.readVal, Impl.litInt, numFromValue_eq, Spec.numOk, h]
    | _ => simp [Impl.fromMich, Spec.readVal, Impl.litInt]
  | timestamp => intro _ m; cases m <;> simp [Impl.fromMich, Spec.readVal]
  | string => intro _ m; cases m <;> simp [Impl.fromMich, Spec.readVal, strFromValue_eq]
  | bytes => intro _ m; cases m <;> simp [Impl.fromMich, Spec.readVal]
  | option t ih =>
    intro hu m
    simp only [unpackable] at hu
    cases m with
    | prim p args an =>
      cases an with
      | some a => simp [Impl.fromMich, Spec.readVal, parseValue_annot]
      | none =>
        rcases args with _ | ⟨x, _ | ⟨y, rest⟩⟩
        · by_cases h : p = 6 <;> simp [Impl.fromMich, Spec.readVal, pv_option, h]
        · by_cases h : p = 9
          · subst h; simp [Impl.fromMich, Spec.readVal, pv_option, ih hu]
          · simp [Impl.fromMich, Spec.readVal, pv_option, h]
        · simp [Impl.fromMich, Spec.readVal, pv_option]
    | _ => simp [Impl.fromMich, Spec.readVal, Impl.parseValue]
  | or l r ihl ihr =>
    intro hu m
    simp only [unpackable, Bool.and_eq_true] at hu
    cases m with
    | prim p args an =>
      cases an with
      | some a => simp [Impl.fromMich, Spec.readVal, parseValue_annot]
      | none =>
        rcases args with _ | ⟨x, _ | ⟨y, rest⟩⟩
        · simp [Impl.fromMich, Spec.readVal, pv_or]
        · by_cases h : p = 5
          · subst h; simp [Impl.fromMich, Spec.readVal, pv_or, ihl hu.1]
          · by_cases h8 : p = 8
            · subst h8; simp [Impl.fromMich, Spec.readVal, pv_or, ihr hu.2]
            · simp [Impl.fromMich, Spec.readVal, pv_or, h, h8]
        · simp [Impl.fromMich, Spec.readVal, pv_or]
    | _ => simp [Impl.fromMich, Spec.readVal, Impl.parseValue]
  | pair l r ihl ihr =>
    intro hu m
    simp only [unpackable, Bool.and_eq_true] at hu
    have hcls : Impl.isPairClass r = Spec.isPairTy r := by cases r <;> rfl
    have key : ∀ args : List BMich,
        (if args.length = 2 then
            match args with
            | [x, y] => Impl.tuple2 (Impl.fromMich rt l x) (Impl.fromMich rt r y)
            | _ => none
          else if args.length > 2 then
            if Impl.isPairClass r = true then
              match args with
              | x :: rest => Impl.tuple2 (Impl.fromMich rt l x) (Impl.fromMich rt r (.seq rest))
              | [] => none
            else none
          else none) = Spec.readVal rt (.pair l r) (.seq args) := by
      intro args
      rcases args with _ | ⟨x, _ | ⟨y, _ | ⟨z, rs⟩⟩⟩
      · simp [Spec.readVal]
      · simp [Spec.readVal]
      · simp [Spec.readVal, tuple2_eq, ihl hu.1, ihr hu.2]
      · by_cases hp : Spec.isPairTy r = true
        · simp [Spec.readVal, tuple2_eq, ihl hu.1, ihr hu.2, hcls, hp, readVal_pair_seq rt r hp]
        · simp [Spec.readVal, hcls, hp]
    cases m with
    | seq xs => simp only [Impl.fromMich, Impl.pairArgs]; exact key xs
    | prim p args an =>
      cases an with
      | some a => simp [Impl.fromMich, Spec.readVal, Impl.pairArgs]
      | none =>
        simp only [Impl.fromMich, Impl.pairArgs, ofTag_Pair p, Option.isSome_none, and_true, readVal_pair_prim]
        by_cases h7 : p = 7
        · simp only [h7, if_true]; exact key args
        · simp only [h7, if_false]
    | _ => simp [Impl.fromMich, Spec.readVal, Impl.pairArgs]
  | list t ih =>
    intro hu m
    simp only [unpackable] at hu
    cases m <;> simp [Impl.fromMich, Spec.readVal, mapAll_eq _ _ (ih hu)]
  | set t ih =>
    intro hu m
    simp only [unpackable] at hu
    cases m with
    | seq xs =>
      simp only [Impl.fromMich, Spec.readVal, mapAll_eq _ _ (ih (simple_unpackable hu))]
      cases hr : Spec.readAll (Spec.readVal rt t) xs with
      | none => rfl
      | some vs =>
        have hall := readAll_all _ (fun v => isKey t v = true) (fun m v h => readVal_isKey rt hu h) xs vs hr
        simp [constraintsOk_eq hall]
    | _ => simp [Impl.fromMich, Spec.readVal]
  | map k v ihk ihv =>
    intro hu m
    simp only [unpackable, Bool.and_eq_true] at hu
    cases m with
    | seq xs =>
      simp only [Impl.fromMich, Spec.readVal, parseElts_eq _ _ _ _ (ihk (simple_unpackable hu.1)) (ihv hu.2)]
      cases hr : Spec.readElts (Spec.readVal rt k) (Spec.readVal rt v) xs with
      | none => rfl
      | some items =>
        have hall := readElts_all _ _ (fun a => isKey k a = true) (fun _ => True)
          (fun m v h => readVal_isKey rt hu.1 h) (fun _ _ _ => trivial) xs items hr
        have hkeys : ∀ a ∈ items.map keyOf, isKey k a = true := by
          intro a ha
          obtain ⟨e, he, rfl⟩ := List.mem_map.mp ha
          obtain ⟨x, y, rfl, hx, _⟩ := hall e he
          exact hx
        simp [toKV_fst_eq, constraintsOk_eq hkeys]
    | _ => simp [Impl.fromMich, Spec.readVal]
  | _ => intro hu; simp [unpackable] at hu

/-- **UNPACK**: the mirror answers what the reference answers, on every byte string -/
theorem execUnpack_eq (env : Env) (t : Ty) (a : Val) (h : Spec.unpackV env t a ≠ .stuck) :
    Impl.execUnpack env t a = Spec.unpackV env t a := by
  cases a <;> first | (exact absurd rfl h) | skip
  rename_i b
  have hu : unpackable t = true := by
    cases hq : unpackable t with
    | true => rfl
    | false => exact absurd (by simp [Spec.unpackV, hq]) h
  have hf : Impl.fromMich env.readTimestamp t = Spec.readVal env.readTimestamp t := funext (fromMich_eq _ t hu)
  rcases b with _ | ⟨x, rest⟩
  · simp [Impl.execUnpack, Spec.unpackV, hu]
  · by_cases hx : x = 5
    · subst hx
      simp only [Impl.execUnpack, Spec.unpackV, hu, Bool.not_true, Bool.false_eq_true, if_false, strict_eq,
        Impl.Forge.unforge_eq_decode, known_eq, hf]
      cases (Spec.Micheline.decode Spec.knownPrim rest).bind (Spec.readVal env.readTimestamp t) <;> rfl
    · simp [Impl.execUnpack, Spec.unpackV, hu, hx]

end Interp
