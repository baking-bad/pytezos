import PytezosModel.Michelson.Interp.Impl
import PytezosModel.Michelson.Interp.Spec
import PytezosModel.Proofs.InterpTables
import PytezosModel.Proofs.C16Impl
/-! NAT / INT / BYTES: CPython's `int.from_bytes`, `bit_length` and `int.to_bytes` (`PyNum`, the definitions property C16
owns) as used by `arithmetic.py`, against the reference's big-endian / two's complement readings and the *shortest*
encodings (`Spec.beNat`, `Spec.beInt`, `Spec.natBytes`, `Spec.intBytes`).  At the end the mirrors of NAT and BYTES against
their rules (`execNat_eq`, `execBytes_eq`). -/
namespace Interp
open PyNum _root_.Impl.Arith

theorem beNat_eq : ∀ bs, Spec.beNat bs = fromBytesBE bs
  | [] => rfl
  | b :: bs => by rw [Spec.beNat, fromBytesBE_cons, beNat_eq bs]

/-- `int.from_bytes(b, 'big')` is the big-endian value -/
theorem fromBytes_unsigned (bs : List Nat) : PyNum.fromBytes bs false = (Spec.beNat bs : Int) := by
  simp [PyNum.fromBytes, beNat_eq]

/-- `int.from_bytes(b, 'big', signed=True)` is the two's complement reading -/
theorem fromBytes_signed (bs : List Nat) : PyNum.fromBytes bs true = Spec.beInt bs := by
  unfold PyNum.fromBytes Spec.beInt
  rw [beNat_eq]
  by_cases hne : bs = []
  · subst hne; simp
  · have hL : 0 < bs.length := List.length_pos_iff.2 hne
    have h1 := nat_pow256 bs.length hL
    have h2 : ((256 : Int) ^ bs.length) = (2 : Int) ^ (8 * bs.length) := by
      rw [show (256 : Int) = 2 ^ 8 by rfl, ← Int.pow_mul]
    by_cases hc : 2 ^ (8 * bs.length - 1) ≤ fromBytesBE bs
    · have hc' : 256 ^ bs.length ≤ 2 * fromBytesBE bs := by omega
      simp [hne, hc, hc', h2]
    · have hc' : ¬ 256 ^ bs.length ≤ 2 * fromBytesBE bs := by omega
      simp [hne, hc, hc']

theorem toBytesBE_front : ∀ (k n : Nat), toBytesBE (k + 1) n = (n / 256 ^ k) % 256 :: toBytesBE k n
  | 0, n => by simp [toBytesBE]
  | k + 1, n => by
    have ih := toBytesBE_front k (n / 256)
    have e1 : toBytesBE (k + 1 + 1) n = toBytesBE (k + 1) (n / 256) ++ [n % 256] := rfl
    have e2 : toBytesBE (k + 1) n = toBytesBE k (n / 256) ++ [n % 256] := rfl
    rw [e1, ih, e2, List.cons_append, Nat.div_div_eq_div_mul, Nat.pow_succ, Nat.mul_comm]

theorem beDigits_eq : ∀ (k n : Nat), Spec.beDigits k n = toBytesBE k n
  | 0, _ => rfl
  | k + 1, n => by rw [Spec.beDigits, toBytesBE_front, beDigits_eq k n]

theorem leastFrom_eq (p : Nat → Bool) (m : Nat) (hm : p m = true) :
    ∀ (fuel k : Nat), k ≤ m → m ≤ k + fuel → (∀ j, k ≤ j → j < m → p j = false) → Spec.leastFrom p fuel k = m
  | 0, k, h1, h2, _ => by simp [Spec.leastFrom]; omega
  | fuel + 1, k, h1, h2, h3 => by
    rw [Spec.leastFrom]
    by_cases hk : k = m
    · subst hk; simp [hm]
    · have : p k = false := h3 k (Nat.le_refl _) (by omega)
      simp only [this, Bool.false_eq_true, if_false]
      exact leastFrom_eq p m hm fuel (k + 1) (by omega) (by omega) (fun j hj hjm => h3 j (by omega) hjm)

theorem bitLength_le_natAbs (z : Int) : bitLength z ≤ z.natAbs :=
  (bitLength_le_iff z z.natAbs).2 Nat.lt_two_pow_self

/-- the length `(7 + v.bit_length()) // 8` is the least number of base-256 digits that hold `v` -/
theorem natLen_eq (x : Int) (hx : 0 ≤ x) :
    Spec.leastFrom (fun L => decide (x.toNat < 256 ^ L)) x.toNat 0 = unsignedLen x := by
  have hr := nat_fits x hx
  refine leastFrom_eq _ (unsignedLen x) (by simpa using hr) _ 0 (Nat.zero_le _) ?_ ?_
  · have := bitLength_le_natAbs x
    have hn : x.natAbs = x.toNat := by omega
    unfold unsignedLen; omega
  · intro j _ hj
    simp only [decide_eq_false_iff_not]
    intro hlt
    have hc : ((256 ^ j : Nat) : Int) = (256 : Int) ^ j := by simp
    have : x < (256 : Int) ^ j := by rw [← hc]; omega
    have := unsignedLen_minimal x hx j this
    omega

/-- the length `(8 + (v + (v < 0)).bit_length()) // 8 if v else 0` is the least number of bytes in which `v` is
representable in two's complement -/
theorem intLen_eq (z : Int) : Spec.leastFrom (Spec.fitsInt z) (z.natAbs + 1) 0 = intLen z := by
  by_cases hz : z = 0
  · subst hz; simp [Spec.leastFrom, Spec.fitsInt, intLen]
  · have hpos := intLen_pos z hz
    have hr := intLen_range z
    have hfit : Spec.fitsInt z (intLen z) = true := by
      have : intLen z ≠ 0 := by omega
      simp [Spec.fitsInt, this, hr.1, hr.2]
    refine leastFrom_eq _ (intLen z) hfit _ 0 (Nat.zero_le _) ?_ ?_
    · have hb := bitLength_le_natAbs (z + if z < 0 then 1 else 0)
      have : (z + if z < 0 then 1 else 0).natAbs ≤ z.natAbs := by split <;> omega
      simp only [intLen, hz, ne_eq, not_false_eq_true, if_true, signedLen]
      omega
    · intro j _ hj
      by_cases hj0 : j = 0
      · subst hj0; simp [Spec.fitsInt, hz]
      · have hlt : j < signedLen z := by simpa [intLen, hz] using hj
        have := signedLen_minimal z hz j (by omega) hlt
        simp only [Spec.fitsInt, hj0, if_false, decide_eq_false_iff_not]
        exact this

theorem execBytes_nat (x : Int) (hx : 0 ≤ x) : Impl.execBytes (.num .nat x) = .ok (.bytes (Spec.natBytes x.toNat)) := by
  simp only [Impl.execBytes, Spec.natBytes, natLen_eq x hx, beDigits_eq]
  simp [toBytes_nat x hx]

theorem execBytes_int (x : Int) : Impl.execBytes (.num .int x) = .ok (.bytes (Spec.intBytes x)) := by
  have h := toBytes_int x
  simp only [Impl.execBytes, Spec.intBytes, intLen_eq, beDigits_eq]
  have e : (if x ≠ 0 then signedLen x else 0) = intLen x := rfl
  have b : (!(Ty.int == Ty.nat || Ty.int == Ty.mutez)) = true := by decide
  simp only [b, if_true, e, h]

theorem execNat_eq (a : Val) (h : Spec.natV a ≠ .stuck) : Impl.execNat a = Spec.natV a := by
  cases a <;> first | (exact absurd rfl h) | skip
  simp [Impl.execNat, Spec.natV, numFromValue_eq, fromBytes_unsigned, Spec.numOk]

theorem execBytes_eq (a : Val) (h : Spec.bytesV a ≠ .stuck) : Impl.execBytes a = Spec.bytesV a := by
  unfold Spec.bytesV at h ⊢
  split at h
  · rename_i x
    by_cases hx : 0 ≤ x
    · simp [hx, execBytes_nat x hx]
    · simp [hx] at h
  · simp [execBytes_int]
  · exact absurd rfl h

end Interp
