import PytezosModel.Client.Diff
/-! Protocol source diffs: numerals and the hunk-header parser; one pass of `apply_patch` over a rendered hunk, over a
rendered script, on lines; then on strings, `splitlines` / `join` being inverse on well-formed line lists and every patch
line ending in `'\n'`. -/
namespace Proofs.C30
open Impl.Diff Spec.Diff

theorem digitChar_isDigit {d : Nat} (h : d < 10) : (digitChar d).isDigit = true := by
  have : ∀ d : Fin 10, (digitChar d.val).isDigit = true := by decide
  exact this ⟨d, h⟩

theorem digitChar_val {d : Nat} (h : d < 10) : (digitChar d).toNat - 48 = d := by
  have : ∀ d : Fin 10, (digitChar d.val).toNat - 48 = d.val := by decide
  exact this ⟨d, h⟩

theorem digits_isEmpty (n : Nat) : (digits n).isEmpty = false := by
  rw [digits]
  split <;> simp

theorem digits_all (n : Nat) : ∀ c ∈ digits n, c.isDigit = true := by
  induction n using digits.induct with
  | case1 n h =>
    rw [digits, if_pos h]
    intro c hc
    rw [List.mem_singleton.mp hc]
    exact digitChar_isDigit h
  | case2 n h ih =>
    rw [digits, if_neg h]
    intro c hc
    rcases List.mem_append.mp hc with hc | hc
    · exact ih c hc
    · rw [List.mem_singleton.mp hc]
      exact digitChar_isDigit (by omega)

theorem parseNat_digits (n : Nat) : parseNat (digits n) = n := by
  induction n using digits.induct with
  | case1 n h => rw [digits, if_pos h]; simp [parseNat, digitChar_val h]
  | case2 n h ih =>
    rw [digits, if_neg h]
    simp only [parseNat, List.foldl_append, List.foldl_cons, List.foldl_nil] at ih ⊢
    rw [ih, digitChar_val (by omega)]
    omega

theorem digits_eq_zero {n : Nat} (h : digits n = ['0']) : n = 0 := by
  have := parseNat_digits n
  rw [h] at this
  simpa [parseNat] using this.symm

theorem digits_zero : digits 0 = ['0'] := by
  rw [digits]; rfl

theorem spanDigits_append (ds : List Char) (c : Char) (rest : List Char) (hds : ∀ d ∈ ds, d.isDigit = true)
    (hc : c.isDigit = false) : spanDigits (ds ++ c :: rest) = (ds, c :: rest) := by
  induction ds with
  | nil => simp [spanDigits, hc]
  | cons d ds ih => simp [spanDigits, hds d (by simp), ih fun c hc => hds c (by simp [hc])]

/-- the `(\d+),?(\d+)?` parser reads back what `_format_range_unified` printed, and the hunk start computed from it is
the number of lines before the hunk -/
theorem parseRange_fmt (start count : Nat) (c : Char) (rest : List Char) (hc : c.isDigit = false) (hc2 : c ≠ ',') :
    ∃ n g, parseRange (fmtRange start count ++ c :: rest) = some (n, g, c :: rest) ∧ hunkStart n g = (start : Int) := by
  have hdc : dropComma (c :: rest) = c :: rest := by
    unfold dropComma
    split
    · rename_i h
      cases h
      exact absurd rfl hc2
    · rfl
  have hs0 : spanDigits (c :: rest) = ([], c :: rest) := by simp [spanDigits, hc]
  have hsp : ∀ n, spanDigits (digits n ++ c :: rest) = (digits n, c :: rest) := fun n =>
    spanDigits_append _ c rest (digits_all n) hc
  unfold fmtRange
  by_cases h1 : count = 1
  · exact ⟨start + 1, none, by simp [h1, parseRange, hsp, digits_isEmpty, hdc, hs0, parseNat_digits], by simp [hunkStart]⟩
  · let s := if count = 0 then start else start + 1
    refine ⟨s, some (digits count), ?_, ?_⟩
    · have hsp1 := spanDigits_append (digits s) ',' (digits count ++ c :: rest) (digits_all _) (by decide)
      simp only [h1, if_false, List.append_assoc, List.cons_append]
      simp [parseRange, s, hsp1, digits_isEmpty, dropComma, hsp, parseNat_digits]
    · by_cases h0 : count = 0
      · simp [hunkStart, s, h0, digits_zero]
      · have : digits count ≠ ['0'] := fun h => h0 (digits_eq_zero h)
        simp [hunkStart, s, h0, this]

theorem parseHeader_hunkHeader (a ca b cb : Nat) :
    ∃ n1 g2 n3 g4, parseHeader (hunkHeader a ca b cb) = some (n1, g2, n3, g4) ∧
      hunkStart n1 g2 = (a : Int) ∧ hunkStart n3 g4 = (b : Int) := by
  obtain ⟨n3, g4, h2, e2⟩ := parseRange_fmt b cb ' ' ['@', '@', '\n'] (by decide) (by decide)
  obtain ⟨n1, g2, h1, e1⟩ :=
    parseRange_fmt a ca ' ' ('+' :: (fmtRange b cb ++ ' ' :: ['@', '@', '\n'])) (by decide) (by decide)
  refine ⟨n1, g2, n3, g4, ?_, e1, e2⟩
  have e : hunkHeader a ca b cb =
      '@' :: '@' :: ' ' :: '-' :: (fmtRange a ca ++ ' ' :: '+' :: (fmtRange b cb ++ ' ' :: ['@', '@', '\n'])) := by
    simp [hunkHeader]
  rw [e]
  simp [parseHeader, stripPrefix, h1, h2]

theorem hunkHeader_head (a ca b cb : Nat) : (hunkHeader a ca b cb).head? = some '@' := by
  simp [hunkHeader]

/-- a line that ends in its only `'\n'` -/
def Terminated (l : Line) : Prop := ∃ body, l = body ++ ['\n'] ∧ '\n' ∉ body

theorem nl_not_in_digits (n : Nat) : '\n' ∉ digits n := fun h => by
  have := digits_all n '\n' h
  revert this; decide

theorem nl_not_in_fmtRange (a c : Nat) : '\n' ∉ fmtRange a c := by
  unfold fmtRange
  split
  · exact nl_not_in_digits _
  · intro h
    simp only [List.mem_append, List.mem_cons] at h
    rcases h with h | h | h
    · exact nl_not_in_digits _ h
    · revert h; decide
    · exact nl_not_in_digits _ h

theorem terminated_hunkHeader (a ca b cb : Nat) : Terminated (hunkHeader a ca b cb) := by
  refine ⟨['@', '@', ' ', '-'] ++ fmtRange a ca ++ [' ', '+'] ++ fmtRange b cb ++ [' ', '@', '@'], by simp [hunkHeader], ?_⟩
  simp [nl_not_in_fmtRange a ca, nl_not_in_fmtRange b cb]

/-- a hunk header line as printed by difflib: copy the unchanged stretch `source[sl:l]` and move to `l` -/
theorem go_header (source : List Line) (midx : Nat) (sign : Char) (x : Bool) (a ca b cb : Nat) (more : List Line)
    (t : List Char) (sl : Nat)
    (hm : midx = 1 ∨ midx = 3) (hsl : sl ≤ (if midx = 1 then a else b))
    (hl : (if midx = 1 then a else b) ≤ source.length) :
    go source midx sign x (hunkHeader a ca b cb :: more) t sl =
      go source midx sign true more
        (t ++ join ((source.drop sl).take ((if midx = 1 then a else b) - sl))) (if midx = 1 then a else b) := by
  obtain ⟨n1, g2, n3, g4, hp, e1, e2⟩ := parseHeader_hunkHeader a ca b cb
  have hc : (!x || (hunkHeader a ca b cb).head? == some '@') = true := by simp [hunkHeader_head]
  have hm' : ¬(midx ≠ 1 ∧ midx ≠ 3) := by omega
  have hl2 : (if midx = 1 then hunkStart n1 g2 else hunkStart n3 g4) = ((if midx = 1 then a else b : Nat) : Int) := by
    split <;> simp [e1, e2]
  generalize (if midx = 1 then a else b) = l at hsl hl hl2 ⊢
  have k : ¬((sl : Int) > l ∨ (l : Int) > source.length) := by omega
  rw [go.eq_def]
  simp only [hc, if_true, hp, hm', if_false, hl2, k, Int.toNat_natCast]

/-- the one or two patch lines `make_patch` produces for a line yielded by difflib -/
def fixLines (cfg : Config) (x : Line) : List Line :=
  if x.getLast? = some '\n' then [x] else [x ++ ['\n'], cfg.noEol ++ ['\n']]

theorem fixLines_append_nl (cfg : Config) (x : List Char) : fixLines cfg (x ++ ['\n']) = [x ++ ['\n']] := by
  unfold fixLines
  rw [if_pos List.getLast?_concat]

theorem fixLines_of_terminated (cfg : Config) {x : Line} (h : Terminated x) : fixLines cfg x = [x] := by
  obtain ⟨body, rfl, _⟩ := h
  exact fixLines_append_nl cfg body

theorem terminated_of_mem_fixLines (cfg : Config) {x : Line} (h : Terminated x) : ∀ l ∈ fixLines cfg x, Terminated l := by
  rw [fixLines_of_terminated cfg h]
  intro l hl
  rw [List.mem_singleton.mp hl]
  exact h

/-- the lines of the text `make_patch` returns (`makePatchWith_eq`) -/
def patchLines (cfg : Config) (diffs : List Line) : List Line := diffs.flatMap (fixLines cfg)

theorem makePatchWith_eq (cfg : Config) (diffs : List Line) : makePatchWith cfg diffs = join (patchLines cfg diffs) := by
  have h : ∀ x, fixEol cfg x = (fixLines cfg x).flatten := fun x => by
    unfold fixEol fixLines
    split <;> simp
  unfold makePatchWith patchLines join
  induction diffs with
  | nil => rfl
  | cons x xs ih => simp [h, List.flatMap_cons, ih]

/-! `rev` is the `revert` argument of `apply_patch`: it selects the sign whose lines are copied without consuming the source
(`sgn`), the header group read (`selMidx`), and which side of a hunk / script is the text being patched (`src…`) and which
the text produced (`dst…`). -/

def sgn (rev : Bool) : Char := if rev then '-' else '+'
def srcLines (rev : Bool) (ops : List Op) : List Line := if rev then newLines ops else oldLines ops
def dstLines (rev : Bool) (ops : List Op) : List Line := if rev then oldLines ops else newLines ops

theorem tag_ne_at (o : Op) : some o.tag ≠ some '@' := by cases o <;> simp [Op.tag]
theorem tag_ne_bs (o : Op) : some o.tag ≠ some '\\' := by cases o <;> simp [Op.tag]

/-- the one or two patch lines of a hunk body line: when `make_patch` added the `'\n'` and the no-newline marker, `go` drops
the `'\n'` again and skips the marker -/
theorem go_opline (cfg : Config) (hm : cfg.noEol.head? = some '\\') (source : List Line) (midx : Nat) (sign : Char)
    (o : Op) (R : List Line) (t : List Char) (sl : Nat) (hR : ∀ q r, R = q :: r → q.head? ≠ some '\\') :
    go source midx sign true (fixLines cfg (opLine o) ++ R) t sl =
      go source midx sign true R (bodyLine sign (opLine o) t sl).1 (bodyLine sign (opLine o) t sl).2 := by
  have hc : ∀ l : Line, ¬((!true || (o.tag :: l).head? == some '@') = true) := fun l => by simpa using tag_ne_at o
  unfold fixLines
  -- `go.eq_2`: `go` on the last patch line; `go.eq_3`: on a line followed by another, which is inspected for the marker
  split
  · cases R with
    | nil => exact (go.eq_2 ..).trans (if_neg (hc _))
    | cons q r => exact (go.eq_3 ..).trans ((if_neg (hc _)).trans (if_neg (hR q r rfl)))
  · have hq : (cfg.noEol ++ ['\n']).head? = some '\\' := by
      cases h : cfg.noEol with
      | nil => rw [h] at hm; cases hm
      | cons c cs => rw [h] at hm; simpa using hm
    have : go source midx sign true ((opLine o ++ ['\n']) :: (cfg.noEol ++ ['\n']) :: R) t sl = _ :=
      (go.eq_3 ..).trans ((if_neg (hc _)).trans (if_pos hq))
    simpa [List.dropLast_concat] using this

theorem opLines_first_ne_backslash (cfg : Config) (ops : List Op) (R : List Line)
    (hR : ∀ q r, R = q :: r → q.head? ≠ some '\\') :
    ∀ q r, (ops.map opLine).flatMap (fixLines cfg) ++ R = q :: r → q.head? ≠ some '\\' := by
  cases ops with
  | nil => simpa using hR
  | cons o ops =>
    intro q r h
    obtain ⟨y, ys, e⟩ : ∃ y ys, fixLines cfg (opLine o) = (o.tag :: y) :: ys := by
      unfold fixLines
      split
      · exact ⟨_, _, rfl⟩
      · exact ⟨_, _, rfl⟩
    simp only [List.map_cons, List.flatMap_cons, e, List.cons_append, List.cons.injEq] at h
    rw [← h.1]
    exact tag_ne_bs o

theorem go_body (cfg : Config) (hm : cfg.noEol.head? = some '\\') (source : List Line) (midx : Nat) (rev : Bool) :
    ∀ (ops : List Op) (R : List Line) (t : List Char) (sl : Nat), (∀ q r, R = q :: r → q.head? ≠ some '\\') →
      go source midx (sgn rev) true ((ops.map opLine).flatMap (fixLines cfg) ++ R) t sl =
        go source midx (sgn rev) true R (t ++ join (dstLines rev ops)) (sl + (srcLines rev ops).length) := by
  intro ops
  induction ops with
  | nil => intro R t sl _; simp [dstLines, srcLines, oldLines, newLines, join]
  | cons o ops ih =>
    intro R t sl hR
    simp only [List.map_cons, List.flatMap_cons, List.append_assoc]
    rw [go_opline cfg hm source midx (sgn rev) o _ t sl (opLines_first_ne_backslash cfg ops R hR), ih R _ _ hR]
    cases o <;> cases rev <;>
      simp [bodyLine, opLine, Op.tag, Op.line, sgn, dstLines, srcLines, oldLines, newLines, join, Nat.add_assoc, Nat.add_comm]

def sideSrc (rev : Bool) (s : Script) : List Line := if rev then newOf s else oldOf s
def sideDst (rev : Bool) (s : Script) : List Line := if rev then oldOf s else newOf s
def selMidx (rev : Bool) : Nat := if rev then 3 else 1

theorem patchLines_hunk (cfg : Config) (ops : List Op) (r : Script) (a b : Nat) :
    patchLines cfg (hunkLines (.hunk ops :: r) a b) =
      hunkHeader a (oldLines ops).length b (newLines ops).length ::
        ((ops.map opLine).flatMap (fixLines cfg) ++
          patchLines cfg (hunkLines r (a + (oldLines ops).length) (b + (newLines ops).length))) := by
  simp [patchLines, hunkLines, fixLines_of_terminated cfg (terminated_hunkHeader _ _ _ _), List.flatMap_cons,
    List.flatMap_append]

theorem patchLines_head (cfg : Config) : ∀ (s : Script) (a b : Nat) (q : Line) (r' : List Line),
    patchLines cfg (hunkLines s a b) = q :: r' → q.head? = some '@' := by
  intro s
  induction s with
  | nil => intro a b q r' h; simp [patchLines, hunkLines] at h
  | cons seg r ih =>
    intro a b q r' h
    cases seg with
    | keep ls => exact ih _ _ q r' (by simpa [hunkLines] using h)
    | hunk ops =>
      rw [patchLines_hunk] at h
      simp only [List.cons.injEq] at h
      rw [← h.1]; exact hunkHeader_head _ _ _ _

/-- the rendered hunks of a script applied to a text whose lines from `sl` on are `pend` (unchanged lines seen since the last
hunk, not copied yet) followed by the script's source side -/
theorem go_script (cfg : Config) (hm : cfg.noEol.head? = some '\\') (rev : Bool) (source : List Line) :
    ∀ (s : Script) (a b sl : Nat) (pend : List Line) (t : List Char) (x : Bool),
      (if rev then b else a) = sl + pend.length → sl ≤ source.length → source.drop sl = pend ++ sideSrc rev s →
      go source (selMidx rev) (sgn rev) x (patchLines cfg (hunkLines s a b)) t sl =
        .ok (t ++ join pend ++ join (sideDst rev s)) := by
  intro s
  induction s with
  | nil =>
    intro a b sl pend t x _ _ hd
    rw [show patchLines cfg (hunkLines [] a b) = [] from rfl, go.eq_1, hd]
    cases rev <;> simp [sideSrc, sideDst, oldOf, newOf, join]
  | cons seg r ih =>
    intro a b sl pend t x hpos hsl hd
    cases seg with
    | keep ls =>
      have h := ih (a + ls.length) (b + ls.length) sl (pend ++ ls) t x (by cases rev <;> simp at hpos ⊢ <;> omega) hsl
        (by rw [hd]; cases rev <;> simp [sideSrc, oldOf, newOf])
      simp only [hunkLines]
      rw [h]
      cases rev <;> simp [sideDst, oldOf, newOf, join]
    | hunk ops =>
      have hpos' : (if selMidx rev = 1 then a else b) = sl + pend.length := by
        cases rev <;> simpa [selMidx] using hpos
      have hsrc : sideSrc rev (.hunk ops :: r) = srcLines rev ops ++ sideSrc rev r := by
        cases rev <;> simp [sideSrc, srcLines, oldOf, newOf]
      have hlen := congrArg List.length hd
      simp only [List.length_drop, List.length_append, hsrc] at hlen
      have hR : ∀ q r', patchLines cfg (hunkLines r (a + (oldLines ops).length) (b + (newLines ops).length)) = q :: r' →
          q.head? ≠ some '\\' := by
        intro q r' h
        rw [patchLines_head cfg _ _ _ q r' h]; decide
      -- the header copies `pend`, the body consumes the source lines of the hunk, the rest of the script starts there
      rw [patchLines_hunk, go_header _ _ _ x a _ b _ _ t sl (by cases rev <;> simp [selMidx]) (by omega) (by omega), hpos',
        hd, show sl + pend.length - sl = pend.length by omega, List.take_left' rfl]
      rw [go_body cfg hm _ _ rev ops _ _ _ hR]
      rw [ih (a + (oldLines ops).length) (b + (newLines ops).length) _ [] _ true
        (by cases rev <;> simp [srcLines] at hpos ⊢ <;> omega) (by omega)
        (by rw [Nat.add_assoc, ← List.drop_drop, hd, hsrc, ← List.append_assoc, List.drop_left' (by simp)]; rfl)]
      cases rev <;> simp [sideDst, dstLines, oldOf, newOf, join]

theorem hunkLines_nil_sides : ∀ (s : Script) (a b : Nat), hunkLines s a b = [] → oldOf s = newOf s := by
  intro s
  induction s with
  | nil => intros; rfl
  | cons seg r ih =>
    intro a b h
    cases seg with
    | keep ls => simp only [hunkLines] at h; simp [oldOf, newOf, ih _ _ h]
    | hunk ops => simp [hunkLines] at h

theorem isFileHeader_of_at {q : Line} (h : q.head? = some '@') : isFileHeader q = false := by
  cases q with
  | nil => simp at h
  | cons c cs =>
    simp only [List.head?_cons, Option.some.injEq] at h
    subst h
    simp [isFileHeader, stripPrefix]

theorem patchLines_unifiedDiff (cfg : Config) (fname : List Char) (s : Script) :
    patchLines cfg (unifiedDiff fname s) =
      if hunkLines s 0 0 = [] then []
      else (['-', '-', '-', ' '] ++ fname ++ ['\n']) :: (['+', '+', '+', ' '] ++ fname ++ ['\n']) ::
        patchLines cfg (hunkLines s 0 0) := by
  unfold unifiedDiff
  cases hb : hunkLines s 0 0 with
  | nil => rfl
  | cons l ls =>
    simp only [patchLines, List.flatMap_cons]
    rw [fixLines_append_nl, fixLines_append_nl]
    rfl

theorem applyLines_render (cfg : Config) (hm : cfg.noEol.head? = some '\\') (hf : cfg.fwd = (1, '+')) (hr : cfg.rev = (3, '-'))
    (fname : List Char) (s : Script) (rev : Bool) :
    applyLinesWith cfg (sideSrc rev s) (patchLines cfg (unifiedDiff fname s)) rev = .ok (join (sideDst rev s)) := by
  have hms : (if rev then cfg.rev else cfg.fwd) = (selMidx rev, sgn rev) := by
    cases rev <;> simp [hf, hr, selMidx, sgn]
  unfold applyLinesWith
  simp only [hms]
  -- the file header is skipped; a script without hunks has no patch lines at all, and `go_script` covers that too
  have hdw : (patchLines cfg (unifiedDiff fname s)).dropWhile isFileHeader = patchLines cfg (hunkLines s 0 0) := by
    rw [patchLines_unifiedDiff]
    split
    · next hb => rw [hb]; rfl
    · have h1 : isFileHeader (['-', '-', '-', ' '] ++ fname ++ ['\n']) = true := by simp [isFileHeader, stripPrefix]
      have h2 : isFileHeader (['+', '+', '+', ' '] ++ fname ++ ['\n']) = true := by simp [isFileHeader, stripPrefix]
      simp only [List.dropWhile_cons, h1, h2, if_true]
      cases hp : patchLines cfg (hunkLines s 0 0) with
      | nil => rfl
      | cons q r' => simp [isFileHeader_of_at (patchLines_head cfg s 0 0 q r' hp)]
  rw [hdw]
  simpa [join] using
    go_script cfg hm rev (sideSrc rev s) s 0 0 0 [] [] false (by cases rev <;> rfl) (Nat.zero_le _) rfl

/-- a non-empty line without `'\n'` (only possible as the last line of a text) -/
def Unterminated (l : Line) : Prop := l ≠ [] ∧ '\n' ∉ l

/-- what `splitlines(True)` returns: every line terminated, except possibly the last -/
def LinesWF : List Line → Prop
  | [] => True
  | [l] => Terminated l ∨ Unterminated l
  | l :: l' :: ls => Terminated l ∧ LinesWF (l' :: ls)

/-- the two ways a line list stays well-formed under a new first line -/
theorem linesWF_cons {l : Line} {ls : List Line} :
    LinesWF (l :: ls) ↔ (Terminated l ∨ ls = [] ∧ Unterminated l) ∧ LinesWF ls := by
  cases ls <;> simp [LinesWF]

theorem splitLines_terminated (body rest : List Char) (h : '\n' ∉ body) :
    splitLines (body ++ '\n' :: rest) = (body ++ ['\n']) :: splitLines rest := by
  induction body with
  | nil => simp [splitLines]
  | cons c body ih =>
    have hc : c ≠ '\n' := fun e => h (by simp [e])
    have := ih (fun hmem => h (by simp [hmem]))
    simp [splitLines, hc, this]

theorem splitLines_unterminated (l : Line) (h1 : l ≠ []) (h2 : '\n' ∉ l) : splitLines l = [l] := by
  induction l with
  | nil => exact absurd rfl h1
  | cons c cs ih =>
    have hc : c ≠ '\n' := fun e => h2 (by simp [e])
    cases cs with
    | nil => simp [splitLines, hc]
    | cons d ds =>
      have := ih (by simp) (fun hmem => h2 (by simp [hmem]))
      rw [splitLines, if_neg hc, this]

theorem splitLines_join : ∀ (ls : List Line), LinesWF ls → splitLines (join ls) = ls := by
  intro ls
  induction ls with
  | nil => intro _; rfl
  | cons l ls ih =>
    intro h
    obtain ⟨h0, hr⟩ := linesWF_cons.1 h
    rcases h0 with ⟨body, rfl, hb⟩ | ⟨rfl, h1, h2⟩
    · have := splitLines_terminated body (join ls) hb
      rw [ih hr] at this
      simpa [join, List.append_assoc] using this
    · simpa [join] using splitLines_unterminated l h1 h2

theorem join_splitLines : ∀ (t : List Char), join (splitLines t) = t := by
  intro t
  induction t with
  | nil => rfl
  | cons c cs ih =>
    by_cases hc : c = '\n'
    · simp [splitLines, hc, join] at ih ⊢; exact ih
    · cases h : splitLines cs with
      | nil => rw [h] at ih; simp [join] at ih; simp [splitLines, hc, h, join, ← ih]
      | cons l ls => rw [h] at ih; simp [join] at ih; simp [splitLines, hc, h, join, ih]

theorem linesWF_cons_terminated {l : Line} {ls : List Line} (hl : Terminated l) (h : LinesWF ls) : LinesWF (l :: ls) :=
  linesWF_cons.2 ⟨.inl hl, h⟩

theorem linesWF_splitLines : ∀ (t : List Char), LinesWF (splitLines t) := by
  intro t
  induction t with
  | nil => trivial
  | cons c cs ih =>
    by_cases hc : c = '\n'
    · simp only [splitLines, hc, if_true]
      exact linesWF_cons_terminated ⟨[], rfl, by simp⟩ ih
    · simp only [splitLines, hc, if_false]
      cases h : splitLines cs with
      | nil => exact Or.inr ⟨by simp, by simpa using fun e => hc e.symm⟩
      | cons l ls =>
        rw [h] at ih
        obtain ⟨h0, hr⟩ := linesWF_cons.1 ih
        refine linesWF_cons.2 ⟨h0.imp ?_ (And.imp_right ?_), hr⟩
        · rintro ⟨body, rfl, hb⟩
          exact ⟨c :: body, rfl, by simpa using ⟨fun e => hc e.symm, hb⟩⟩
        · rintro ⟨_, h2⟩
          exact ⟨by simp, by simpa using ⟨fun e => hc e.symm, h2⟩⟩

theorem linesWF_of_all_terminated : ∀ (ls : List Line), (∀ l ∈ ls, Terminated l) → LinesWF ls := by
  intro ls
  induction ls with
  | nil => intro _; trivial
  | cons l ls ih =>
    intro h
    exact linesWF_cons_terminated (h l (by simp)) (ih fun l' hl' => h l' (by simp [hl']))

theorem linesWF_mem : ∀ (ls : List Line), LinesWF ls → ∀ l ∈ ls, Terminated l ∨ Unterminated l := by
  intro ls
  induction ls with
  | nil => intro _ l hl; simp at hl
  | cons l0 ls ih =>
    intro h l hl
    obtain ⟨h0, hr⟩ := linesWF_cons.1 h
    rcases List.mem_cons.1 hl with rfl | hl
    · exact h0.imp_right And.right
    · exact ih hr l hl

theorem op_line_mem_lines (ops : List Op) (o : Op) (h : o ∈ ops) : o.line ∈ oldLines ops ∨ o.line ∈ newLines ops := by
  induction ops with
  | nil => simp at h
  | cons p ops ih =>
    simp only [List.mem_cons] at h
    rcases h with rfl | h
    · cases o <;> simp [oldLines, newLines, Op.line]
    · rcases ih h with h | h
      · left; cases p <;> simp [oldLines, h]
      · right; cases p <;> simp [newLines, h]

theorem tag_ne_nl (o : Op) : o.tag ≠ '\n' := by cases o <;> simp [Op.tag]

theorem terminated_of_mem_fixLines_opLine (cfg : Config) (hnl : '\n' ∉ cfg.noEol) (o : Op) (ho : Terminated o.line ∨ Unterminated o.line) :
    ∀ l ∈ fixLines cfg (opLine o), Terminated l := by
  rcases ho with ⟨body, hb, hnb⟩ | ⟨_, hno⟩
  · exact terminated_of_mem_fixLines cfg
      ⟨o.tag :: body, by simp [opLine, hb], by simpa using ⟨fun h => tag_ne_nl o h.symm, hnb⟩⟩
  · have hin : '\n' ∉ opLine o := by simpa [opLine] using ⟨fun h => tag_ne_nl o h.symm, hno⟩
    unfold fixLines
    rw [if_neg fun h => hin (List.mem_of_getLast? h)]
    intro l hl
    simp only [List.mem_cons, List.not_mem_nil, or_false] at hl
    rcases hl with rfl | rfl
    · exact ⟨opLine o, rfl, hin⟩
    · exact ⟨cfg.noEol, rfl, hnl⟩

theorem hunkLines_terminated (cfg : Config) (hnl : '\n' ∉ cfg.noEol) : ∀ (s : Script) (a b : Nat),
    (∀ l ∈ oldOf s, Terminated l ∨ Unterminated l) → (∀ l ∈ newOf s, Terminated l ∨ Unterminated l) →
    ∀ x ∈ hunkLines s a b, ∀ l ∈ fixLines cfg x, Terminated l := by
  intro s
  induction s with
  | nil => intro a b _ _ x hx; simp [hunkLines] at hx
  | cons seg r ih =>
    intro a b ho hn x hx
    have ho' : ∀ l ∈ oldOf r, Terminated l ∨ Unterminated l := fun l hl => ho l (by cases seg <;> simp [oldOf, hl])
    have hn' : ∀ l ∈ newOf r, Terminated l ∨ Unterminated l := fun l hl => hn l (by cases seg <;> simp [newOf, hl])
    cases seg with
    | keep ls => exact ih _ _ ho' hn' x (by simpa [hunkLines] using hx)
    | hunk ops =>
      simp only [hunkLines, List.mem_cons, List.mem_append, List.mem_map] at hx
      rcases hx with rfl | ⟨o, hmem, rfl⟩ | hx
      · exact terminated_of_mem_fixLines cfg (terminated_hunkHeader _ _ _ _)
      · refine terminated_of_mem_fixLines_opLine cfg hnl o ?_
        rcases op_line_mem_lines ops o hmem with h | h
        · exact ho _ (by simp [oldOf, h])
        · exact hn _ (by simp [newOf, h])
      · exact ih _ _ ho' hn' x hx

theorem patchLines_terminated (cfg : Config) (hnl : '\n' ∉ cfg.noEol) (fname : List Char) (hfn : '\n' ∉ fname) (s : Script)
    (ho : LinesWF (oldOf s)) (hn : LinesWF (newOf s)) : ∀ l ∈ patchLines cfg (unifiedDiff fname s), Terminated l := by
  intro l hl
  rw [patchLines_unifiedDiff] at hl
  split at hl
  · cases hl
  · simp only [List.mem_cons] at hl
    rcases hl with rfl | rfl | hl
    · exact ⟨['-', '-', '-', ' '] ++ fname, rfl, by simpa using hfn⟩
    · exact ⟨['+', '+', '+', ' '] ++ fname, rfl, by simpa using hfn⟩
    · obtain ⟨x, hx, hlx⟩ := List.mem_flatMap.mp hl
      exact hunkLines_terminated cfg hnl s 0 0 (linesWF_mem _ ho) (linesWF_mem _ hn) x hx l hlx

theorem applyPatch_render (cfg : Config) (hm : cfg.noEol.head? = some '\\') (hf : cfg.fwd = (1, '+')) (hr : cfg.rev = (3, '-'))
    (hnl : '\n' ∉ cfg.noEol) (fname : List Char) (hfn : '\n' ∉ fname) (s : Script)
    (ho : LinesWF (oldOf s)) (hn : LinesWF (newOf s)) (rev : Bool) :
    applyPatchWith cfg (join (sideSrc rev s)) (makePatchWith cfg (unifiedDiff fname s)) rev = .ok (join (sideDst rev s)) := by
  unfold applyPatchWith
  rw [makePatchWith_eq, splitLines_join _ (linesWF_of_all_terminated _ (patchLines_terminated cfg hnl fname hfn s ho hn)),
    splitLines_join (sideSrc rev s) (by cases rev <;> simpa [sideSrc])]
  exact applyLines_render cfg hm hf hr fname s rev

/-- the configuration read from the source (`config_cfg0`) -/
def cfg0 : Config := ⟨['\\', ' ', 'N', 'o', ' ', 'n', 'e', 'w', 'l', 'i', 'n', 'e', ' ', 'a', 't', ' ', 'e', 'n', 'd', ' ',
    'o', 'f', ' ', 'f', 'i', 'l', 'e'], (1, '+'), (3, '-')⟩

theorem cfg0_nl : '\n' ∉ cfg0.noEol := by decide

theorem config_cfg0 : config = some cfg0 := by decide

theorem makePatch_eq (diffs : List Line) : makePatch diffs = .ok (makePatchWith cfg0 diffs) := by
  simp [makePatch, withConfig, config_cfg0]

theorem applyPatch_eq (source patch : List Char) (revert : Bool) :
    applyPatch source patch revert = applyPatchWith cfg0 source patch revert := by
  simp [applyPatch, withConfig, config_cfg0]

theorem mapM_ok {α β ε : Type} (f : α → Except ε β) (g : α → β) :
    ∀ (l : List α), (∀ x ∈ l, f x = .ok (g x)) → l.mapM f = .ok (l.map g)
  | [], _ => rfl
  | x :: l, h => by
    rw [List.mapM_cons, h x (by simp), mapM_ok f g l fun y hy => h y (by simp [hy])]
    rfl

/-- one file through `Protocol.diff` then `Protocol.patch`: the left side is the loop body of `protocolPatch` applied to the
entry `(name, make_patch …)` that `protocolDiff` produces (an empty patch keeps the text, else `apply_patch`) -/
theorem patch_one (yours : Files) (name : List Char) (s : Script) (hfn : '\n' ∉ name)
    (hold : oldOf s = splitLines (lookup yours name)) (hn : LinesWF (newOf s)) :
    (if (makePatchWith cfg0 (unifiedDiff name s)).isEmpty then (.ok (name, lookup yours name) : Except Err _)
      else (applyPatchWith cfg0 (lookup yours name) (makePatchWith cfg0 (unifiedDiff name s)) false).map fun t => (name, t))
      = .ok (name, join (newOf s)) := by
  have ho : LinesWF (oldOf s) := hold ▸ linesWF_splitLines _
  have hj : join (oldOf s) = lookup yours name := by rw [hold, join_splitLines]
  have hp := patchLines_unifiedDiff cfg0 name s
  rw [makePatchWith_eq]
  split at hp
  · next hb =>
    rw [hp, ← hunkLines_nil_sides s 0 0 hb, hj]
    rfl
  · have hne : (join (patchLines cfg0 (unifiedDiff name s))).isEmpty = false := by simp [hp, join]
    have := applyPatch_render cfg0 rfl rfl rfl cfg0_nl name hfn s ho hn false
    simp only [sideSrc, sideDst, Bool.false_eq_true, if_false, hj, makePatchWith_eq] at this
    rw [hne, this]
    rfl

end Proofs.C30
