import PytezosModel.Proofs.C06Group
/-! C06, part 3: the mirror against the schema.  On well-formed input the mirror of `forge_operation_group`, run over the
layouts and tables read from the source, writes exactly what the canonical writer of the schema writes; with part 2, the
schema reader reads the forged bytes back. -/
namespace C06Proofs
open Core OpLayout Impl.OpForge Spec.Op
open Generated.C06 (Codec Cond Field)

theorem natToBE_one (v : Nat) (hv : v < 256) : natToBE 1 v = some [v] := by
  have h1 : v / 256 = 0 := by omega
  have h2 : v % 256 = v := by omega
  simp [natToBE, h1, h2]

/-- the prefix chains of `forge_address` / `forge_public_key` read from the source contain the rows of the schema -/
theorem addr_rows :
    (∀ r ∈ pkhPrefixes, addrRow r.2 = some ([0, r.1], [])) ∧
    (∀ r ∈ originatedPrefixes, addrRow r.2 = some ([r.1], [0])) ∧
    (∀ r ∈ publicKeys, pkTag r.2.1 = some r.1) := by
  decide +kernel

section
variable (htab : Generated.C06.reservedEntrypoints = some reservedEntrypoints)
include htab

theorem eq_writeC
    (c : SCodec) (v : Val) (hw : WFVal c v = true) : encodeC c.erase v = writeC c v := by
  -- by the clauses of `WFVal`, not the 11 × 7 combinations: `caseN` is its N-th clause, 12 the catch-all
  revert hw
  fun_cases WFVal c v <;> intro hw
  case case12 => exact Bool.noConfusion hw
  case case1 | case2 | case6 | case7 | case8 | case9 | case11 => rfl
  case case3 p h =>
    simp only [Bool.and_eq_true, List.any_eq_true, beq_iff_eq] at hw
    obtain ⟨⟨r, hr, rfl⟩, _⟩ := hw
    simp [SCodec.erase, encodeC, forgeAddress, addr_rows.1 r hr, writeC, writePkh, prefix_rows.1 r hr]
  case case4 p h =>
    simp only [Bool.and_eq_true, Bool.or_eq_true, List.any_eq_true, beq_iff_eq] at hw
    obtain ⟨hp, _⟩ := hw
    rcases hp with ⟨r, hr, rfl⟩ | ⟨r, hr, rfl⟩
    · simp [SCodec.erase, encodeC, forgeAddress, addr_rows.1 r hr, writeC, writeAddr, prefix_rows.1 r hr]
    · simp [SCodec.erase, encodeC, forgeAddress, addr_rows.2.1 r hr, writeC, writeAddr, prefix_rows.2.1 r hr]
  case case5 p k =>
    simp only [Bool.and_eq_true, List.any_eq_true, beq_iff_eq] at hw
    obtain ⟨r, hr, rfl, _⟩ := hw
    simp [SCodec.erase, encodeC, forgePublicKey, addr_rows.2.2 r hr, writeC, writePubkey, prefix_rows.2.2 r hr]
  case case10 n =>
    simp only [Bool.and_eq_true, decide_eq_true_eq] at hw
    simp only [SCodec.erase, encodeC, forgeEntrypoint, reservedTag, htab, Option.map_some, writeC, writeEntrypoint]
    cases hf : reservedEntrypoints.find? (·.2.1 == n) with
    | some row => simp
    | none =>
      have hl : natToBE 1 n.length = some [n.length] := natToBE_one _ (by omega)
      have h256 : n.length < 256 := by omega
      simp [forgeArray, hl, h256]

theorem eq_writeFields :
    ∀ (fs : List (String × SCodec)) (vs : List Val), WFVals fs vs = true →
      encodeFields (eraseFs fs) vs = writeFields fs vs
  | [], [], _ => rfl
  | [], _ :: _, hw => nomatch hw
  | _ :: _, [], hw => nomatch hw
  | (n, c) :: fs, v :: vs, hw => by
    simp only [WFVals, Bool.and_eq_true] at hw
    show encodeFields ((n, c.erase) :: eraseFs fs) (v :: vs) = _
    rw [encodeFields, eq_writeC htab c v hw.1, eq_writeFields fs vs hw.2, writeFields]

theorem eq_writeF
    (f : SField) (v : FVal) (hw : WFF f v = true) : encodeF f.erase v = writeF f v := by
  revert hw
  fun_cases WFF f v <;> intro hw
  case case1 n c v => simp [SField.erase, encodeF, writeF, eq_writeC htab c v hw]
  case case2 => simp [SField.erase, encodeF, writeF, forgeBool]
  case case3 n cond fs vs =>
    simp only [SField.erase, encodeF, writeF, eq_writeFields htab fs vs hw, forgeBool]
    by_cases hel : (cond == Cond.elideDefaultUnit && elided vs) = true
    · simp [hel]
    · simp only [hel]
      cases writeFields fs vs <;> simp
  case case4 => exact Bool.noConfusion hw

theorem eq_writeL :
    ∀ (l : List SField) (r : Record), WFRecord l r = true → encodeL (eraseL l) r = writeL l r
  | [], [], _ => rfl
  | [], _ :: _, hw => nomatch hw
  | _ :: _, [], hw => nomatch hw
  | f :: fs, v :: vs, hw => by
    simp only [WFRecord, Bool.and_eq_true] at hw
    show encodeL (f.erase :: eraseL fs) (v :: vs) = _
    rw [encodeL, eq_writeF htab f v hw.1, eq_writeL fs vs hw.2, writeL]

end

/-- the regenerated layouts and tags are the Tezos ones, and a tag determines its kind -/
def TablesOK : Prop :=
  ∀ row ∈ tezosOps, layoutOf row.kind = some (eraseL row.layout) ∧ tagOf row.kind = some row.tag ∧ row.tag < 256 ∧
    rowOfTag row.tag = some row ∧ rowOfKind row.kind = some row

section
variable (htab : Generated.C06.reservedEntrypoints = some reservedEntrypoints) (ht : TablesOK)
include htab ht

theorem eq_writeContent
    (c : Content) (hw : WFContent c = true) : forgeOperation c = writeContent c := by
  unfold WFContent at hw
  cases hr : rowOfKind c.kind with
  | none => simp [hr] at hw
  | some row =>
    simp only [hr] at hw
    obtain ⟨hmem, hk⟩ := rowOfKind_some _ _ hr
    obtain ⟨h1, h2, h3, _, _⟩ := ht row hmem
    simp only [forgeOperation, ← hk, h1, h2, natToBE_one row.tag h3, Option.bind_eq_bind, Option.bind_some,
      eq_writeL htab row.layout c.fields hw, writeContent]
    rw [hk, hr]
    cases hwl : writeL row.layout c.fields <;> simp [hwl]

theorem eq_writeContents :
    ∀ (cs : List Content), (∀ c ∈ cs, WFContent c = true) → forgeContents cs = writeContents cs
  | [], _ => rfl
  | c :: cs, hw => by
    simp only [forgeContents, writeContents, eq_writeContent htab ht c (hw c (by simp)),
      eq_writeContents cs (fun c' hc' => hw c' (by simp [hc']))]

theorem eq_writeGroup
    (hh : Generated.C06.helpersAsMirrored = true) (g : Group) (hw : WFGroup g = true) :
    forgeGroup g = writeGroup g := by
  simp only [WFGroup, Bool.and_eq_true, List.all_eq_true] at hw
  simp only [forgeGroup, hh, if_true, writeGroup, eq_writeContents htab ht g.contents hw.2]

theorem rt_group
    (g : Group) (hw : WFGroup g = true) (bs : Bytes) (he : forgeGroup g = some bs) :
    decodeGroup bs = some (normGroup g) := by
  have hh : Generated.C06.helpersAsMirrored = true := by
    cases hh : Generated.C06.helpersAsMirrored
    · simp [forgeGroup, hh] at he
    · rfl
  exact decodeGroup_writeGroup g hw bs (eq_writeGroup htab ht hh g hw ▸ he)

end

theorem forgeGroup_inj (htab : Generated.C06.reservedEntrypoints = some reservedEntrypoints) (ht : TablesOK)
    (g₁ g₂ : Group) (h₁ : WFGroup g₁ = true) (h₂ : WFGroup g₂ = true) (bs : Bytes)
    (f₁ : forgeGroup g₁ = some bs) (f₂ : forgeGroup g₂ = some bs) : normGroup g₁ = normGroup g₂ :=
  Option.some.inj ((rt_group htab ht g₁ h₁ bs f₁).symm.trans (rt_group htab ht g₂ h₂ bs f₂))

end C06Proofs
