import PytezosModel.Proofs.InterpSound
set_option linter.unusedSectionVars false   -- `[Mode]` is a section variable of every lemma here; some do not use it
/-! Groundwork for progress.  `Res.Safe P r`: the outcome `r` is not stuck (and not `offguard`) and a result satisfies `P` — the
predicate transformer through which progress and the preservation of the invariant `GoodStack` (every set / map inside the
values of the stack is strictly sorted: `Typing.litOk`) are proved in one pass; canonical forms of well-formed values. -/
namespace Interp
variable [Mode]
open Typing

/-- `r` is not stuck, not outside the guard, and a result of `r` satisfies `P` -/
def Res.Safe {α : Type} (P : α → Prop) : Res α → Prop
  | .ok a => P a
  | .stuck => False
  | .offguard => False
  | _ => True

@[simp] theorem safe_ok {α : Type} (P : α → Prop) (a : α) : (Res.ok a).Safe P ↔ P a := Iff.rfl
@[simp] theorem safe_failed {α : Type} (P : α → Prop) (v : Val) : (Res.failed v : Res α).Safe P := trivial
@[simp] theorem safe_rtfail {α : Type} (P : α → Prop) : (Res.rtfail : Res α).Safe P := trivial
@[simp] theorem safe_oof {α : Type} (P : α → Prop) : (Res.oof : Res α).Safe P := trivial
@[simp] theorem safe_stuck {α : Type} (P : α → Prop) : ¬ (Res.stuck : Res α).Safe P := fun h => h
@[simp] theorem safe_offguard {α : Type} (P : α → Prop) : ¬ (Res.offguard : Res α).Safe P := fun h => h

theorem Res.Safe.ne_stuck {α : Type} {P : α → Prop} {r : Res α} (h : r.Safe P) : r ≠ .stuck := by
  intro e; subst e; exact h

theorem Res.Safe.ne_offguard {α : Type} {P : α → Prop} {r : Res α} (h : r.Safe P) : r ≠ .offguard := by
  intro e; subst e; exact h

theorem Res.Safe.of_ok {α : Type} {P : α → Prop} {r : Res α} {a : α} (h : r.Safe P) (he : r = .ok a) : P a := by
  subst he; exact h

theorem Res.Safe.mono {α : Type} {P Q : α → Prop} {r : Res α} (h : r.Safe P) (hpq : ∀ a, r = .ok a → P a → Q a) :
    r.Safe Q := by
  cases r <;> first | exact h | exact hpq _ rfl h

theorem Res.Safe.bind {α β : Type} {P : α → Prop} {Q : β → Prop} {r : Res α} {f : α → Res β}
    (h : r.Safe P) (hf : ∀ a, r = .ok a → P a → (f a).Safe Q) : (r.bind f).Safe Q := by
  cases r <;> first | exact h | exact hf _ rfl h

/-- a rule under a condition `c'` that follows from the condition `c` of its typing rule -/
theorem Res.Safe.guard {α β : Type} {P : β → Prop} {c c' : Prop} [Decidable c] [Decidable c'] {x y : α} {r : Res β}
    (hty : (if c then some x else none) = some y) (hc : c → c') (h : c → r.Safe P) : (if c' then r else .stuck).Safe P := by
  have hc0 := (Option.ite_none_right_eq_some.mp hty).1
  rw [if_pos (hc hc0)]
  exact h hc0

/-- every set / map inside the values of the stack is strictly sorted -/
def GoodStack (st : List Val) : Prop := ∀ v ∈ st, litOk v = true

theorem goodStack_nil : GoodStack [] := by simp [GoodStack]
theorem goodStack_cons {v : Val} {st : List Val} : GoodStack (v :: st) ↔ litOk v = true ∧ GoodStack st :=
  List.forall_mem_cons
theorem goodStack_tail {v : Val} {st : List Val} (h : GoodStack (v :: st)) : GoodStack st := (goodStack_cons.mp h).2
theorem goodStack_top {a b : Val} {st : List Val} (h : litOk a = true → litOk b = true) (hg : GoodStack (a :: st)) :
    GoodStack (b :: st) :=
  goodStack_cons.mpr ⟨h (goodStack_cons.mp hg).1, goodStack_tail hg⟩
theorem goodStack_append {a b : List Val} : GoodStack (a ++ b) ↔ GoodStack a ∧ GoodStack b :=
  List.forall_mem_append
theorem goodStack_take {st : List Val} (h : GoodStack st) (n : Nat) : GoodStack (st.take n) :=
  fun v hv => h v (List.mem_of_mem_take hv)
theorem goodStack_drop {st : List Val} (h : GoodStack st) (n : Nat) : GoodStack (st.drop n) :=
  fun v hv => h v (List.mem_of_mem_drop hv)
theorem goodStack_get {st : List Val} (h : GoodStack st) (n : Nat) (v : Val) (hv : st[n]? = some v) : litOk v = true :=
  h v (List.mem_of_getElem? hv)

theorem litOks_iff : ∀ xs : List Val, litOks xs = true ↔ ∀ x ∈ xs, litOk x = true
  | [] => by simp [litOks]
  | x :: xs => by simp [litOks, litOks_iff xs]

theorem litOks_eq_goodStack (xs : List Val) : litOks xs = true ↔ GoodStack xs := litOks_iff xs

@[simp] theorem litOk_unit : litOk .unit = true := by simp [litOk]
@[simp] theorem litOk_bool (b : Bool) : litOk (.bool b) = true := by simp [litOk]
@[simp] theorem litOk_num (t : Ty) (v : Int) : litOk (.num t v) = true := by simp [litOk]
@[simp] theorem litOk_str (s : List Nat) : litOk (.str s) = true := by simp [litOk]
@[simp] theorem litOk_bytes (s : List Nat) : litOk (.bytes s) = true := by simp [litOk]
@[simp] theorem litOk_atom (t : Ty) (s : List Nat) : litOk (.atom t s) = true := by simp [litOk]
@[simp] theorem litOk_none (t : Ty) : litOk (.none t) = true := by simp [litOk]
@[simp] theorem litOk_pair (a b : Val) : litOk (.pair a b) = true ↔ litOk a = true ∧ litOk b = true := by simp [litOk]
@[simp] theorem litOk_some (a : Val) : litOk (.some a) = litOk a := by simp [litOk]
@[simp] theorem litOk_left (a : Val) (t : Ty) : litOk (.left a t) = litOk a := by simp [litOk]
@[simp] theorem litOk_right (a : Val) (t : Ty) : litOk (.right t a) = litOk a := by simp [litOk]
@[simp] theorem litOk_list (t : Ty) (xs : List Val) : litOk (.list t xs) = true ↔ GoodStack xs := by
  simp [litOk, litOks_iff, GoodStack]
theorem litOk_set (t : Ty) (xs : List Val) : litOk (.set t xs) = true ↔ goodSet t xs = true ∧ GoodStack xs := by
  simp [litOk, litOks_iff, GoodStack]
theorem litOk_map (k v : Ty) (xs : List Val) :
    litOk (.map k v xs) = true ↔ (simpleComparable k = true → goodMap k xs = true) ∧ GoodStack xs := by
  simp only [litOk, Bool.and_eq_true, Bool.or_eq_true, Bool.not_eq_true', litOks_iff, GoodStack]
  cases simpleComparable k <;> simp
@[simp] theorem litOk_lam (a b : Ty) (body : Instr) : litOk (.lam a b body) = literalsOk body := by simp [litOk]

theorem litOk_of_isKey {k : Ty} {v : Val} (h : isKey k v = true) : litOk v = true := by
  rcases isKey_shape h with ⟨_, n, rfl⟩ | ⟨_, n, rfl⟩ | ⟨_, n, rfl⟩ | ⟨_, n, rfl⟩ | ⟨_, s, rfl⟩ | ⟨_, s, rfl⟩ |
    ⟨_, b, rfl⟩ | ⟨_, rfl⟩ <;> simp

/-- canonical forms at the types without components, and the shape at `big_map`.  Every constructor but `num` / `atom`
has a type of its own (`typeOf`), and a `num` / `atom` is well-formed at its own classes only. -/
theorem canon_flat {a : Val} {t : Ty} (hw : WF a) (ht : typeOf a = t) : match t with
    | .unit => a = .unit
    | .string => ∃ s, a = .str s
    | .bytes => ∃ s, a = .bytes s
    | .int | .nat | .mutez | .timestamp => ∃ n, a = .num t n
    | .address | .chainId | .keyHash | .key | .signature => ∃ s, a = .atom t s
    | .contract u => ∃ s, a = .contract u s
    | .bigMap k v => ∃ xs, a = .bigMap k v xs
    | .never => False
    | _ => True := by
  subst ht
  cases a
  case num t _ | atom t _ => cases t <;> first | exact ⟨_, rfl⟩ | trivial | cases hw
  all_goals first | exact ⟨_, rfl⟩ | trivial | rfl

theorem canon_unit {a : Val} (hw : WF a) (ht : typeOf a = .unit) : a = .unit := canon_flat hw ht
theorem canon_bool {a : Val} (hw : WF a) (ht : typeOf a = .bool) : ∃ b, a = .bool b :=
  hasTy_bool (hasTy_iff.mpr ⟨hw, ht⟩)
theorem canon_int {a : Val} (hw : WF a) (ht : typeOf a = .int) : ∃ n, a = .num .int n := canon_flat hw ht
theorem canon_timestamp {a : Val} (hw : WF a) (ht : typeOf a = .timestamp) : ∃ n, a = .num .timestamp n := canon_flat hw ht
theorem canon_nat {a : Val} (hw : WF a) (ht : typeOf a = .nat) : ∃ n, a = .num .nat n ∧ 0 ≤ n := by
  obtain ⟨n, rfl⟩ : ∃ n, a = .num .nat n := canon_flat hw ht
  exact ⟨n, rfl, (wf_nat _).mp hw⟩
theorem canon_mutez {a : Val} (hw : WF a) (ht : typeOf a = .mutez) : ∃ n, a = .num .mutez n ∧ 0 ≤ n ∧ n < 2 ^ 63 := by
  obtain ⟨n, rfl⟩ : ∃ n, a = .num .mutez n := canon_flat hw ht
  exact ⟨n, rfl, (wf_mutez _).mp hw⟩
theorem canon_string {a : Val} (hw : WF a) (ht : typeOf a = .string) : ∃ s, a = .str s := canon_flat hw ht
theorem canon_bytes {a : Val} (hw : WF a) (ht : typeOf a = .bytes) : ∃ s, a = .bytes s := canon_flat hw ht
theorem canon_pair {a : Val} {l r : Ty} (hw : WF a) (ht : typeOf a = .pair l r) :
    ∃ x y, a = .pair x y ∧ (WF x ∧ typeOf x = l) ∧ (WF y ∧ typeOf y = r) := by
  obtain ⟨x, y, rfl, hx, hy⟩ := hasTy_pair (hasTy_iff.mpr ⟨hw, ht⟩)
  exact ⟨x, y, rfl, hasTy_iff.mp hx, hasTy_iff.mp hy⟩
theorem canon_option {a : Val} {t : Ty} (hw : WF a) (ht : typeOf a = .option t) :
    a = .none t ∨ ∃ x, a = .some x ∧ WF x ∧ typeOf x = t := by
  rcases hasTy_option (hasTy_iff.mpr ⟨hw, ht⟩) with h | ⟨x, rfl, hx⟩
  · exact Or.inl h
  · exact Or.inr ⟨x, rfl, hasTy_iff.mp hx⟩
theorem canon_or {a : Val} {l r : Ty} (hw : WF a) (ht : typeOf a = .or l r) :
    (∃ x, a = .left x r ∧ WF x ∧ typeOf x = l) ∨ (∃ x, a = .right l x ∧ WF x ∧ typeOf x = r) := by
  rcases hasTy_or (hasTy_iff.mpr ⟨hw, ht⟩) with ⟨x, rfl, hx⟩ | ⟨x, rfl, hx⟩
  · exact Or.inl ⟨x, rfl, hasTy_iff.mp hx⟩
  · exact Or.inr ⟨x, rfl, hasTy_iff.mp hx⟩
theorem canon_list {a : Val} {t : Ty} (hw : WF a) (ht : typeOf a = .list t) :
    ∃ xs, a = .list t xs ∧ ∀ x ∈ xs, WF x ∧ typeOf x = t := by
  obtain ⟨xs, rfl, h⟩ := hasTy_list (hasTy_iff.mpr ⟨hw, ht⟩)
  exact ⟨xs, rfl, allTy_iff.mp h⟩
theorem canon_set {a : Val} {t : Ty} (hw : WF a) (ht : typeOf a = .set t) :
    ∃ xs, a = .set t xs ∧ ∀ x ∈ xs, WF x ∧ typeOf x = t := by
  obtain ⟨xs, rfl, h⟩ := hasTy_set (hasTy_iff.mpr ⟨hw, ht⟩)
  exact ⟨xs, rfl, allTy_iff.mp h⟩
theorem canon_map {a : Val} {k v : Ty} (hw : WF a) (ht : typeOf a = .map k v) :
    ∃ xs, a = .map k v xs ∧ ∀ x ∈ xs, WF x ∧ typeOf x = .pair k v := by
  obtain ⟨xs, rfl, h⟩ := hasTy_map (hasTy_iff.mpr ⟨hw, ht⟩)
  exact ⟨xs, rfl, allTy_iff.mp h⟩
theorem canon_lambda {a : Val} {ta tb : Ty} (hw : WF a) (ht : typeOf a = .lambda ta tb) :
    ∃ body, a = .lam ta tb body ∧ BodyTy body ta tb :=
  hasTy_lambda (hasTy_iff.mpr ⟨hw, ht⟩)
theorem canon_keyHash {a : Val} (hw : WF a) (ht : typeOf a = .keyHash) : ∃ s, a = .atom .keyHash s := canon_flat hw ht
theorem canon_key {a : Val} (hw : WF a) (ht : typeOf a = .key) : ∃ s, a = .atom .key s := canon_flat hw ht
theorem canon_signature {a : Val} (hw : WF a) (ht : typeOf a = .signature) : ∃ s, a = .atom .signature s := canon_flat hw ht
theorem canon_contract {a : Val} {t : Ty} (hw : WF a) (ht : typeOf a = .contract t) : ∃ s, a = .contract t s := canon_flat hw ht
theorem canon_address {a : Val} (hw : WF a) (ht : typeOf a = .address) : ∃ s, a = .atom .address s := canon_flat hw ht
/-- there is no well-formed value of type `never` -/
theorem no_never {a : Val} (hw : WF a) (ht : typeOf a = .never) : False := canon_flat hw ht

theorem isKey_of_wf {k : Ty} {a : Val} (hw : WF a) (ht : typeOf a = k) (hs : simpleComparable k = true) : isKey k a = true := by
  subst ht
  cases a <;> first | (cases hs; done) | rfl | skip
  · rename_i t v
    rcases wf_num_ty hw with rfl | rfl | rfl | rfl <;> rfl
  · rename_i t v
    cases t <;> first | (cases hs; done) | (cases hw; done)

end Interp
