import PytezosModel.Michelson.Tickets
/-! C20: the three measures of a list of values (`LS` total amount per kind, `LC` consistency, `LN` no zero ticket), the
relation `Acc` between the values a step consumes and the values it produces, the inversion lemmas for a successful
`>>=` / guard in `M` and `Option` (`bind_ok`, `guard_*`), the stack primitives up to permutation of the items, and the
step relation `Good` with its frame rule. -/
namespace Impl.Tickets

abbrev LS (k : TKey) (xs : List Val) : Nat := ticketSumList k xs
def LC (xs : List Val) : Prop := ∀ v ∈ xs, v.consistent = true
def LN (xs : List Val) : Prop := ∀ v ∈ xs, noZero v = true

theorem LS_nil (k : TKey) : LS k [] = 0 := rfl
theorem LS_cons (k : TKey) (x : Val) (xs : List Val) : LS k (x :: xs) = ticketSum k x + LS k xs := rfl

theorem LS_append (k : TKey) (xs ys : List Val) : LS k (xs ++ ys) = LS k xs + LS k ys := by
  induction xs with
  | nil => exact (Nat.zero_add _).symm
  | cons x xs ih => rw [List.cons_append, LS_cons, LS_cons, ih, Nat.add_assoc]

theorem LS_perm (k : TKey) {xs ys : List Val} (h : xs.Perm ys) : LS k xs = LS k ys := by
  induction h with
  | nil => rfl
  | cons x _ ih => simp only [LS_cons, ih]
  | swap x y l => simp only [LS_cons]; omega
  | trans _ _ ih1 ih2 => exact ih1.trans ih2

theorem mem_LS_le (k : TKey) {v : Val} {xs : List Val} (h : v ∈ xs) : ticketSum k v ≤ LS k xs := by
  obtain ⟨as, bs, rfl⟩ := List.append_of_mem h
  rw [LS_append, LS_cons]
  omega

theorem forall_mem_perm {p : Val → Prop} {xs ys : List Val} (h : xs.Perm ys) : (∀ v ∈ xs, p v) ↔ ∀ v ∈ ys, p v :=
  ⟨fun hx v hv => hx v (h.mem_iff.mpr hv), fun hy v hv => hy v (h.mem_iff.mp hv)⟩

theorem LC_perm {xs ys : List Val} (h : xs.Perm ys) : LC xs ↔ LC ys := forall_mem_perm h
theorem LN_perm {xs ys : List Val} (h : xs.Perm ys) : LN xs ↔ LN ys := forall_mem_perm h
theorem LC_append {xs ys : List Val} : LC (xs ++ ys) ↔ LC xs ∧ LC ys := List.forall_mem_append
theorem LN_append {xs ys : List Val} : LN (xs ++ ys) ↔ LN xs ∧ LN ys := List.forall_mem_append
theorem LC_cons {x : Val} {xs : List Val} : LC (x :: xs) ↔ x.consistent = true ∧ LC xs := List.forall_mem_cons
theorem LN_cons {x : Val} {xs : List Val} : LN (x :: xs) ↔ noZero x = true ∧ LN xs := List.forall_mem_cons
theorem LC_nil : LC [] := fun _ hv => nomatch hv
theorem LN_nil : LN [] := fun _ hv => nomatch hv

theorem noZeroList_iff (xs : List Val) : noZeroList xs = true ↔ LN xs := by
  induction xs with
  | nil => simp [noZeroList, LN_nil]
  | cons x xs ih => simp [noZeroList, LN_cons, ih]

theorem consistentList_iff (t : Ty) (xs : List Val) :
    Val.consistentList t xs = true ↔ (∀ v ∈ xs, v.typeOf = t) ∧ LC xs := by
  induction xs with
  | nil => simp [Val.consistentList, LC_nil]
  | cons x xs ih =>
    simp only [Val.consistentList, Bool.and_eq_true, beq_iff_eq, ih, List.forall_mem_cons, LC_cons]
    exact ⟨fun ⟨⟨h1, h2⟩, h3, h4⟩ => ⟨⟨h1, h3⟩, h2, h4⟩, fun ⟨⟨h1, h3⟩, h2, h4⟩ => ⟨⟨h1, h2⟩, h3, h4⟩⟩

theorem mintedSum_append (k : TKey) : ∀ (a b : List (String × Cmp × Nat)), mintedSum k (a ++ b) = mintedSum k a + mintedSum k b
  | [], b => (Nat.zero_add _).symm
  | (tk, ct, n) :: a, b => by simp only [List.cons_append, mintedSum, mintedSum_append k a b, Nat.add_assoc]

/-- the value-level content of a step that consumes `ops`, produces `res` and mints `new`: as long as `ops` are
consistent so are `res`, they hold no more of any kind than `ops` and the mints, and no new zero ticket -/
def Acc (new : List (String × Cmp × Nat)) (ops res : List Val) : Prop :=
  LC ops → LC res ∧ (∀ k, LS k res ≤ LS k ops + mintedSum k new) ∧ (LN ops → LN res)

theorem bind_ok {α β : Type} {x : M α} {f : α → M β} {b : β} (h : x >>= f = .ok b) : ∃ a, x = .ok a ∧ f a = .ok b := by
  cases x with
  | error e => cases h
  | ok a => exact ⟨a, rfl, h⟩

theorem bind_eq {α β : Type} {x : M α} {f : α → M β} {a : α} {b : β} (hx : x = .ok a) (h : x >>= f = .ok b) : f a = .ok b := by
  subst hx; exact h

theorem bind_val {α β : Type} {x : M α} {f : α → M β} {a : α} (hx : x = .ok a) : x >>= f = f a := by
  subst hx; rfl

theorem guard_ok {α : Type} {p : Prop} [Decidable p] {e : Err} {x : M α} {a : α} (h : (if p then .error e else x) = .ok a) :
    ¬ p ∧ x = .ok a := by
  split at h
  · cases h
  · exact ⟨‹_›, h⟩

theorem guard_ok' {α : Type} {p : Prop} [Decidable p] {e : Err} {x : M α} {a : α} (h : (if p then x else .error e) = .ok a) :
    p ∧ x = .ok a := by
  split at h
  · exact ⟨‹_›, h⟩
  · cases h

theorem guard_bne {α β : Type} [BEq β] [LawfulBEq β] {a b : β} {e : Err} {x : M α} {y : α}
    (h : (if a != b then .error e else x) = .ok y) : a = b ∧ x = .ok y :=
  have ⟨hn, hx⟩ := guard_ok h
  ⟨by simpa using hn, hx⟩

theorem guard_some {α : Type} {p : Prop} [Decidable p] {x y : α} (h : (if p then some x else none) = some y) : p ∧ x = y := by
  split at h
  · exact ⟨‹_›, Option.some.inj h⟩
  · cases h

theorem guard_none {α : Type} {p : Prop} [Decidable p] {x : Option α} {y : α} (h : (if p then none else x) = some y) :
    ¬ p ∧ x = some y := by
  split at h
  · cases h
  · exact ⟨‹_›, h⟩

/-- `s1` is `s` with the values `vs` taken out; the ghost fields are untouched -/
def Popped (s : State) (vs : List Val) (s1 : State) : Prop :=
  s.items.Perm (vs ++ s1.items) ∧ s1.self = s.self ∧ s1.typedStores = s.typedStores ∧ s1.minted = s.minted

theorem pop_spec {s s1 : State} {n : Nat} {vs : List Val} (h : s.pop n = .ok (vs, s1)) : Popped s vs s1 ∧ vs.length = n := by
  unfold State.pop at h
  split at h
  · cases h
  · rename_i hlen
    cases h
    refine ⟨⟨?_, rfl, rfl, rfl⟩, by simp only [List.length_take, List.length_drop]; omega⟩
    -- items = take p ++ (take n (drop p) ++ drop (p + n)), and the middle block is moved to the front
    show s.items.Perm ((s.items.drop s.prot).take n ++ (s.items.take s.prot ++ s.items.drop (s.prot + n)))
    rw [← List.drop_drop]
    refine .trans (.of_eq ?_) (List.perm_append_comm_assoc _ _ _)
    rw [List.take_append_drop, List.take_append_drop]

theorem pop1_eq {s s1 : State} {a : Val} (h : s.pop1 = .ok (a, s1)) : s.pop 1 = .ok ([a], s1) := by
  obtain ⟨⟨vs, s'⟩, hp, hk⟩ := bind_ok h
  match vs, hk with
  | [x], hk => cases hk; exact hp

theorem pop2_eq {s s1 : State} {a b : Val} (h : s.pop2 = .ok (a, b, s1)) : s.pop 2 = .ok ([a, b], s1) := by
  obtain ⟨⟨vs, s'⟩, hp, hk⟩ := bind_ok h
  match vs, hk with
  | [x, y], hk => cases hk; exact hp

theorem pop3_eq {s s1 : State} {a b d : Val} (h : s.pop3 = .ok (a, b, d, s1)) : s.pop 3 = .ok ([a, b, d], s1) := by
  obtain ⟨⟨vs, s'⟩, hp, hk⟩ := bind_ok h
  match vs, hk with
  | [x, y, z], hk => cases hk; exact hp

theorem pop1_spec {s s1 : State} {a : Val} (h : s.pop1 = .ok (a, s1)) : Popped s [a] s1 := (pop_spec (pop1_eq h)).1
theorem pop2_spec {s s1 : State} {a b : Val} (h : s.pop2 = .ok (a, b, s1)) : Popped s [a, b] s1 := (pop_spec (pop2_eq h)).1
theorem pop3_spec {s s1 : State} {a b d : Val} (h : s.pop3 = .ok (a, b, d, s1)) : Popped s [a, b, d] s1 :=
  (pop_spec (pop3_eq h)).1

theorem push_perm (s : State) (v : Val) : (s.push v).items.Perm (v :: s.items) :=
  List.perm_middle.trans (.of_eq (congrArg (v :: ·) (List.take_append_drop _ _)))

/-- pushing `res` (last first, so that its head ends on top) puts it back, in `Popped`'s sense -/
theorem pushes_popped (s : State) : ∀ res : List Val, Popped (res.foldr (fun v t => t.push v) s) res s
  | [] => ⟨.refl _, rfl, rfl, rfl⟩
  | v :: res =>
    have ih := pushes_popped s res
    ⟨(push_perm _ v).trans (ih.1.cons v), ih.2⟩

theorem peek_perm {s : State} {v : Val} (h : s.peek = .ok v) : ∃ rest, s.items.Perm (v :: rest) := by
  unfold State.peek at h
  split at h
  · cases h
  · split at h
    · rename_i x hx
      cases h
      obtain ⟨as, bs, e⟩ := List.append_of_mem (List.mem_of_getElem? hx)
      exact ⟨as ++ bs, e ▸ List.perm_middle⟩
    · cases h

def SameCore (s s' : State) : Prop :=
  s'.items = s.items ∧ s'.self = s.self ∧ s'.typedStores = s.typedStores ∧ s'.minted = s.minted

theorem protect_sameCore {s s1 : State} {n : Nat} (h : s.protect n = .ok s1) : SameCore s s1 := by
  unfold State.protect at h
  split at h <;> cases h
  exact ⟨rfl, rfl, rfl, rfl⟩

theorem restore_sameCore {s s1 : State} {n : Nat} (h : s.restore n = .ok s1) : SameCore s s1 := by
  unfold State.restore at h
  split at h <;> cases h
  exact ⟨rfl, rfl, rfl, rfl⟩

theorem Popped.core {s s1 s2 : State} {vs : List Val} (h : Popped s vs s1) (hc : SameCore s1 s2) : Popped s vs s2 := by
  obtain ⟨h1, h2, h3, h4⟩ := hc
  exact ⟨h1 ▸ h.1, h2 ▸ h.2.1, h3 ▸ h.2.2.1, h4 ▸ h.2.2.2⟩

/-- what a successful step guarantees.  `typedStores` is the ghost flag "every UPDATE / GET_AND_UPDATE so far stored a value
of the map's declared value type"; as long as it holds, consistency, conservation and no-zero are preserved. -/
structure Good (s s' : State) : Prop where
  self_eq : s'.self = s.self
  typed_mono : s'.typedStores = true → s.typedStores = true
  minted_ext : ∃ new, s'.minted = new ++ s.minted
  inv : s'.typedStores = true → LC s.items →
    LC s'.items ∧ (∀ k, s'.sum k + mintedSum k s.minted ≤ s.sum k + mintedSum k s'.minted) ∧ (LN s.items → LN s'.items)

theorem Good.refl (s : State) : Good s s :=
  ⟨rfl, id, ⟨[], rfl⟩, fun _ hc => ⟨hc, fun _ => Nat.le_refl _, id⟩⟩

theorem Good.trans {s s1 s2 : State} (g1 : Good s s1) (g2 : Good s1 s2) : Good s s2 := by
  refine ⟨g2.self_eq.trans g1.self_eq, fun h => g1.typed_mono (g2.typed_mono h), ?_, fun ht hc => ?_⟩
  · obtain ⟨n1, h1⟩ := g1.minted_ext
    obtain ⟨n2, h2⟩ := g2.minted_ext
    exact ⟨n2 ++ n1, by rw [h2, h1, List.append_assoc]⟩
  · obtain ⟨c1, m1, z1⟩ := g1.inv (g2.typed_mono ht) hc
    obtain ⟨c2, m2, z2⟩ := g2.inv ht c1
    refine ⟨c2, fun k => ?_, fun hz => z2 (z1 hz)⟩
    have := m1 k; have := m2 k; omega

/-- the frame rule for the three measures: values `R` that take no part may stand beside both sides, in any order -/
theorem measures_frame {A B A' B' R : List Val} {p q : TKey → Nat} (hA : A'.Perm (A ++ R)) (hB : B'.Perm (B ++ R))
    (h : LC A → LC B ∧ (∀ k, LS k B + p k ≤ LS k A + q k) ∧ (LN A → LN B)) (hc : LC A') :
    LC B' ∧ (∀ k, LS k B' + p k ≤ LS k A' + q k) ∧ (LN A' → LN B') := by
  have hc' := LC_append.mp ((LC_perm hA).mp hc)
  obtain ⟨r1, r2, r3⟩ := h hc'.1
  refine ⟨(LC_perm hB).mpr (LC_append.mpr ⟨r1, hc'.2⟩), fun k => ?_, fun hz => ?_⟩
  · rw [LS_perm k hA, LS_perm k hB, LS_append, LS_append]
    have := r2 k; omega
  · have hz' := LN_append.mp ((LN_perm hA).mp hz)
    exact (LN_perm hB).mpr (LN_append.mpr ⟨r3 hz'.1, hz'.2⟩)

/-- a step that consumes `ops`, produces `res`, leaves the rest of the stack alone (in any order), logs `new` mints and
and-s `flag` into the ghost flag -/
theorem Good.frame {s s' : State} {ops res : List Val} (rest : List Val) (new : List (String × Cmp × Nat)) (flag : Bool)
    (h1 : s.items.Perm (ops ++ rest)) (h2 : s'.items.Perm (res ++ rest))
    (hself : s'.self = s.self) (htyped : s'.typedStores = (flag && s.typedStores)) (hmint : s'.minted = new ++ s.minted)
    (hv : flag = true → Acc new ops res) : Good s s' := by
  rw [Bool.eq_iff_iff, Bool.and_eq_true] at htyped
  refine ⟨hself, fun h => (htyped.mp h).2, ⟨new, hmint⟩, fun ht => measures_frame h1 h2 fun hc => ?_⟩
  obtain ⟨r1, r2, r3⟩ := hv (htyped.mp ht).1 hc
  exact ⟨r1, fun k => by rw [hmint, mintedSum_append]; have := r2 k; omega, r3⟩

theorem Popped.good {s s1 s' : State} {ops : List Val} (hpop : Popped s ops s1) (res : List Val)
    (new : List (String × Cmp × Nat)) (flag : Bool) (hpush : s'.items.Perm (res ++ s1.items)) (hself : s'.self = s1.self)
    (htyped : s'.typedStores = (flag && s1.typedStores)) (hmint : s'.minted = new ++ s1.minted)
    (hv : flag = true → Acc new ops res) : Good s s' :=
  Good.frame s1.items new flag hpop.1 hpush (hself.trans hpop.2.1) (by rw [htyped, hpop.2.2.1])
    (by rw [hmint, hpop.2.2.2]) hv

theorem Popped.push {s s1 : State} {ops : List Val} (hpop : Popped s ops s1) (res : List Val) (hv : Acc [] ops res) :
    Good s (res.foldr (fun v t => t.push v) s1) :=
  have h := pushes_popped s1 res
  hpop.good res [] true h.1 h.2.1.symm h.2.2.1.symm h.2.2.2.symm fun _ => hv

theorem Good.perm {s t : State} (hi : s.items.Perm t.items) (hs : t.self = s.self) (ht : t.typedStores = s.typedStores)
    (hm : t.minted = s.minted) : Good s t :=
  Good.frame (ops := []) (res := []) t.items [] true hi (.refl _) hs ht hm
    fun _ _ => ⟨LC_nil, fun _ => Nat.le_refl _, fun _ => LN_nil⟩

theorem Good.of_sameCore {s s' : State} (h : SameCore s s') : Good s s' :=
  Good.perm (.of_eq h.1.symm) h.2.1 h.2.2.1 h.2.2.2

end Impl.Tickets
