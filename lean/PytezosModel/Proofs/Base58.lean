import PytezosModel.Core.Base58
/-! Lemmas about positional numerals and Base58: the two round trips, injectivity, and the
length / prefix range lemma used by the per-row obligations of C09 and C10. -/
namespace Base58

theorem snoc_induction {P : List Nat → Prop} (nil : P [])
    (snoc : ∀ xs d, P xs → P (xs ++ [d])) : ∀ xs, P xs := by
  have h : ∀ r : List Nat, P r.reverse := by
    intro r
    induction r with
    | nil => exact nil
    | cons a r ih => rw [List.reverse_cons]; exact snoc _ _ ih
  intro xs
  have := h xs.reverse
  rwa [List.reverse_reverse] at this

theorem ofDigitsAcc_eq (b acc : Nat) (ds : List Nat) :
    ofDigitsAcc b acc ds = acc * b ^ ds.length + ofDigits b ds := by
  induction ds generalizing acc with
  | nil => simp [ofDigitsAcc, ofDigits]
  | cons d ds ih =>
    simp only [ofDigits, ofDigitsAcc, List.length_cons]
    rw [ih (acc * b + d), ih (0 * b + d)]
    simp only [Nat.zero_mul, Nat.zero_add, Nat.pow_succ, Nat.add_mul]
    rw [Nat.mul_assoc, Nat.mul_comm b]
    omega

@[simp] theorem ofDigits_nil (b : Nat) : ofDigits b [] = 0 := rfl

theorem ofDigits_cons (b d : Nat) (ds : List Nat) :
    ofDigits b (d :: ds) = d * b ^ ds.length + ofDigits b ds := by
  have := ofDigitsAcc_eq b (0 * b + d) ds
  simp only [Nat.zero_mul, Nat.zero_add] at this
  simpa [ofDigits, ofDigitsAcc] using this

theorem ofDigits_cons_pos (b d : Nat) (ds : List Nat) (hb : 0 < b) (hd : d ≠ 0) : 0 < ofDigits b (d :: ds) := by
  rw [ofDigits_cons]
  have : 0 < d * b ^ ds.length := Nat.mul_pos (by omega) (Nat.pow_pos hb)
  omega

theorem ofDigits_append (b : Nat) (xs ys : List Nat) :
    ofDigits b (xs ++ ys) = ofDigits b xs * b ^ ys.length + ofDigits b ys := by
  induction xs with
  | nil => simp
  | cons x xs ih =>
    simp only [List.cons_append, ofDigits_cons, ih, List.length_append, Nat.pow_add, Nat.add_mul]
    rw [Nat.mul_assoc]
    omega

theorem ofDigits_snoc (b : Nat) (xs : List Nat) (d : Nat) :
    ofDigits b (xs ++ [d]) = ofDigits b xs * b + d := by
  simp [ofDigits_append, ofDigits_cons]

theorem ofDigits_lt_pow (b : Nat) (ds : List Nat) (h : ∀ d ∈ ds, d < b) :
    ofDigits b ds < b ^ ds.length := by
  induction ds using snoc_induction with
  | nil => simp
  | snoc xs d ih =>
    have hx : ofDigits b xs < b ^ xs.length := ih (fun x hx => h x (by simp [hx]))
    have hd : d < b := h d (by simp)
    rw [ofDigits_snoc, List.length_append, List.length_singleton, Nat.pow_succ]
    calc ofDigits b xs * b + d < ofDigits b xs * b + b := by omega
      _ = (ofDigits b xs + 1) * b := by rw [Nat.add_mul]; omega
      _ ≤ b ^ xs.length * b := Nat.mul_le_mul_right b hx

theorem ofDigits_dropLeading_zero (b : Nat) (ds : List Nat) :
    ofDigits b (dropLeading 0 ds) = ofDigits b ds := by
  induction ds with
  | nil => rfl
  | cons d ds ih =>
    simp only [dropLeading]
    split
    · next h => subst h; rw [ih, ofDigits_cons]; simp
    · rfl

theorem toDigitsAcc_eq (b n : Nat) (acc : List Nat) :
    toDigitsAcc b n acc = toDigits b n ++ acc := by
  induction n using Nat.strongRecOn generalizing acc with
  | _ n ih =>
    unfold toDigits
    rw [toDigitsAcc.eq_def b n acc, toDigitsAcc.eq_def b n []]
    split
    · simp
    · next h =>
      have hlt : n / b < n := Nat.div_lt_self (by omega) (by omega)
      rw [ih _ hlt, ih _ hlt [n % b]]
      simp

theorem toDigits_zero (b : Nat) : toDigits b 0 = [] := by
  unfold toDigits; rw [toDigitsAcc.eq_def]; simp

theorem toDigits_step (b n : Nat) (hb : 2 ≤ b) (hn : n ≠ 0) :
    toDigits b n = toDigits b (n / b) ++ [n % b] := by
  conv => lhs; unfold toDigits
  rw [toDigitsAcc.eq_def]
  have : ¬ (b < 2 ∨ n = 0) := by omega
  simp only [this, dite_false]
  exact toDigitsAcc_eq _ _ _

theorem ofDigits_toDigits (b n : Nat) (hb : 2 ≤ b) : ofDigits b (toDigits b n) = n := by
  induction n using Nat.strongRecOn with
  | _ n ih =>
    by_cases hn : n = 0
    · subst hn; simp [toDigits_zero]
    · rw [toDigits_step b n hb hn, ofDigits_snoc, ih _ (Nat.div_lt_self (by omega) (by omega))]
      exact Nat.div_add_mod' n b

theorem toDigits_lt (b n : Nat) (hb : 2 ≤ b) : ∀ d ∈ toDigits b n, d < b := by
  induction n using Nat.strongRecOn with
  | _ n ih =>
    by_cases hn : n = 0
    · subst hn; simp [toDigits_zero]
    · rw [toDigits_step b n hb hn]
      intro d hd
      rcases List.mem_append.mp hd with h | h
      · exact ih _ (Nat.div_lt_self (by omega) (by omega)) d h
      · simp at h; subst h; exact Nat.mod_lt _ (by omega)

theorem toDigits_head_ne_zero (b n : Nat) (hb : 2 ≤ b) : (toDigits b n).head? ≠ some 0 := by
  induction n using Nat.strongRecOn with
  | _ n ih =>
    by_cases hn : n = 0
    · subst hn; simp [toDigits_zero]
    · rw [toDigits_step b n hb hn]
      by_cases hq : n / b = 0
      · have : n < b := Nat.lt_of_div_eq_zero (by omega) hq
        simp [hq, toDigits_zero, Nat.mod_eq_of_lt this, hn]
      · -- the head is the head of the (non-empty) digit string of the quotient
        have h1 := ih (n / b) (Nat.div_lt_self (by omega) (by omega))
        rw [toDigits_step b _ hb hq] at h1 ⊢
        simpa [List.head?_append] using h1

theorem toDigits_ofDigits (b : Nat) (hb : 2 ≤ b) (ds : List Nat) (hlt : ∀ d ∈ ds, d < b)
    (hhead : ds.head? ≠ some 0) : toDigits b (ofDigits b ds) = ds := by
  induction ds using snoc_induction with
  | nil => simp [toDigits_zero]
  | snoc xs d ih =>
    have hd : d < b := hlt d (by simp)
    have hxs : ∀ x ∈ xs, x < b := fun x hx => hlt x (by simp [hx])
    have hne : ofDigits b (xs ++ [d]) ≠ 0 := by
      cases xs with
      | nil => simpa [ofDigits_cons] using hhead
      | cons x xs' => exact Nat.ne_of_gt (ofDigits_cons_pos b x _ (by omega) (by simpa using hhead))
    rw [toDigits_step b _ hb hne, ofDigits_snoc]
    have hdiv : (ofDigits b xs * b + d) / b = ofDigits b xs := by
      rw [Nat.mul_comm, Nat.mul_add_div (by omega), Nat.div_eq_of_lt hd]; rfl
    have hmod : (ofDigits b xs * b + d) % b = d := by
      rw [Nat.mul_comm, Nat.mul_add_mod]; exact Nat.mod_eq_of_lt hd
    rw [hdiv, hmod]
    congr 1
    apply ih hxs
    cases xs with
    | nil => simp
    | cons x xs' => simpa using hhead

theorem toDigits_range (b : Nat) (hb : 2 ≤ b) (k h n : Nat) (hh : 0 < h)
    (hlo : h * b ^ k ≤ n) (hhi : n < (h + 1) * b ^ k) :
    ∃ tl, tl.length = k ∧ toDigits b n = toDigits b h ++ tl := by
  induction k generalizing n with
  | zero =>
    simp only [Nat.pow_zero, Nat.mul_one] at hlo hhi
    exact ⟨[], rfl, by rw [show n = h by omega]; simp⟩
  | succ k ih =>
    have hn : n ≠ 0 := by
      have : 0 < h * b ^ (k + 1) := Nat.mul_pos hh (Nat.pow_pos (by omega))
      omega
    have hlo' : h * b ^ k ≤ n / b := by
      rw [Nat.le_div_iff_mul_le (by omega)]
      rw [Nat.pow_succ, ← Nat.mul_assoc] at hlo; exact hlo
    have hhi' : n / b < (h + 1) * b ^ k := by
      rw [Nat.div_lt_iff_lt_mul (by omega)]
      rw [Nat.pow_succ, ← Nat.mul_assoc] at hhi; exact hhi
    obtain ⟨tl, hl, he⟩ := ih (n / b) hlo' hhi'
    refine ⟨tl ++ [n % b], by simp [hl], ?_⟩
    rw [toDigits_step b n hb hn, he, List.append_assoc]

theorem replicate_leading_dropLeading (z : Nat) (xs : List Nat) :
    List.replicate (leading z xs) z ++ dropLeading z xs = xs := by
  induction xs with
  | nil => rfl
  | cons a as ih =>
    simp only [leading, dropLeading]
    split
    · next h => subst h; simp [List.replicate_succ, ih]
    · simp

theorem dropLeading_head (z : Nat) (xs : List Nat) : (dropLeading z xs).head? ≠ some z := by
  induction xs with
  | nil => simp [dropLeading]
  | cons a as ih =>
    simp only [dropLeading]
    split
    · exact ih
    · next h => simpa using h

theorem leading_dropLeading_replicate_append (z n : Nat) (xs : List Nat) (h : xs.head? ≠ some z) :
    leading z (List.replicate n z ++ xs) = n ∧ dropLeading z (List.replicate n z ++ xs) = xs := by
  induction n with
  | zero =>
    cases xs with
    | nil => exact ⟨rfl, rfl⟩
    | cons a as => simp at h; simp [leading, dropLeading, h]
  | succ n ih => simp [List.replicate_succ, leading, dropLeading, ih]

theorem dropLeading_mem (z : Nat) (xs : List Nat) : ∀ x ∈ dropLeading z xs, x ∈ xs := by
  intro x hx
  have := replicate_leading_dropLeading z xs
  rw [← this]; exact List.mem_append_right _ hx

theorem idxOfAux_some (c : Nat) (xs : List Nat) (i d : Nat) (h : idxOfAux c xs i = some d) :
    i ≤ d ∧ d - i < xs.length ∧ xs.getD (d - i) 0 = c := by
  induction xs generalizing i with
  | nil => simp [idxOfAux] at h
  | cons a as ih =>
    simp only [idxOfAux] at h
    split at h
    · next hac => simp at h; subst h; simp [hac]
    · have := ih (i + 1) h
      obtain ⟨h1, h2, h3⟩ := this
      refine ⟨by omega, by simp; omega, ?_⟩
      have : d - i = (d - (i + 1)) + 1 := by omega
      rw [this]; simpa using h3

theorem charDigit_some (c d : Nat) (h : charDigit c = some d) : d < 58 ∧ digitChar d = c := by
  have := idxOfAux_some c alphabet 0 d h
  simp only [Nat.sub_zero] at this
  exact ⟨this.2.1, this.2.2⟩

theorem charDigit_digitChar : ∀ d, d < 58 → charDigit (digitChar d) = some d := by decide +kernel

theorem digitChar_zero_iff (d : Nat) (hd : d < 58) : digitChar d = 49 ↔ d = 0 :=
  ⟨fun h => Option.some.inj ((charDigit_digitChar d hd).symm.trans (h ▸ rfl)), fun h => h ▸ rfl⟩

/-- the alphabet lies between `'1'` and `'z'`: no whitespace, no `%`, ASCII -/
theorem digitChar_range : ∀ d, d < 58 → 49 ≤ digitChar d ∧ digitChar d ≤ 122 := by decide +kernel

theorem charsDigits_map (ds : List Nat) (h : ∀ d ∈ ds, d < 58) :
    charsDigits (ds.map digitChar) = some ds := by
  induction ds with
  | nil => rfl
  | cons d ds ih =>
    have h1 := charDigit_digitChar d (h d (by simp))
    have h2 := ih (fun x hx => h x (by simp [hx]))
    simp [charsDigits, h1, h2]

theorem charsDigits_some (s ds : List Nat) (h : charsDigits s = some ds) :
    (∀ d ∈ ds, d < 58) ∧ ds.map digitChar = s := by
  induction s generalizing ds with
  | nil => simp [charsDigits] at h; subst h; simp
  | cons c cs ih =>
    rw [charsDigits] at h
    split at h
    next d ds' hc hcs =>
      cases h
      obtain ⟨h1, h2⟩ := ih ds' hcs
      obtain ⟨h3, h4⟩ := charDigit_some c d hc
      exact ⟨List.forall_mem_cons.mpr ⟨h3, h1⟩, by rw [List.map_cons, h2, h4]⟩
    · cases h

theorem map_digitChar_head (ds : List Nat) (hlt : ∀ d ∈ ds, d < 58) (hh : ds.head? ≠ some 0) :
    (ds.map digitChar).head? ≠ some 49 := by
  cases ds with
  | nil => simp
  | cons d ds =>
    have hd := hlt d (by simp)
    have := digitChar_zero_iff d hd
    simp at hh ⊢
    intro h; exact hh (this.mp h)

theorem b58enc_of_head_ne (bs : List Nat) (h : bs.head? ≠ some 0) :
    b58enc bs = (toDigits 58 (ofDigits 256 bs)).map digitChar := by
  obtain ⟨h1, h2⟩ := leading_dropLeading_replicate_append 0 0 _ h
  simp only [List.replicate_zero, List.nil_append] at h1 h2
  rw [b58enc, h1, h2, List.replicate_zero, List.nil_append]

theorem b58dec_b58enc (bs : List Nat) (hb : ∀ x ∈ bs, x < 256) : b58dec (b58enc bs) = some bs := by
  have hds := toDigits_lt 58 (ofDigits 256 (dropLeading 0 bs)) (by omega)
  have hhd := toDigits_head_ne_zero 58 (ofDigits 256 (dropLeading 0 bs)) (by omega)
  obtain ⟨h1, h2⟩ := leading_dropLeading_replicate_append 49 (leading 0 bs) _ (map_digitChar_head _ hds hhd)
  unfold b58dec b58enc
  rw [h1, h2, charsDigits_map _ hds]
  simp only
  rw [ofDigits_toDigits _ _ (by omega),
    toDigits_ofDigits 256 (by omega) _ (fun d hd => hb d (dropLeading_mem 0 bs d hd)) (dropLeading_head 0 bs),
    replicate_leading_dropLeading]

theorem b58enc_injective (xs ys : List Nat) (hx : ∀ x ∈ xs, x < 256) (hy : ∀ y ∈ ys, y < 256)
    (h : b58enc xs = b58enc ys) : xs = ys := by
  have h1 := b58dec_b58enc xs hx
  have h2 := b58dec_b58enc ys hy
  rw [h] at h1
  exact Option.some.inj (h1.symm.trans h2)

theorem b58enc_range (bs : List Nat) : ∀ c ∈ b58enc bs, 49 ≤ c ∧ c ≤ 122 := by
  intro c hc
  unfold b58enc at hc
  rcases List.mem_append.mp hc with h | h
  · have := List.eq_of_mem_replicate h; omega
  · obtain ⟨d, hd, rfl⟩ := List.mem_map.mp h
    exact digitChar_range d (toDigits_lt 58 _ (by omega) d hd)

theorem b58dec_some (s bs : List Nat) (h : b58dec s = some bs) :
    ∃ ds, charsDigits (dropLeading 49 s) = some ds ∧
      bs = List.replicate (leading 49 s) 0 ++ toDigits 256 (ofDigits 58 ds) := by
  unfold b58dec at h
  split at h
  · cases h
  next ds hds => exact ⟨ds, hds, (Option.some.inj h).symm⟩

theorem b58dec_bytes (s bs : List Nat) (h : b58dec s = some bs) : ∀ x ∈ bs, x < 256 := by
  obtain ⟨ds, _, rfl⟩ := b58dec_some s bs h
  intro x hx
  rcases List.mem_append.mp hx with h | h
  · have := List.eq_of_mem_replicate h; omega
  · exact toDigits_lt 256 _ (by omega) x h

theorem b58enc_of_b58dec (s bs : List Nat) (h : b58dec s = some bs) : b58enc bs = s := by
  obtain ⟨ds, hds, rfl⟩ := b58dec_some s bs h
  obtain ⟨hlt, hmap⟩ := charsDigits_some _ _ hds
  have hhead58 : ds.head? ≠ some 0 := by
    have := dropLeading_head 49 s
    rw [← hmap] at this
    cases ds with
    | nil => simp
    | cons d ds' =>
      simp at this ⊢
      intro hd; subst hd; exact this (by decide)
  obtain ⟨h1, h2⟩ := leading_dropLeading_replicate_append 0 (leading 49 s) _
    (toDigits_head_ne_zero 256 (ofDigits 58 ds) (by omega))
  unfold b58enc
  rw [h1, h2, ofDigits_toDigits _ _ (by omega), toDigits_ofDigits 58 (by omega) ds hlt hhead58, hmap,
    replicate_leading_dropLeading]

end Base58
