import PytezosModel.Michelson.Interp.Impl
/-! `dispatch_types` on an operand class that heads no row of the mapping: the assertion `key in mapping` fails whatever the
other operands are. -/
namespace Interp
open Generated.C01 (Prim)

theorem lookupRow_noHead {α : Type} (p : Prim) (ps : List Prim) : ∀ rows : List (List Prim × α),
    rows.all (fun r => r.1.head? != some p) = true → Impl.lookupRow (p :: ps) rows = none
  | [], _ => rfl
  | (k, v) :: rest, h => by
    rw [List.all_cons, Bool.and_eq_true] at h
    have hk : ¬ k = p :: ps := fun e => by rw [e] at h; simp at h
    rw [Impl.lookupRow, if_neg hk]
    exact lookupRow_noHead p ps rest h.2

theorem dispatch_noRow {α : Type} (rows : List (List Prim × α)) (a : Ty) (rest : List Ty)
    (h : ((Impl.primOf a).all fun p => rows.all fun r => r.1.head? != some p) = true) :
    Impl.dispatch (some rows) (a :: rest) = none := by
  unfold Impl.dispatch Impl.primsOf
  cases ha : Impl.primOf a with
  | none => rfl
  | some p =>
    rw [ha] at h
    cases Impl.primsOf rest with
    | none => rfl
    | some ps => exact lookupRow_noHead p ps rows h

theorem dispatch1_noRow (rows : List (List Prim × List Prim)) (a : Ty) (rest : List Ty)
    (h : ((Impl.primOf a).all fun p => rows.all fun r => r.1.head? != some p) = true) :
    Impl.dispatch1 (some rows) (a :: rest) = none := by
  unfold Impl.dispatch1
  rw [dispatch_noRow rows a rest h]

theorem convRow_noRow (rows : List (List Prim × (Prim × Generated.C01.Conv))) (a : Ty) (rest : List Ty)
    (h : ((Impl.primOf a).all fun p => rows.all fun r => r.1.head? != some p) = true) :
    Impl.convRow (some rows) (a :: rest) = none := by
  unfold Impl.convRow
  rw [dispatch_noRow rows a rest h]

end Interp
