import PytezosModel.Proofs.InterpStep
/-! The protected-stack machine of pytezos (`Impl.exec`) refines the reference big-step
semantics (`Spec.eval`, guard on) — for every program, stack, protected prefix and environment. -/
namespace Interp
open Stack

/-- `m` computes the outcome `r` of the reference semantics, read through `φ` — unless `r` is stuck or outside the guard -/
def Refines {α β : Type} (φ : α → β) (m : Res β) (r : Res α) : Prop :=
  r ≠ .stuck → r ≠ .offguard → m = r.map' φ

/-- simulation under `bind`: each part has to refine only where the reference is neither stuck nor outside the guard,
which the whole being so provides -/
theorem Refines.bind {α β γ δ : Type} {φ : α → β} {ψ : γ → δ} {r : Res α} {m : Res β} {ks : α → Res γ} {ki : β → Res δ}
    (hm : Refines φ m r) (hk : ∀ a, r = .ok a → Refines ψ (ki (φ a)) (ks a)) : Refines ψ (m.bind ki) (r.bind ks) := by
  intro hr hg
  rw [hm (bind_ne_stuck hr) (bind_ne_offguard hg)]
  cases r with
  | ok a => exact hk a rfl hr hg
  | _ => rfl

theorem Refines.ite {α β : Type} {φ : α → β} {c : Prop} [Decidable c] {r : Res α} {m : Res β} (h : c → Refines φ m r) :
    Refines φ m (if c then r else .stuck) := by
  intro hr
  have hc := ite_ne_stuck hr
  rw [if_pos hc] at hr ⊢
  exact h hc hr

/-- the four statements proved together (`refines_all`), one per evaluator.  Each is for EVERY protected prefix `pre`: DIP /
DIP n run their body under a longer prefix, EXEC runs the lambda under the empty one -/
def ExecOK (env : Env) (f : Nat) (i : Instr) (st : List Val) : Prop :=
  ∀ pre, Refines (stk pre) (Impl.exec env f i (stk pre st)) (Spec.eval true env f i st)

def MapOK (env : Env) (f : Nat) (body : Instr) (isMap : Bool) (xs st : List Val) : Prop :=
  ∀ pre, Refines (fun p => (p.1, stk pre p.2)) (Impl.mapLoop env f body isMap xs (stk pre st))
    (Spec.evalMap true env f body isMap xs st)

def IterOK (env : Env) (f : Nat) (body : Instr) (xs st : List Val) : Prop :=
  ∀ pre, Refines (stk pre) (Impl.iterLoop env f body xs (stk pre st)) (Spec.evalIter true env f body xs st)

def SeqOK (env : Env) (f : Nat) (is : List Instr) (st : List Val) : Prop :=
  ∀ pre, Refines (stk pre) (Impl.execSeq env f is (stk pre st)) (Spec.evalSeq true env f is st)

/-- DIP, DIPN: run the body under `n` more protected items -/
theorem protect_exec_restore (env : Env) (f n : Nat) (body : Instr) (pre st : List Val) (hn : n ≤ st.length)
    (ih : ExecOK env f body (st.drop n)) :
    Refines (stk pre)
      (do let s ← (stk pre st).protect n
          let s ← Impl.exec env f body s
          s.restore n)
      ((Spec.eval true env f body (st.drop n)).bind fun st' => Res.ok (st.take n ++ st')) := by
  rw [protect_mk pre st n hn, Res.bind_ok]
  exact (ih _).bind fun st' _ _ _ => restore_take pre st st' n hn

/-- MAP's result: pytezos keeps the source's element type on an empty result (`v`) and builds a collection from a
non-empty one (`g`); the reference (`f`) agrees in the first case under the guard (`h0`) and in the second always (`h1`) -/
theorem mapResult_refines (pre st : List Val) (ys : List Val) (v : Val) (f g : Res Val)
    (h0 : ys = [] → f = .ok v ∨ f = .stuck ∨ f = .offguard) (h1 : ys ≠ [] → g = f) :
    Refines (stk pre) (if ys.isEmpty then pure ((stk pre st).push v) else do let r ← g; pure ((stk pre st).push r))
      (f.bind fun r => Res.ok (r :: st)) := by
  intro hr hg
  cases ys with
  | nil =>
    rcases h0 rfl with h | h | h
    · rw [h]; exact congrArg Res.ok (push_mk pre st v)
    · exact absurd (by rw [h]; rfl) hr
    · exact absurd (by rw [h]; rfl) hg
  | cons y ys => exact push_result pre st f g (fun _ => h1 (List.cons_ne_nil y ys)) hr

/-- MAP over an empty collection: under the guard the reference keeps the element type, like pytezos -/
theorem listOf_nil (body : Instr) (t : Ty) (st : List Val) :
    Spec.listOf true body t st [] = .ok (.list t []) ∨ Spec.listOf true body t st [] = .stuck ∨
      Spec.listOf true body t st [] = .offguard := by
  unfold Spec.listOf
  cases Spec.mapOutTy body t st with
  | none => exact .inr (.inl rfl)
  | some t' =>
    by_cases ht : t' = t
    · subst ht; simp
    · simp [ht]

theorem mapOf_nil (body : Instr) (k v : Ty) (st : List Val) :
    Spec.mapOf true body k v st [] = .ok (.map k v []) ∨ Spec.mapOf true body k v st [] = .stuck ∨
      Spec.mapOf true body k v st [] = .offguard := by
  unfold Spec.mapOf
  cases Spec.mapOutTy body (.pair k v) st with
  | none => exact .inr (.inl rfl)
  | some v' =>
    by_cases ht : v' = v
    · subst ht; simp
    · simp [ht]

/-- every element of the source yields an item -/
theorem evalMap_nil_items (env : Env) (f : Nat) (body : Instr) (isMap : Bool) (xs st : List Val) (st' : List Val)
    (h : Spec.evalMap true env f body isMap xs st = .ok ([], st')) : xs = [] := by
  cases xs with
  | nil => rfl
  | cons x xs =>
    exfalso
    cases f with
    | zero => cases h
    | succ f =>
      obtain ⟨r, _, h⟩ := rbind_eq_ok (r := Spec.eval true env f body (x :: st)) h
      rcases r with _ | ⟨y, r'⟩
      · cases h
      obtain ⟨item, _, h⟩ := rbind_eq_ok h
      obtain ⟨p, _, h⟩ := rbind_eq_ok h
      cases h

theorem impl_exec_simple (env : Env) (f : Nat) (i : Instr) (h : isControl i = false) (s : Stack) :
    Impl.exec env (f + 1) i s = Impl.step env i s := by
  cases i <;> first | rfl | cases h

/-- by the rule induction of the reference evaluators: one case per equation of `Spec.eval`, `evalMap`, `evalIter`,
`evalSeq`, in that order; in the last case of `eval` no rule with a sub-program applies, so `Spec.step` is run -/
theorem refines_all (env : Env) :
    (∀ f i st, ExecOK env f i st) ∧ (∀ f body isMap xs st, MapOK env f body isMap xs st) ∧
      (∀ f body xs st, IterOK env f body xs st) ∧ ∀ f is st, SeqOK env f is st := by
  apply Spec.eval.mutual_induct (ExecOK env) (MapOK env) (IterOK env) (SeqOK env)
  all_goals intros
  all_goals intro pre
  -- out of fuel, or nothing more to run
  case case1 | case26 | case29 | case32 => exact fun _ _ => rfl
  case case25 | case28 | case31 => cases ‹Nat› <;> exact fun _ _ => rfl
  -- seq, DIP, DIPN; DIPN beyond the stack, EXEC on an argument of the wrong type
  case case2 ih => exact ih pre
  case case3 body x st ih => exact protect_exec_restore env _ 1 body pre (x :: st) (Nat.succ_le_succ (Nat.zero_le _)) ih
  case case4 n body st hn ih => exact .ite fun _ => protect_exec_restore env _ n body pre st hn ih
  case case5 hn | case23 hn => exact fun hr => absurd (if_neg hn) hr
  -- IF, IF_NONE, IF_LEFT, IF_CONS, ITER: pop the scrutinee and go on with what its shape selects
  case case6 | case7 | case8 | case9 | case10 | case11 | case12 | case17 | case18 | case19 =>
    rename_i ih
    show Refines _ (Stack.pop1 _ >>= _) _
    simp only [pop1_mk_cons, Res.bind_ok, push_mk]
    exact ih pre
  -- LOOP, LOOP_LEFT: round again, or leave
  case case13 | case15 =>
    rename_i ih1 ih2
    show Refines _ (Stack.pop1 _ >>= _) _
    simp only [pop1_mk_cons, Res.bind_ok, push_mk]
    exact (ih1 pre).bind fun st' _ => ih2 st' pre
  case case14 | case16 =>
    show Refines _ (Stack.pop1 _ >>= _) _
    simp only [pop1_mk_cons, Res.bind_ok, push_mk]
    exact fun _ _ => rfl
  -- MAP over a list, over a map
  case case20 f body t xs st ih =>
    show Refines _ (Stack.pop1 _ >>= _) _
    simp only [pop1_mk_cons, Res.bind_ok]
    refine (ih pre).bind fun ⟨ys, st'⟩ hq => mapResult_refines pre st' ys _ _ _ (fun h => ?_) (fun h => ?_)
    · subst h
      rw [evalMap_nil_items env f body false xs st st' hq]
      exact listOf_nil body t st
    · cases ys with
      | nil => exact absurd rfl h
      | cons y ys => rfl
  case case21 f body k v xs st ih =>
    show Refines _ (Stack.pop1 _ >>= _) _
    simp only [pop1_mk_cons, Res.bind_ok]
    refine (ih pre).bind fun ⟨ys, st'⟩ hq => mapResult_refines pre st' ys _ _ _ (fun h => ?_) (fun h => ?_)
    · subst h
      rw [evalMap_nil_items env f body true xs st st' hq]
      exact mapOf_nil body k v st
    · cases ys with
      | nil => exact absurd rfl h
      | cons y ys => cases y <;> rfl
  -- EXEC
  case case22 f a tb body st ih =>
    refine .ite fun ht => ?_
    show Refines _ (Stack.pop2 _ >>= _) _
    simp only [pop2_mk_cons, Res.bind_ok]
    -- the lambda runs on a fresh stack without protected items: `stk [] [a]`
    refine (ih []).bind fun r _ hr _ => ?_
    rcases r with _ | ⟨y, _ | ⟨z, r⟩⟩
    · exact absurd rfl hr
    · rw [pop1_mk_cons]
      by_cases hb : typeOf y = tb
      · simp [hb, stk, Stack.push]
      · exact absurd (if_neg hb) hr
    · exact absurd rfl hr
  -- no rule with a sub-program applies: an instruction without one, or a stack on which `Spec.step` is stuck as well
  case case24 =>
    intro hr _
    -- `eq_22`: the last equation of `Spec.eval`, `eval g env (f + 1) i st = Spec.step env i st`, whose hypotheses — none of
    -- the twenty patterns before it matches `i, st` — are those this case of the induction principle provides (`assumption`)
    rw [Spec.eval.eq_22] at hr ⊢
    · by_cases hc : isControl ‹Instr› = false
      · rw [impl_exec_simple env _ _ hc]
        exact step_refines env _ pre _ hr
      · exact absurd (step_control env _ _ hc) hr
    all_goals assumption
  -- the next element of MAP, of ITER; the next instruction of a sequence
  case case27 f body isMap x xs st ih1 ih2 =>
    show Refines _ (Impl.exec env f body ((stk pre st).push x) >>= _) _
    rw [push_mk]
    refine (ih1 pre).bind fun st' _ => ?_
    rcases st' with _ | ⟨y, st'⟩
    · exact fun hr => absurd rfl hr
    simp only [pop1_mk_cons, Res.bind_ok]
    -- the item kept: the new value, for a map under the old key
    refine Refines.bind (φ := id) (fun _ _ => by cases isMap <;> cases x <;> rfl) fun item _ => ?_
    exact (ih2 st' pre).bind fun p _ _ _ => rfl
  case case30 f body x xs st ih1 ih2 =>
    show Refines _ (Impl.exec env f body ((stk pre st).push x) >>= _) _
    rw [push_mk]
    exact (ih1 pre).bind fun st' _ => ih2 st' pre
  case case33 ih1 ih2 => exact (ih1 pre).bind fun st' _ => ih2 st' pre

/-- **refinement**: for every program, fuel, environment, stack and protected prefix — whenever the reference
semantics (guard mode) is not stuck and stays inside the guard, the machine of pytezos computes its outcome: the same
stack under the same prefix, the same FAILWITH value, a runtime failure where the reference fails at run time, and it
runs out of the same fuel bound exactly when the reference does -/
theorem exec_refines_spec (env : Env) (fuel : Nat) (i : Instr) (pre st : List Val)
    (h : Spec.eval true env fuel i st ≠ .stuck) (hg : Spec.eval true env fuel i st ≠ .offguard) :
    Impl.exec env fuel i (stk pre st) = (Spec.eval true env fuel i st).map' (stk pre) :=
  (refines_all env).1 fuel i st pre h hg

end Interp
