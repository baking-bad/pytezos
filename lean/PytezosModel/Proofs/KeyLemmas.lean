import PytezosModel.Crypto.Key
/-! Helper lemmas about the mirror of key.py (`Impl.Key`), used by Props/C07, C08, C23. -/
namespace Impl.Key

theorem Curve.tag_length (c : Curve) : c.tag.length = 2 := by cases c <;> rfl

/-- hence no two curves have the same tag -/
theorem Curve.ofTag_tag (c : Curve) : Curve.ofTag c.tag = some c := by cases c <;> rfl

theorem scrubRecognised_true : Generated.C07.scrubRecognised = true := by decide

theorem scrub_bytes (b : Bytes) : scrub (.bytes b) = .ok b := by
  simp [scrub, scrubRecognised_true]

theorem scrub_str_hex (s : List Nat) (b : Bytes) (h : fromHex (removePrefix0x s) = some b) :
    scrub (.str s) = .ok b := by
  simp [scrub, scrubRecognised_true, h]

theorem scrub_str_nohex (s : List Nat) (h : fromHex (removePrefix0x s) = none) :
    scrub (.str s) = if s.all (· < 128) then .ok s else .error (.valueError .scrubAscii) := by
  simp [scrub, scrubRecognised_true, h]

/-- texts that `bytes.fromhex` rejects whatever follows: the beginnings of every signature / key kind -/
def nonHexStarts : List (List Nat) :=
  [[101, 100, 115], [101, 100, 112], [101, 100, 101, 115], [115], [112], [66, 76]]

theorem fromHex_nonhex (p rest : List Nat) (hp : p ∈ nonHexStarts) :
    fromHex (removePrefix0x (p ++ rest)) = none := by
  simp only [nonHexStarts, List.mem_cons, List.not_mem_nil, or_false] at hp
  rcases hp with h | h | h | h | h | h <;> subst h <;>
    simp [removePrefix0x, fromHex, isSpace, hexVal]

/-- the text of a signature or key kind, being ASCII, is taken as it is (`.encode('ascii')`): every human prefix of
those kinds begins with one of `nonHexStarts` (closed fact about the regenerated rows) -/
theorem scrub_row_text (r : Row) (hr : r ∈ sigRows ++ keyRows) (s : Str) (hpre : r.human <+: s)
    (hascii : ∀ ch ∈ s, ch < 128) : scrub (.str s) = .ok s := by
  have h := (by decide : ∀ r ∈ sigRows ++ keyRows, nonHexStarts.any (·.isPrefixOf r.human) = true) r hr
  obtain ⟨p, hp, hpp⟩ := List.any_eq_true.mp h
  obtain ⟨rest, rfl⟩ := (List.isPrefixOf_iff_prefix.mp hpp).trans hpre
  rw [scrub_str_nohex _ (fromHex_nonhex p rest hp)]
  have : (p ++ rest).all (· < 128) = true := by
    rw [List.all_eq_true]; intro x hx; exact decide_eq_true (hascii x hx)
  simp [this]

end Impl.Key
