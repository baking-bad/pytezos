import PytezosModel.Proofs.C18Lit
/-! C18: the recursive-descent parser reads the token stream of a well-formed expression back, for every amount of
fuel above `2 · #tokens + c`. -/
namespace Impl.Text

/-- what may follow an expression: not the start of another argument, not an annotation -/
def Follow (rest : List Tok) : Prop := ∀ t ts, rest = t :: ts → t.startsArg = false ∧ t.isAnnot = false

theorem Follow.nil : Follow [] := by intro t ts h; cases h
theorem Follow.cons {t : Tok} (hs : t.startsArg = false) (ha : t.isAnnot = false) (r : List Tok) : Follow (t :: r) := by
  intro t' ts h; cases h; exact ⟨hs, ha⟩

theorem fuel_succ {k n : Nat} (h : k + 1 ≤ n) : ∃ m, n = m + 1 :=
  ⟨n - 1, (Nat.sub_add_cancel (Nat.le_trans (Nat.le_add_left 1 k) h)).symm⟩

section
variable (tags : List String) (cfg : FmtCfg)

theorem toksNode_head (w : Bool) (e : Mich) :
    ∃ t ts, toksNode cfg false w e = t :: ts ∧ t.startsArg = true ∧ t.isAnnot = false ∧ (w = true → t ≠ .lparen) := by
  cases e with
  | seq xs => cases xs <;> exact ⟨.lcurly, _, rfl, rfl, rfl, nofun⟩
  | prim p args annots =>
    simp only [toksNode]
    split
    · rename_i h
      exact ⟨.lparen, _, rfl, rfl, rfl, fun hw => by simp [hw] at h⟩
    · exact ⟨.prim p.toList, _, rfl, rfl, rfl, nofun⟩
  | _ => exact ⟨_, [], rfl, rfl, rfl, nofun⟩

/-- the text of a root expression is a run of items: the sections of a script root, otherwise the expression itself -/
theorem root_items (e : Mich) : ∃ l, l ≠ [] ∧ toksNode cfg true false e = toksItems cfg l ∧
    (l = [e] ∨ e = .seq l ∧ isScript cfg l = true) := by
  have single : toksNode cfg true false e = toksNode cfg false true e →
      ∃ l, l ≠ [] ∧ toksNode cfg true false e = toksItems cfg l ∧ (l = [e] ∨ e = .seq l ∧ isScript cfg l = true) :=
    fun h => ⟨[e], List.cons_ne_nil _ _, h, Or.inl rfl⟩
  cases e with
  | prim p args annots => exact single ((if_neg (by simp)).trans (if_neg (by simp)).symm)
  | seq xs =>
    match xs with
    | [] => exact single rfl
    | x :: xs =>
      by_cases hs : isScript cfg (x :: xs) = true
      · exact ⟨x :: xs, List.cons_ne_nil _ _, if_pos (by simp [hs]), Or.inr ⟨rfl, hs⟩⟩
      · exact single (if_neg (by simp [hs]))
  | _ => exact single rfl

/-- `expr : PRIM annots args` once the arguments are known to be read back -/
theorem parseExpr_ok (n : Nat) (p : String) (args : List Mich) (annots : List String) (rest : List Tok)
    (hp : tags.contains p = true) (hrest : Follow rest)
    (hargs : parseArgs tags n (toksArgs cfg args ++ rest) = some (args, rest)) :
    parseExpr tags (n + 1) p.toList (annotToks annots ++ (toksArgs cfg args ++ rest)) =
      some (.prim p args annots, rest) := by
  have h := takeWhile_append_stop (p := Tok.isAnnot) (annotToks annots) (toksArgs cfg args ++ rest)
    (by simp [annotToks, Tok.isAnnot]) (by
      intro t ts h
      cases args with
      | nil => exact (hrest t ts h).2
      | cons a as =>
        obtain ⟨t', ts', h', _, hn, _⟩ := toksNode_head cfg false a
        simp only [toksArgs, h', List.cons_append, List.cons.injEq] at h
        exact h.1 ▸ hn)
  have hp' : p ∈ tags := by simpa using hp
  simp only [parseExpr, h.1, h.2, hargs]
  simp [hp', annotToks, Function.comp_def, Tok.annotText]

/-- the value of `instr` for a run of items: none gives `None`, a single node stays as it is, several are
flattened into a `list` -/
def itemsRes : List Mich → IRes
  | [] => .none
  | [x] => .one x
  | l => .many l

theorem flat_itemsRes : ∀ l : List Mich, (itemsRes l).flat = l
  | [] => rfl
  | [_] => rfl
  | _ :: _ :: _ => rfl

def ArgOK (e : Mich) : Prop :=
  ∀ n rest, 2 * (toksNode cfg false false e).length + 1 ≤ n →
    parseArg tags n (toksNode cfg false false e ++ rest) = some (e, rest)

/-- item (instruction) position: never parenthesised -/
def ItemOK (e : Mich) : Prop :=
  ∀ n rest, Follow rest → 2 * (toksNode cfg false true e).length + 2 ≤ n →
    parseItem tags n (toksNode cfg false true e ++ rest) = some (.one e, rest)

theorem parseArgs_of (args : List Mich) (h : ∀ a ∈ args, ArgOK tags cfg a) (n : Nat) (rest : List Tok)
    (hrest : Follow rest) (hn : 2 * (toksArgs cfg args).length + 2 ≤ n) :
    parseArgs tags n (toksArgs cfg args ++ rest) = some (args, rest) := by
  obtain ⟨m, rfl⟩ := fuel_succ hn
  match args, h with
  | [], _ =>
    cases rest with
    | nil => rfl
    | cons t ts => simp [toksArgs, parseArgs, (hrest t ts rfl).1]
  | a :: as, h =>
    simp only [toksArgs, List.length_append] at hn
    obtain ⟨t, ts, ht, hs, _, _⟩ := toksNode_head cfg false a
    have hpos : 0 < (toksNode cfg false false a).length := by rw [ht]; exact Nat.succ_pos _
    have h1 := h a List.mem_cons_self m (toksArgs cfg as ++ rest) (by omega)
    have h2 := parseArgs_of as (fun b hb => h b (List.mem_cons_of_mem a hb)) m rest hrest (by omega)
    simp only [toksArgs, List.append_assoc]
    rw [ht] at h1 ⊢
    simp only [List.cons_append, parseArgs, hs, if_true] at h1 ⊢
    rw [h1]
    simp [h2]

theorem parseItems_of (l : List Mich) (h : ∀ x ∈ l, ItemOK tags cfg x) (n : Nat) (rest : List Tok)
    (hrest : Follow rest) (hsemi : ∀ ts, rest ≠ .semi :: ts) (hn : 2 * (toksItems cfg l).length + 3 ≤ n) :
    parseInstr tags n (toksItems cfg l ++ rest) = some (itemsRes l, rest) := by
  obtain ⟨m, rfl⟩ := fuel_succ hn
  -- the last item: what follows is not a `;`
  have last : ∀ ts r, parseItem tags m (ts ++ rest) = some (r, rest) →
      parseInstr tags (m + 1) (ts ++ rest) = some (r, rest) := by
    intro ts r hr
    simp only [parseInstr, hr, Option.bind_eq_bind, Option.bind_some]
    rfl
  match l, h with
  | [], _ =>
    obtain ⟨k, rfl⟩ := fuel_succ (Nat.le_of_succ_le_succ hn)
    apply last []
    -- the clauses of `parseItem` before the last are for tokens that start an argument
    unfold parseItem
    split
    case h_1 e => cases e
    case h_7 => rfl
    all_goals cases (hrest _ _ ‹_›).1
  | [x], h => exact last _ _ (h x List.mem_cons_self m rest hrest (by simpa [toksItems] using hn))
  | x :: y :: ys, h =>
    simp only [toksItems, List.length_append, List.length_cons, List.length_nil] at hn
    have hx := h x List.mem_cons_self m (.semi :: (toksItems cfg (y :: ys) ++ rest)) (Follow.cons rfl rfl _) (by omega)
    have h2 := parseItems_of (y :: ys) (fun z hz => h z (List.mem_cons_of_mem x hz)) m rest hrest hsemi (by omega)
    simp only [toksItems, List.append_assoc, List.cons_append, List.nil_append, parseInstr, hx]
    simp only [Option.bind_eq_bind, Option.bind_some]
    rw [h2]
    show some (IRes.many ([x] ++ (itemsRes (y :: ys)).flat), rest) = _
    rw [flat_itemsRes]
    rfl

theorem lit_ok {t : Tok} {e : Mich} {lit : Option Mich} (hl : lit = some e) (ht : ∀ w, toksNode cfg false w e = [t])
    (hA : ∀ n rest, parseArg tags (n + 1) (t :: rest) = lit.map fun m => (m, rest))
    (hI : ∀ n rest, parseItem tags (n + 1) (t :: rest) = lit.map fun m => (.one m, rest)) :
    ArgOK tags cfg e ∧ ItemOK tags cfg e := by
  subst hl
  refine ⟨fun n rest hn => ?_, fun n rest _ hn => ?_⟩
  · obtain ⟨m, rfl⟩ := fuel_succ hn
    rw [ht]; exact hA m rest
  · obtain ⟨m, rfl⟩ := fuel_succ hn
    rw [ht]; exact hI m rest

theorem seq_ok (xs : List Mich) (h : ∀ x ∈ xs, ItemOK tags cfg x) :
    ArgOK tags cfg (.seq xs) ∧ ItemOK tags cfg (.seq xs) := by
  have ht : ∀ w, toksNode cfg false w (.seq xs) = .lcurly :: (toksItems cfg xs ++ [.rcurly]) := by
    intro w; cases xs <;> rfl
  have hin := fun m rest hm =>
    parseItems_of tags cfg xs h m (.rcurly :: rest) (Follow.cons rfl rfl rest) (by simp) hm
  refine ⟨fun n rest hn => ?_, fun n rest _ hn => ?_⟩
  · rw [ht] at hn ⊢
    simp only [List.length_cons, List.length_append, List.length_nil] at hn
    obtain ⟨m, rfl⟩ := fuel_succ hn
    simp [parseArg, hin m rest (by omega), flat_itemsRes]
  · rw [ht] at hn ⊢
    simp only [List.length_cons, List.length_append, List.length_nil] at hn
    obtain ⟨m, rfl⟩ := fuel_succ hn
    simp [parseItem, hin m rest (by omega), flat_itemsRes]

/-- an application whose arguments are read back is read back, in argument position (parenthesised there when it has
arguments or annotations, `is_framed`) and in item position -/
theorem prim_ok (hfr : cfg.framed = none) (p : String) (args : List Mich) (annots : List String)
    (hp : tags.contains p = true) (h : ∀ a ∈ args, ArgOK tags cfg a) :
    ArgOK tags cfg (.prim p args annots) ∧ ItemOK tags cfg (.prim p args annots) := by
  have hexpr := fun m rest hrest hm =>
    parseExpr_ok tags cfg m p args annots rest hp hrest (parseArgs_of tags cfg args h m rest hrest hm)
  refine ⟨fun n rest hn => ?_, fun n rest hrest hn => ?_⟩
  · by_cases hc : (!args.isEmpty || !annots.isEmpty) = true
    · simp only [toksNode, isFramed, hfr, Bool.not_false, Bool.and_true, hc, if_true, List.length_append,
        List.length_cons, List.length_nil] at hn ⊢
      obtain ⟨m, rfl⟩ : ∃ m, n = m + 2 := ⟨n - 2, by omega⟩
      have h2 := hexpr m (.rparen :: rest) (Follow.cons rfl rfl rest) (by omega)
      simp only [List.append_assoc, List.cons_append, List.nil_append, parseArg] at h2 ⊢
      rw [h2]; rfl
    · obtain ⟨rfl, rfl⟩ : args = [] ∧ annots = [] := by
        cases args <;> cases annots <;> simp at hc ⊢
      have ht : toksNode cfg false false (.prim p [] []) = [.prim p.toList] := by
        simp [toksNode, isFramed, hfr, annotToks, toksArgs]
      rw [ht] at hn ⊢
      obtain ⟨m, rfl⟩ := fuel_succ hn
      simp [parseArg]
  · simp only [toksNode, Bool.not_true, Bool.and_false, Bool.false_eq_true, if_false, List.length_append,
      List.length_cons, List.length_nil] at hn ⊢
    obtain ⟨m, rfl⟩ : ∃ m, n = m + 2 := ⟨n - 2, by omega⟩
    have h2 := hexpr m rest hrest (by omega)
    simp only [List.append_assoc, List.cons_append, List.nil_append, parseItem] at h2 ⊢
    rw [h2]; rfl

variable (sp : LexSpec) (hfr : cfg.framed = none)
include hfr

theorem node_ok (e : Mich) (hwf : wfNode sp tags e = true) : ArgOK tags cfg e ∧ ItemOK tags cfg e :=
  wfNode_induct sp tags
    (fun v => lit_ok tags cfg (litInt_intRepr v) (fun _ => rfl) (fun _ _ => rfl) (fun _ _ => rfl))
    (fun s => lit_ok tags cfg (litStr_jsonDumps s) (fun _ => rfl) (fun _ _ => rfl) (fun _ _ => rfl))
    (fun b hb => lit_ok tags cfg (litBytes_hexOf b hb) (fun _ => rfl) (fun _ _ => rfl) (fun _ _ => rfl))
    (fun xs ih => seq_ok tags cfg xs fun x hx => (ih x hx).2)
    (fun p args annots hp _ _ ih => prim_ok tags cfg hfr p args annots hp fun a ha => (ih a ha).1) e hwf

theorem nodes_ok (l : List Mich) (hwf : wfList sp tags l = true) : ∀ x ∈ l, ArgOK tags cfg x ∧ ItemOK tags cfg x :=
  fun x hx => node_ok tags cfg sp hfr x (wfList_mem sp tags hwf x hx)

theorem parseArg_toks (e : Mich) (hwf : wfNode sp tags e = true) (n : Nat) (rest : List Tok)
    (hn : 2 * (toksNode cfg false false e).length + 1 ≤ n) :
    parseArg tags n (toksNode cfg false false e ++ rest) = some (e, rest) :=
  (node_ok tags cfg sp hfr e hwf).1 n rest hn

theorem parseArgs_toks (args : List Mich) (hwf : wfList sp tags args = true) (n : Nat) (rest : List Tok)
    (hrest : Follow rest) (hn : 2 * (toksArgs cfg args).length + 2 ≤ n) :
    parseArgs tags n (toksArgs cfg args ++ rest) = some (args, rest) :=
  parseArgs_of tags cfg args (fun a ha => (nodes_ok tags cfg sp hfr args hwf a ha).1) n rest hrest hn

/-- the value `parse` extracts from the start symbol -/
def IRes.toMich? : IRes → Option Mich
  | .one m => some m
  | .many ms => some (.seq ms)
  | .none => Option.none

theorem parseInstr_root (e : Mich) (hwf : wfNode sp tags e = true) (hroot : rootOK cfg e = true) (n : Nat)
    (hn : 2 * (toksNode cfg true false e).length + 4 ≤ n) :
    ∃ r, parseInstr tags n (toksNode cfg true false e) = some (r, []) ∧ r.toMich? = some e := by
  obtain ⟨l, hne, heq, hl⟩ := root_items cfg e
  have hwl : wfList sp tags l = true := by
    rcases hl with rfl | ⟨rfl, _⟩
    · simp [wfList, hwf]
    · simpa only [wfNode] using hwf
  have hm : (itemsRes l).toMich? = some e := by
    rcases hl with rfl | ⟨rfl, hs⟩
    · rfl
    · match l, hne, hroot, hs with
      | [x], _, hroot, hs =>
        simp only [rootOK, Bool.not_eq_true'] at hroot
        simp [isScript, hroot] at hs
      | _ :: _ :: _, _, _, _ => rfl
  rw [heq] at hn ⊢
  have h := parseItems_of tags cfg l (fun z hz => (nodes_ok tags cfg sp hfr l hwl z hz).2) n [] Follow.nil nofun (by omega)
  rw [List.append_nil] at h
  exact ⟨_, h, hm⟩

end
end Impl.Text
