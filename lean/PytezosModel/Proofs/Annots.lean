import PytezosModel.Micheline.Lower
import PytezosModel.Proofs.C27
namespace Impl.Lower
open Core

theorem splitSp_eq : ∀ bs : Bytes, splitSp bs = Impl.Errors.split 32 bs
  | [] => rfl
  | b :: rest => by
    rw [splitSp, Impl.Errors.split, splitSp_eq rest]
    cases Impl.Errors.split 32 rest <;> rfl

theorem joinSp_eq : ∀ as : List Bytes, joinSp as = Impl.Errors.join 32 as
  | [] => rfl
  | [_] => rfl
  | a :: b :: rest => by rw [joinSp, Impl.Errors.join, joinSp_eq (b :: rest)]

theorem splitSp_ne_nil (bs : Bytes) : splitSp bs ≠ [] := splitSp_eq bs ▸ Proofs.C27.split_ne_nil 32 bs

/-- `' '.join(annots).split(' ') == annots` for a non-empty list of space-free annotations -/
theorem splitSp_joinSp (as : List Bytes) (hne : as ≠ []) (h : ∀ a ∈ as, 32 ∉ a) : splitSp (joinSp as) = as := by
  rw [joinSp_eq, splitSp_eq]
  exact Proofs.C27.split_join 32 as hne h

end Impl.Lower
