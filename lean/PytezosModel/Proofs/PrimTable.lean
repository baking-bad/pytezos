import PytezosModel.Micheline.Lower
import PytezosModel.Proofs.StrTable
import PytezosModel.Proofs.Lists
/-! The primitive table `prim_tags` read from the source and its two lookups (`primTag`: first row with the name; `primOfTag`:
last row with the tag, the placeholder 0xee filtered out).  Two facts about the table are evaluated, its tag column and that
no name occurs twice; what the lookups answer follows for every row. -/
namespace Impl.Lower
open Core

theorem key_inj {α κ : Type} (key : α → κ) (bad : κ → Prop) {l : List α}
    (h : (l.map key).Pairwise fun x y => x = y → bad x) :
    ∀ a ∈ l, ∀ b ∈ l, key a = key b → ¬ bad (key a) → a = b := by
  have h' := List.pairwise_map.mp h
  exact fun a ha b hb => List.Pairwise.forall_of_forall_of_flip
    (R := fun a b => key a = key b → ¬ bad (key a) → a = b) (fun _ _ _ _ => rfl)
    (h'.imp fun hr e nb => absurd (hr e) nb) (h'.imp fun hr e nb => absurd (e ▸ hr e.symm) nb) ha hb

/-- the protocol primitives carry the tags 0x00–0x9e in order; the rows after them all carry the placeholder 0xee -/
theorem tag_column : tagTable.map (·.2) = List.range 159 ++ List.replicate 22 238 := by decide +kernel

/-- told apart by their codes: there are 181 · 180 / 2 comparisons -/
theorem names_distinct : (tagTable.map (·.1)).Pairwise (· ≠ ·) := StrTable.names_ne (by decide +kernel)

theorem name_inj : ∀ a ∈ tagTable, ∀ b ∈ tagTable, a.1 = b.1 → a = b := fun a ha b hb e =>
  key_inj (fun r : String × Nat => r.1) (fun _ => False) names_distinct a ha b hb e id

theorem tag_inj : ∀ a ∈ tagTable, ∀ b ∈ tagTable, a.2 = b.2 → a.2 ≠ 238 → a = b := by
  refine key_inj (fun r : String × Nat => r.2) (· = 238) ?_
  rw [tag_column, List.pairwise_append]
  refine ⟨List.nodup_range.imp fun hne e => absurd e hne, List.pairwise_replicate.mpr (.inr id), ?_⟩
  intro x _ y hy e
  rw [e, List.eq_of_mem_replicate hy]

theorem primTag_of_mem {row : String × Nat} (h : row ∈ tagTable) : primTag row.1 = some row.2 := by
  rw [primTag, List.find?_unique h (beq_self_eq_true row.1) fun b hb e => name_inj b hb row h (eq_of_beq e)]
  rfl

theorem primOfTag_of_mem {row : String × Nat} (h : row ∈ tagTable) (ht : row.2 ≠ 238) : primOfTag row.2 = some row.1 := by
  have hf := List.find?_unique (List.mem_reverse.mpr h) (beq_self_eq_true row.2) fun b hb e =>
    tag_inj b (List.mem_reverse.mp hb) row h (eq_of_beq e) (eq_of_beq e ▸ ht)
  simp [primOfTag, Generated.C05.primIntExcluded, ht, hf]

theorem mem_of_primOfTag {t : Nat} {name : String} (h : primOfTag t = some name) : (name, t) ∈ tagTable ∧ t ≠ 238 := by
  simp only [primOfTag, Generated.C05.primIntExcluded, List.contains_cons, List.contains_nil, Bool.or_false, beq_iff_eq] at h
  split at h
  · cases h
  · rename_i ht
    obtain ⟨row, hf, rfl⟩ := Option.map_eq_some_iff.mp h
    have hr : row.2 = t := by simpa using List.find?_some hf
    exact hr ▸ ⟨List.mem_reverse.mp (List.mem_of_find?_eq_some hf), hr ▸ ht⟩

theorem primOfTag_iff {name : String} {n : Nat} (h : (name, n) ∈ tagTable) (hn : n ≠ 238) (t : Nat) :
    primOfTag t = some name ↔ t = n :=
  ⟨fun ht => congrArg Prod.snd (name_inj _ (mem_of_primOfTag ht).1 _ h rfl), fun e => e ▸ primOfTag_of_mem h hn⟩

theorem known_iff (t : Nat) : known t = true ↔ t ≤ 158 := by
  have hcol : t ∈ tagTable.map (·.2) ↔ t < 159 ∨ t = 238 := by
    rw [tag_column, List.mem_append, List.mem_range, List.mem_replicate]; simp
  constructor
  · intro hk
    obtain ⟨name, hn⟩ := Option.isSome_iff_exists.mp hk
    obtain ⟨hm, h238⟩ := mem_of_primOfTag hn
    have := hcol.mp (List.mem_map.mpr ⟨_, hm, rfl⟩)
    omega
  · intro ht
    obtain ⟨row, hm, rfl⟩ := List.mem_map.mp (hcol.mpr (.inl (by omega)))
    rw [known, primOfTag_of_mem hm (by omega)]
    rfl

/-- the source has the integer reader that rejects a trailing zero group -/
theorem strict_eq : strict = true := by decide

end Impl.Lower
