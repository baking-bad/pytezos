import PytezosModel.Michelson.Entrypoints
import PytezosModel.Proofs.C12
/-! C13: on well-formed parameter types `list_entrypoints`, `from_parameters` and `to_parameters` in closed form, and
the walk of `to_parameters` (`Good`). -/
namespace Impl.Entrypoints
open Spec.Entrypoints

section dict
variable {κ α : Type} [DecidableEq κ]

/-- the dicts of this mirror and those of C12's (`Impl.PyConv`) are the same functions: their lemmas are proved there -/
theorem dget_eq_pyConv (xs : List (κ × α)) (k : κ) : dget xs k = Impl.PyConv.dget xs k := by
  induction xs with
  | nil => rfl
  | cons e rest ih => simp only [dget, Impl.PyConv.dget, ih]

theorem dset_eq_pyConv (xs : List (κ × α)) (k : κ) (v : α) : dset xs k v = Impl.PyConv.dset xs k v := by
  induction xs with
  | nil => rfl
  | cons e rest ih =>
    simp only [dset, Impl.PyConv.dset, ih]
    split
    · rename_i hk; rw [hk]
    · rfl

theorem dget_mem {xs : List (κ × α)} {k : κ} {v : α} (h : dget xs k = some v) : (k, v) ∈ xs :=
  Impl.PyConv.dget_mem (dget_eq_pyConv xs k ▸ h)

theorem dget_isSome_of_mem {xs : List (κ × α)} {k : κ} {v : α} (h : (k, v) ∈ xs) : ∃ v', dget xs k = some v' := by
  induction xs with
  | nil => simp at h
  | cons e rest ih =>
    obtain ⟨k', v'⟩ := e
    simp only [dget]
    split
    · exact ⟨_, rfl⟩
    · rename_i hk
      rcases List.mem_cons.mp h with h | h
      · cases h; exact absurd rfl hk
      · exact ih h

theorem dget_isSome_iff_mem (xs : List (κ × α)) (k : κ) :
    (dget xs k).isSome = true ↔ k ∈ xs.map (·.1) := by
  constructor
  · intro h
    obtain ⟨v, hv⟩ := Option.isSome_iff_exists.mp h
    exact List.mem_map.mpr ⟨(k, v), dget_mem hv, rfl⟩
  · intro h
    obtain ⟨⟨k', v⟩, hm, rfl⟩ := List.mem_map.mp h
    obtain ⟨v', hv'⟩ := dget_isSome_of_mem hm
    simp [hv']

theorem dget_none_of_not_mem {xs : List (κ × α)} {k : κ} (h : k ∉ xs.map (·.1)) : dget xs k = none := by
  cases hd : dget xs k with
  | none => rfl
  | some v => exact absurd (List.mem_map.mpr ⟨(k, v), dget_mem hd, rfl⟩) h

theorem dget_of_mem_nodup {xs : List (κ × α)} {k : κ} {v : α} (hn : (xs.map (·.1)).Nodup) (h : (k, v) ∈ xs) :
    dget xs k = some v :=
  (dget_eq_pyConv xs k).trans (Impl.PyConv.dget_of_mem_nodup hn h)

theorem dset_of_not_mem {xs : List (κ × α)} {k : κ} {v : α} (h : k ∉ xs.map (·.1)) : dset xs k v = xs ++ [(k, v)] :=
  (dset_eq_pyConv xs k v).trans (Impl.PyConv.dset_of_not_mem h)

theorem foldl_dset_nodup {β : Type} (f : β → κ × α) (ys : List β) (acc : List (κ × α))
    (hn : ((acc ++ ys.map f).map (·.1)).Nodup) :
    ys.foldl (fun d e => dset d (f e).1 (f e).2) acc = acc ++ ys.map f := by
  rw [show (fun d e => dset d (f e).1 (f e).2) = fun d e => Impl.PyConv.dset d (f e).1 (f e).2 from
    funext fun d => funext fun e => dset_eq_pyConv d _ _]
  exact Impl.PyConv.foldl_dset_nodup f ys acc hn

theorem dset_perm {xs : List (κ × α)} {k : κ} {v : α} (hn : (xs.map (·.1)).Nodup) :
    (dset xs k v).Perm (xs.filter (fun e => decide (e.1 ≠ k)) ++ [(k, v)]) := by
  induction xs with
  | nil => simp [dset]
  | cons x rest ih =>
    obtain ⟨k', v'⟩ := x
    simp only [List.map_cons, List.nodup_cons] at hn
    simp only [dset]
    split
    · rename_i hk
      subst hk
      have hf : rest.filter (fun e => decide (e.1 ≠ k')) = rest := by
        apply List.filter_eq_self.mpr
        intro e he
        have : e.1 ≠ k' := fun h => hn.1 (List.mem_map.mpr ⟨e, he, h⟩)
        simpa using this
      simp only [List.filter_cons, ne_eq, not_true_eq_false, decide_false, Bool.false_eq_true, if_false, hf]
      exact (List.perm_append_singleton _ _).symm
    · rename_i hk
      simp only [List.filter_cons, ne_eq, hk, not_false_eq_true, decide_true, if_true, List.cons_append]
      exact List.Perm.cons _ (ih hn.2)

end dict

/-- the key `layoutGo` gives an argument: its annotation (`iter_type_args` yields annotated nodes only,
`iterTypeArgs_ann`, so the default is never taken) -/
def keyOf (t : PTy) : String := t.ann.getD ""

theorem named_some {a : Option String} {n : String} (h : named a = some n) : a = some n ∧ n ≠ "" := by
  unfold named at h
  split at h
  · split at h
    · cases h
    · rename_i hs; cases h; exact ⟨rfl, hs⟩
  · cases h

theorem yielded_self {t : PTy} {pre q : Path} {arg : PTy} (hn : (named t.ann).isSome) (h : (q, arg) ∈ [(pre, t)]) :
    ∃ q', q = pre ++ q' ∧ nodeAt t q' = some arg ∧ ∃ n, arg.ann = some n ∧ n ≠ "" := by
  simp only [List.mem_singleton, Prod.mk.injEq] at h
  obtain ⟨rfl, rfl⟩ := h
  obtain ⟨n, hn⟩ := Option.isSome_iff_exists.mp hn
  exact ⟨[], by simp, by cases arg <;> rfl, n, named_some hn⟩

theorem iterChild_mem {t : PTy} {pre q : Path} {arg : PTy} (h : (q, arg) ∈ iterChild t pre) :
    ∃ q', q = pre ++ q' ∧ nodeAt t q' = some arg ∧ ∃ n, arg.ann = some n ∧ n ≠ "" := by
  induction t generalizing pre with
  | leaf a ty =>
    simp only [iterChild] at h
    split at h
    · exact yielded_self ‹_› h
    · simp at h
  | or a l r ihl ihr =>
    simp only [iterChild, List.mem_append] at h
    rcases h with h | h | h
    · split at h
      · exact yielded_self ‹_› h
      · simp at h
    · obtain ⟨q', rfl, hn, hk⟩ := ihl h
      exact ⟨false :: q', by simp, by simpa [nodeAt] using hn, hk⟩
    · obtain ⟨q', rfl, hn, hk⟩ := ihr h
      exact ⟨true :: q', by simp, by simpa [nodeAt] using hn, hk⟩

theorem self_branch (t : PTy) (pre : Path) :
    (if (named t.ann).isSome then [(pre, t)] else []).map (fun e => (keyOf e.2, e.2.anon))
      = match named t.ann with
        | some n => [(n, t.anon)]
        | none => [] := by
  cases hn : named t.ann with
  | none => simp
  | some n =>
    obtain ⟨h, _⟩ := named_some hn
    simp [keyOf, h]

theorem iterChild_branches (t : PTy) (pre : Path) :
    (iterChild t pre).map (fun e => (keyOf e.2, e.2.anon)) = branches t := by
  induction t generalizing pre with
  | leaf a ty => exact self_branch (.leaf a ty) pre
  | or a l r ihl ihr =>
    simp only [iterChild, branches, List.map_append, ihl, ihr]
    exact congrArg (· ++ _) (self_branch (.or a l r) pre)

theorem iterTypeArgs_branches (p : PTy) :
    (iterTypeArgs p).map (fun e => (keyOf e.2, e.2.anon)) = properBranches p := by
  cases p with
  | leaf a t => simp [iterTypeArgs, properBranches]
  | or a l r => simp [iterTypeArgs, properBranches, iterChild_branches]

theorem iterTypeArgs_mem {p : PTy} {q : Path} {arg : PTy} (h : (q, arg) ∈ iterTypeArgs p) :
    q ≠ [] ∧ nodeAt p q = some arg ∧ ∃ n, arg.ann = some n ∧ n ≠ "" := by
  cases p with
  | leaf a t => simp [iterTypeArgs] at h
  | or a l r =>
    simp only [iterTypeArgs, List.mem_append] at h
    rcases h with h | h
    · obtain ⟨q', rfl, hn, hk⟩ := iterChild_mem h
      exact ⟨by simp, by simpa [nodeAt] using hn, hk⟩
    · obtain ⟨q', rfl, hn, hk⟩ := iterChild_mem h
      exact ⟨by simp, by simpa [nodeAt] using hn, hk⟩

def flatNames (flat : List (Path × PTy)) : List String := flat.map (fun e => keyOf e.2)
def flatKeys (flat : List (Path × PTy)) : List (Path × String) := flat.map (fun e => (e.1, keyOf e.2))
@[simp] theorem flatNames_cons (e rest) : flatNames (e :: rest) = keyOf e.2 :: flatNames rest := rfl
@[simp] theorem flatKeys_cons (e rest) : flatKeys (e :: rest) = (e.1, keyOf e.2) :: flatKeys rest := rfl

theorem layoutGo_eq (flat : List (Path × PTy)) (reserved : List String) (acc : List (Path × String))
    (hann : ∀ e ∈ flat, ∃ n, e.2.ann = some n) :
    layoutGo flat reserved acc =
      if (flatNames flat).Nodup ∧ ∀ k ∈ flatNames flat, k ∉ reserved
      then .ok (acc ++ flatKeys flat) else .error .duplicateKey := by
  induction flat generalizing reserved acc with
  | nil => simp [layoutGo, flatNames, flatKeys]
  | cons e rest ih =>
    obtain ⟨path, arg⟩ := e
    obtain ⟨n, hn⟩ := hann (path, arg) (List.mem_cons_self)
    have hrest : ∀ e ∈ rest, ∃ n, e.2.ann = some n := fun e he => hann e (List.mem_cons_of_mem _ he)
    have hk : keyOf arg = n := by simp [keyOf, hn]
    simp only [layoutGo, hn, flatNames_cons, flatKeys_cons, hk, List.nodup_cons, List.mem_cons, forall_eq_or_imp]
    by_cases hr : n ∈ reserved
    · simp [hr]
    · rw [if_neg hr, ih _ _ hrest]
      simp only [List.mem_cons, not_or]
      refine ite_congr (propext ⟨fun ⟨ha, hb⟩ => ⟨⟨fun hm => (hb n hm).1 rfl, ha⟩, hr, fun k hk => (hb k hk).2⟩,
        fun ⟨⟨h1, h2⟩, _, h3⟩ => ⟨h2, fun k hk => ⟨fun e => h1 (e ▸ hk), h3 k hk⟩⟩⟩) (fun _ => ?_) (fun _ => rfl)
      rw [List.append_assoc]
      rfl

theorem flatNames_iterTypeArgs (p : PTy) : flatNames (iterTypeArgs p) = (properBranches p).map (·.1) := by
  rw [← iterTypeArgs_branches]; simp [flatNames]

theorem iterTypeArgs_ann (p : PTy) : ∀ e ∈ iterTypeArgs p, ∃ n, e.2.ann = some n := by
  intro e he
  obtain ⟨_, _, n, hn, _⟩ := iterTypeArgs_mem (p := p) (q := e.1) (arg := e.2) he
  exact ⟨n, hn⟩

theorem pathToKey_eq (p : PTy) :
    pathToKey p = if WellFormed p then .ok (flatKeys (iterTypeArgs p)) else .error .duplicateKey := by
  unfold pathToKey
  rw [layoutGo_eq _ _ _ (iterTypeArgs_ann p), flatNames_iterTypeArgs]
  simp [WellFormed]

theorem pathToKey_wf {p : PTy} (h : WellFormed p) : pathToKey p = .ok (flatKeys (iterTypeArgs p)) := by
  rw [pathToKey_eq, if_pos h]

theorem pathToKey_not_wf {p : PTy} (h : ¬ WellFormed p) : pathToKey p = .error .duplicateKey := by
  rw [pathToKey_eq, if_neg h]

theorem dget_flatKeys {p : PTy} {q : Path} {arg : PTy} (h : (q, arg) ∈ iterTypeArgs p) :
    dget (flatKeys (iterTypeArgs p)) q = some (keyOf arg) := by
  have hm : (q, keyOf arg) ∈ flatKeys (iterTypeArgs p) := List.mem_map.mpr ⟨(q, arg), h, rfl⟩
  -- the first entry at `q` is the entry of `arg`: whatever is yielded at `q` is the node at `q`
  obtain ⟨k', hk'⟩ := dget_isSome_of_mem hm
  have := dget_mem hk'
  obtain ⟨⟨q2, arg2⟩, h2, heq⟩ := List.mem_map.mp this
  simp only [Prod.mk.injEq] at heq
  obtain ⟨rfl, rfl⟩ := heq
  have a1 := (iterTypeArgs_mem h).2.1
  have a2 := (iterTypeArgs_mem h2).2.1
  rw [a1] at a2; cases a2
  exact hk'

theorem flatDict_eq (p2k : List (Path × String)) (flat : List (Path × PTy)) (acc : List (String × PTy))
    (hget : ∀ e ∈ flat, dget p2k e.1 = some (keyOf e.2))
    (hn : ((acc ++ flat.map (fun e => (keyOf e.2, e.2))).map (·.1)).Nodup) :
    flatDict p2k flat acc = .ok (acc ++ flat.map (fun e => (keyOf e.2, e.2))) := by
  induction flat generalizing acc with
  | nil => simp [flatDict]
  | cons e rest ih =>
    obtain ⟨path, arg⟩ := e
    have hnot : keyOf arg ∉ acc.map (·.1) := List.not_mem_of_nodup_append_cons (by simpa using hn)
    have h1 : dget p2k path = some (keyOf arg) := hget (path, arg) List.mem_cons_self
    simp only [flatDict, h1, dset_of_not_mem hnot, List.map_cons]
    rw [ih _ (fun e he => hget e (List.mem_cons_of_mem _ he)) (by simpa using hn)]
    simp

theorem getFlatArgs_wf {p : PTy} (h : WellFormed p) :
    getFlatArgs p = .ok ((iterTypeArgs p).map (fun e => (keyOf e.2, e.2))) := by
  unfold getFlatArgs
  rw [pathToKey_wf h]
  simp only [bind, Except.bind]
  have := flatDict_eq (flatKeys (iterTypeArgs p)) (iterTypeArgs p) []
    (fun e he => dget_flatKeys (q := e.1) (arg := e.2) he)
    (by
      have : ((iterTypeArgs p).map (fun e => (keyOf e.2, e.2))).map (·.1) = (properBranches p).map (·.1) := by
        rw [← flatNames_iterTypeArgs]; simp [flatNames]
      simpa [this, WellFormed] using h)
  simpa using this

theorem getFlatArgs_not_wf {p : PTy} (h : ¬ WellFormed p) : getFlatArgs p = .error .duplicateKey := by
  unfold getFlatArgs
  rw [pathToKey_not_wf h]; rfl

theorem rootName_wf (c : Cfg) {p : PTy} (h : WellFormed p) :
    rootName c p = .ok (Spec.Entrypoints.rootName c.dflt c.root p) := by
  cases p with
  | leaf a t =>
    simp only [rootName, Spec.Entrypoints.rootName, PTy.ann, properBranches]
    cases named a <;> simp
  | or a l r =>
    simp only [rootName, Spec.Entrypoints.rootName, PTy.ann]
    cases hn : named a with
    | some n => rfl
    | none =>
      simp only [getFlatArgs_wf h, bind, Except.bind]
      have : (dget ((iterTypeArgs (.or a l r)).map (fun e => (keyOf e.2, e.2))) c.dflt).isSome = true ↔
          c.dflt ∈ (properBranches (.or a l r)).map (·.1) := by
        rw [dget_isSome_iff_mem, ← flatNames_iterTypeArgs]; simp [flatNames]
      simp only [this]

theorem decode_of_hasTy {p : PTy} {v : PVal} (h : hasTy v p = true) : decode p v = .ok v := by
  induction p generalizing v with
  | leaf a t =>
    cases v with
    | leaf t' x => simp only [hasTy, decide_eq_true_eq] at h; simp [decode, h]
    | left v => simp [hasTy] at h
    | right v => simp [hasTy] at h
  | or a l r ihl ihr =>
    cases v with
    | leaf t' x => simp [hasTy] at h
    | left v => simp only [hasTy] at h; simp [decode, ihl h, Except.map]
    | right v => simp only [hasTy] at h; simp [decode, ihr h, Except.map]

theorem hasTy_anon (v : PVal) (t : PTy) : hasTy v t.anon = hasTy v t := by
  cases t <;> cases v <;> rfl

theorem wrapParameters_eq_inject (a : PVal) (q : Path) : wrapParameters a q = inject a q := by
  induction q with
  | nil => rfl
  | cons b q ih => cases b <;> simp [wrapParameters, inject, ih]

theorem wrap_append (x : PVal) (pre q : Path) :
    wrapParameters x (pre ++ q) = wrapParameters (wrapParameters x q) pre := by
  induction pre with
  | nil => rfl
  | cons b pre ih => cases b <;> simp [wrapParameters, ih]

theorem hasTy_wrap {p : PTy} {q : Path} {arg : PTy} {a : PVal} (hn : nodeAt p q = some arg) (ha : hasTy a arg = true) :
    hasTy (wrapParameters a q) p = true := by
  induction q generalizing p with
  | nil => simp only [nodeAt, Option.some.injEq] at hn; subst hn; exact ha
  | cons b q ih =>
    cases p with
    | leaf _ _ => simp [nodeAt] at hn
    | or _ l r =>
      cases b
      · simp only [nodeAt] at hn; simp only [wrapParameters, hasTy]; exact ih hn
      · simp only [nodeAt] at hn; simp only [wrapParameters, hasTy]; exact ih hn

/-- what a pair (entrypoint, argument) has to satisfy so that `from_parameters` rebuilds the full value `V` -/
def Good (p2k : List (Path × String)) (rn : String) (V : PVal) (cur : String × PVal) : Prop :=
  cur = (rn, V) ∨ (cur.1 ≠ rn ∧ ∃ q, dget p2k q = some cur.1 ∧ wrapParameters cur.2 q = V)

/-- one round of `resolveGo` (its update of `cur`, at `skip = true`) keeps the pair good -/
theorem good_step (p2k : List (Path × String)) (rn : String) (V : PVal) {cur : String × PVal} {path' : Path} {v : PVal}
    (hw : wrapParameters v path' = V) (hg : Good p2k rn V cur) :
    Good p2k rn V (match dget p2k path' with
      | some k => if true && k == rn then cur else (k, v)
      | none => cur) := by
  cases hd : dget p2k path' with
  | none => exact hg
  | some k =>
    by_cases hk : k = rn
    · simpa [hk] using hg
    · simp only [Bool.true_and, beq_iff_eq, hk, if_false]
      exact Or.inr ⟨hk, path', hd, hw⟩

theorem resolveGo_good (p2k : List (Path × String)) (rn : String) (V : PVal) (x : PVal) (pre : Path)
    (cur : String × PVal) (hw : wrapParameters x pre = V) (hg : Good p2k rn V cur) :
    Good p2k rn V (resolveGo p2k rn true x pre cur) := by
  induction x generalizing pre cur with
  | leaf t y => simpa [resolveGo] using hg
  | left v ih =>
    have hw' : wrapParameters v (pre ++ [false]) = V := (wrap_append v pre [false]).trans hw
    exact ih _ _ hw' (good_step p2k rn V hw' hg)
  | right v ih =>
    have hw' : wrapParameters v (pre ++ [true]) = V := (wrap_append v pre [true]).trans hw
    exact ih _ _ hw' (good_step p2k rn V hw' hg)

/-- the walk down an argument injected at the path of a branch `e` passes that branch and goes on inside the argument
(so the answer is `(e, a)` unless `a` itself runs through a deeper annotated branch) -/
theorem resolveGo_wrap (p2k : List (Path × String)) (rn e : String) (a : PVal) (q : Path) (hq : q ≠ []) (pre : Path)
    (cur : String × PVal) (hd : dget p2k (pre ++ q) = some e) (he : e ≠ rn) :
    resolveGo p2k rn true (wrapParameters a q) pre cur = resolveGo p2k rn true a (pre ++ q) (e, a) := by
  induction q generalizing pre cur with
  | nil => exact absurd rfl hq
  | cons b q ih =>
    cases q with
    | nil =>
      cases b <;> simp [wrapParameters, resolveGo, hd, he]
    | cons b' q' =>
      have hd' : dget p2k ((pre ++ [b]) ++ (b' :: q')) = some e := by simpa using hd
      cases b
      · simp only [wrapParameters, resolveGo]
        simpa using ih (by simp) (pre ++ [false]) _ hd'
      · simp only [wrapParameters, resolveGo]
        simpa using ih (by simp) (pre ++ [true]) _ hd'

theorem keys_of_swap (p : PTy) :
    ((flatKeys (iterTypeArgs p)).map (fun e => (e.2, e.1))).map (·.1) = (properBranches p).map (·.1) := by
  rw [← flatNames_iterTypeArgs]; simp [flatNames, flatKeys]

theorem keyToPath_wf {p : PTy} (h : WellFormed p) :
    keyToPath p = .ok ((flatKeys (iterTypeArgs p)).map (fun e => (e.2, e.1))) := by
  unfold keyToPath
  rw [pathToKey_wf h]
  simp only [Except.map]
  congr 1
  have := foldl_dset_nodup (fun (e : Path × String) => (e.2, e.1)) (flatKeys (iterTypeArgs p)) []
    (by rw [List.nil_append, keys_of_swap]; exact h)
  simpa using this

theorem dget_keyToPath {p : PTy} (h : WellFormed p) {q : Path} {k : String}
    (hd : dget (flatKeys (iterTypeArgs p)) q = some k) :
    dget ((flatKeys (iterTypeArgs p)).map (fun e => (e.2, e.1))) k = some q := by
  apply dget_of_mem_nodup
  · rw [keys_of_swap]; exact h
  · exact List.mem_map.mpr ⟨(q, k), dget_mem hd, rfl⟩

theorem fromParameters_wf (c : Cfg) {p : PTy} (h : WellFormed p) (e : String) (a : PVal) :
    fromParameters c p e a =
      if e = Spec.Entrypoints.rootName c.dflt c.root p then decode p a
      else if !p.isOr then .error .notUnion
      else match dget ((flatKeys (iterTypeArgs p)).map fun e => (e.2, e.1)) e with
        | none => .error .unknownEntrypoint
        | some path => decode p (wrapParameters a path) := by
  unfold fromParameters
  rw [rootName_wf c h, keyToPath_wf h]
  rfl

theorem fromParameters_good (c : Cfg) {p : PTy} (h : WellFormed p) {V : PVal} (hty : hasTy V p = true)
    {cur : String × PVal}
    (hg : Good (flatKeys (iterTypeArgs p)) (Spec.Entrypoints.rootName c.dflt c.root p) V cur) :
    fromParameters c p cur.1 cur.2 = .ok V := by
  rw [fromParameters_wf c h]
  rcases hg with hg | ⟨hne, q, hd, hw⟩
  · rw [hg, if_pos rfl]; exact decode_of_hasTy hty
  · -- a path has a key: the type is a union
    have hor : p.isOr = true := by
      cases p with
      | leaf _ _ => cases hd
      | or _ _ _ => rfl
    simp only [if_neg hne, hor, Bool.not_true, Bool.false_eq_true, if_false, dget_keyToPath h hd, hw]
    exact decode_of_hasTy hty

theorem listEntrypoints_wf (c : Cfg) {p : PTy} (h : WellFormed p) :
    listEntrypoints c p = .ok (dset (properBranches p) (Spec.Entrypoints.rootName c.dflt c.root p) p) := by
  unfold listEntrypoints
  rw [rootName_wf c h]
  cases p with
  | leaf a t => simp [bind, Except.bind, PTy.isOr, properBranches]
  | or a l r =>
    simp only [bind, Except.bind, PTy.isOr, if_true, getFlatArgs_wf h]
    have hb : ((iterTypeArgs (.or a l r)).map fun e => (keyOf e.2, e.2)).map (fun (e : String × PTy) => (e.1, e.2.anon))
        = properBranches (.or a l r) := by
      rw [List.map_map, ← iterTypeArgs_branches]; rfl
    rw [foldl_dset_nodup (fun (e : String × PTy) => (e.1, e.2.anon)) _ [] (by rw [List.nil_append, hb]; exact h),
      List.nil_append, hb]

theorem listEntrypoints_not_wf (c : Cfg) {p : PTy} (h : ¬ WellFormed p) :
    listEntrypoints c p = .error .duplicateKey := by
  cases p with
  | leaf a t => exact absurd (by simp [WellFormed, properBranches]) h
  | or a l r =>
    unfold listEntrypoints
    simp only [rootName]
    cases hn : named a with
    | some n => simp [bind, Except.bind, PTy.isOr, getFlatArgs_not_wf h]
    | none => simp [bind, Except.bind, getFlatArgs_not_wf h]

/-- `to_parameters` (repaired shape) is the walk down the value, started with the root entrypoint -/
theorem toParameters_wf (c : Cfg) (hd : c.deepest = true) (hs : c.skipShadowed = true) {p : PTy} (h : WellFormed p)
    (v : PVal) :
    toParameters c p v = .ok (resolveGo (flatKeys (iterTypeArgs p)) (Spec.Entrypoints.rootName c.dflt c.root p) true v []
      (Spec.Entrypoints.rootName c.dflt c.root p, v)) := by
  unfold toParameters
  rw [rootName_wf c h, pathToKey_wf h, hd, hs]
  cases v <;> rfl

/-- full value → (entrypoint, argument) → full value -/
theorem toParams_fromParams_core (c : Cfg) (hd : c.deepest = true) (hs : c.skipShadowed = true) {p : PTy}
    (h : WellFormed p) {v : PVal} (hty : hasTy v p = true) :
    ∃ e a, toParameters c p v = .ok (e, a) ∧ fromParameters c p e a = .ok v :=
  ⟨_, _, toParameters_wf c hd hs h v, fromParameters_good c h hty (resolveGo_good _ _ v v [] _ rfl (Or.inl rfl))⟩

/-- what `list_entrypoints` lists, in terms of the type: the root, or an annotated proper branch -/
theorem mem_listEntrypoints (c : Cfg) {p : PTy} (h : WellFormed p) {d : List (String × PTy)}
    (hl : listEntrypoints c p = .ok d) {e : String} {τ : PTy} (hm : (e, τ) ∈ d) :
    (e = Spec.Entrypoints.rootName c.dflt c.root p ∧ τ = p) ∨
    (e ≠ Spec.Entrypoints.rootName c.dflt c.root p ∧ ∃ q arg, (q, arg) ∈ iterTypeArgs p ∧ e = keyOf arg ∧ τ = arg.anon) := by
  rw [listEntrypoints_wf c h] at hl
  cases hl
  have hp := dset_perm (xs := properBranches p) (k := Spec.Entrypoints.rootName c.dflt c.root p) (v := p) h
  have := hp.mem_iff.mp hm
  rcases List.mem_append.mp this with hf | hr
  · right
    have hf' := List.mem_filter.mp hf
    refine ⟨by simpa using hf'.2, ?_⟩
    rw [← iterTypeArgs_branches] at hf'
    obtain ⟨⟨q, arg⟩, hq, heq⟩ := List.mem_map.mp hf'.1
    simp only [Prod.mk.injEq] at heq
    exact ⟨q, arg, hq, heq.1.symm, heq.2.symm⟩
  · left
    simp only [List.mem_singleton, Prod.mk.injEq] at hr
    exact hr

theorem fromParameters_branch (c : Cfg) {p : PTy} (h : WellFormed p) {q : Path} {arg : PTy}
    (hq : (q, arg) ∈ iterTypeArgs p) (hne : keyOf arg ≠ Spec.Entrypoints.rootName c.dflt c.root p) {a : PVal}
    (ha : hasTy a arg = true) :
    fromParameters c p (keyOf arg) a = .ok (wrapParameters a q) ∧ hasTy (wrapParameters a q) p = true := by
  have hty := hasTy_wrap (iterTypeArgs_mem hq).2.1 ha
  exact ⟨fromParameters_good c h hty (cur := (keyOf arg, a)) (Or.inr ⟨hne, q, dget_flatKeys hq, rfl⟩), hty⟩

/-- (entrypoint, argument) → full value: the value Tezos builds (argument injected at the branch's path) -/
theorem fromParameters_listed (c : Cfg) {p : PTy} (h : WellFormed p) {d : List (String × PTy)}
    (hl : listEntrypoints c p = .ok d) {e : String} {τ : PTy} (hm : (e, τ) ∈ d) {a : PVal} (ha : hasTy a τ = true) :
    ∃ q node, nodeAt p q = some node ∧ node.anon = τ.anon ∧
      fromParameters c p e a = .ok (inject a q) ∧ hasTy (inject a q) p = true ∧
      (q = [] ↔ e = Spec.Entrypoints.rootName c.dflt c.root p) := by
  rcases mem_listEntrypoints c h hl hm with ⟨he, hτ⟩ | ⟨hne, q, arg, hq, he, hτ⟩
  · subst hτ
    refine ⟨[], τ, by cases τ <;> rfl, rfl, ?_, by simpa [inject] using ha, by simp [he]⟩
    rw [he]
    exact fromParameters_good c h ha (Or.inl rfl)
  · obtain ⟨hq0, hnode, _⟩ := iterTypeArgs_mem hq
    have ha' : hasTy a arg = true := by rw [hτ, hasTy_anon] at ha; exact ha
    obtain ⟨hfrom, hty⟩ := fromParameters_branch c h hq (he ▸ hne) ha'
    refine ⟨q, arg, hnode, by rw [hτ]; cases arg <;> rfl, ?_, by rw [← wrapParameters_eq_inject]; exact hty, ?_⟩
    · rw [he, hfrom, wrapParameters_eq_inject]
    · constructor
      · intro hq'; exact absurd hq' hq0
      · intro he'; exact absurd he' hne

theorem toParameters_fromParameters_leaf (c : Cfg) (hd : c.deepest = true) (hs : c.skipShadowed = true) {p : PTy}
    (h : WellFormed p) {d : List (String × PTy)} (hl : listEntrypoints c p = .ok d) {e : String} {ann : Option String} {t x : Nat}
    (hm : (e, .leaf ann t) ∈ d) (hne : e ≠ Spec.Entrypoints.rootName c.dflt c.root p) :
    ∃ v, fromParameters c p e (.leaf t x) = .ok v ∧ toParameters c p v = .ok (e, .leaf t x) := by
  rcases mem_listEntrypoints c h hl hm with ⟨he, _⟩ | ⟨_, q, arg, hq, he, hτ⟩
  · exact absurd he hne
  · obtain ⟨hq0, _, _⟩ := iterTypeArgs_mem hq
    have ha' : hasTy (.leaf t x) arg = true := by
      have : hasTy (PVal.leaf t x) (PTy.leaf ann t) = true := by simp [hasTy]
      rw [hτ, hasTy_anon] at this; exact this
    refine ⟨_, he ▸ (fromParameters_branch c h hq (he ▸ hne) ha').1, ?_⟩
    rw [toParameters_wf c hd hs h, resolveGo_wrap _ _ e _ q hq0 [] _ (by simpa [he] using dget_flatKeys hq) hne]
    rfl

end Impl.Entrypoints
