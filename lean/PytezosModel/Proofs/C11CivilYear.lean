import PytezosModel.Michelson.CivilDate
/-! C11 — the one non-linear-looking step of Hinnant's `civil_from_days`: the quotient
`(doe - doe/1460 + doe/36524 - doe/146096) / 365` is the year of the era.  The numerator never decreases from one day
to the next, so it is enough to know its value on the first and on the last day of each of the 400 years — a table
the kernel evaluates; the rest is `omega` on division by literals (core tactics only). -/
namespace Civil

/-- the March-based year-of-era `yoe` ends with a 29 February -/
def longYoe (yoe : Int) : Prop := yoe % 4 = 3 ∧ (yoe % 100 ≠ 99 ∨ yoe = 399)

theorem yoe_range (doe : Int) (h0 : 0 ≤ doe) (h1 : doe ≤ 146096) : 0 ≤ yoeOfDoe doe ∧ yoeOfDoe doe ≤ 399 := by
  unfold yoeOfDoe; omega

/-- the day `doe` of the era falls in the year `y` of the era: its day of the year is 0 … 364, or 365 when the year is
long (this is what `civilFromDays` needs of Hinnant's quotient `y`) -/
def DoySpec (doe y : Int) : Prop :=
  0 ≤ doe - yearStart y ∧ doe - yearStart y ≤ 365 ∧ (doe - yearStart y = 365 → longYoe y)

/-- the numerator of Hinnant's quotient -/
def yoeNum (doe : Int) : Int := doe - doe / 1460 + doe / 36524 - doe / 146096

theorem yoeNum_mono {a b : Int} (h0 : 0 ≤ a) (hab : a ≤ b) (h1 : b ≤ 146096) : yoeNum a ≤ yoeNum b := by
  obtain ⟨k, rfl⟩ := Int.le.dest hab
  induction k with
  | zero => simp
  | succ k ih =>
    refine Int.le_trans (ih (by omega) (by omega)) ?_
    unfold yoeNum; omega

/-- on the first day of year `y` the numerator has reached `365 y`, on the last it is still below `365 (y + 1)` -/
theorem yoeNum_year : ∀ y : Nat, y < 400 →
    365 * (y : Int) ≤ yoeNum (yearStart y) ∧ yoeNum (yearStart (y + 1) - 1) < 365 * ((y : Int) + 1) := by
  decide +kernel

/-- a day between the first days of two consecutive years (the era ends with the long year 399) -/
theorem doySpec_of_bounds (doe y : Int) (lo : yearStart y ≤ doe)
    (hi : doe < yearStart (y + 1) ∨ y = 399 ∧ doe ≤ 146096) : DoySpec doe y := by
  unfold DoySpec longYoe
  unfold yearStart at lo hi ⊢
  omega

/-- **Hinnant's quotient is the year**: the day of the era falls inside the year it computes -/
theorem doy_spec (doe : Int) (h0 : 0 ≤ doe) (h1 : doe ≤ 146096) : DoySpec doe (yoeOfDoe doe) := by
  have hq : yoeOfDoe doe = yoeNum doe / 365 := rfl
  obtain ⟨n, hn⟩ : ∃ n : Nat, yoeOfDoe doe = n := ⟨(yoeOfDoe doe).toNat, by unfold yoeOfDoe; omega⟩
  have hn400 : n < 400 := by unfold yoeOfDoe at hn; omega
  rw [hn] at hq ⊢
  refine doySpec_of_bounds doe n ?_ ?_
  -- `doe` is not before year `n`: else the numerator would still be below `365 n`
  · rcases n with _ | m
    · exact h0
    · rw [Int.natCast_succ] at hq ⊢
      refine Int.not_lt.1 fun hlt => ?_
      have h2 := yoeNum_mono h0 (Int.le_sub_one_of_lt hlt) (by unfold yearStart; omega)
      have h3 := (yoeNum_year m (by omega)).2
      omega
  -- nor after it: else the numerator would have reached `365 (n + 1)`
  · by_cases hm : n + 1 < 400
    · refine .inl (Int.not_le.1 fun hle => ?_)
      have h2 := yoeNum_mono (by unfold yearStart; omega) hle h1
      have h3 := (yoeNum_year (n + 1) hm).1
      rw [Int.natCast_succ] at h3
      omega
    · exact .inr ⟨by omega, h1⟩

theorem doy_c0 (doe : Int) (j : Nat) (hj : j < 100) (hy : yoeOfDoe doe = j) (h0 : 0 ≤ doe) (h1 : doe ≤ 146096) :
    DoySpec doe j :=
  hy ▸ doy_spec doe h0 h1

theorem doy_c3 (doe : Int) (j : Nat) (hj : j < 100) (hy : yoeOfDoe doe = 300 + j) (h0 : 0 ≤ doe) (h1 : doe ≤ 146096) :
    DoySpec doe (300 + j) :=
  hy ▸ doy_spec doe h0 h1

end Civil
