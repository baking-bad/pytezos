import PytezosModel.Proofs.C14Coll
/-! The reference structure of C14 is a dictionary: lookup after ordered insertion / deletion (on strictly sorted lists). -/
namespace Coll
open Impl.Coll Spec.Coll List

section
variable {κ ν : Type} {eq lt : κ → κ → Bool}

theorem get_cons (e : κ × ν) (es : List (κ × ν)) (k : κ) :
    Map.get eq (e :: es) k = if eq e.1 k then some e.2 else Map.get eq es k := by
  rw [Map.get, find?_cons]; cases eq e.1 k <;> rfl

/-- lookup (`MapType.get`) after ordered insertion, in any list; on sorted lists `findKV` is that lookup (`get_eq`) -/
theorem get_insertKV (h : StrictTotal eq lt) (k k' : κ) (v : ν) : ∀ m : List (κ × ν),
    Map.get eq (insertKV lt k v m) k' = if eq k k' then some v else Map.get eq m k'
  | [] => get_cons (k, v) [] k'
  | e :: es => by
    rw [insertKV]
    rcases h.tri k e.1 with ⟨h1, _⟩ | rfl | ⟨h1, h2⟩
    · rw [if_pos h1]; exact get_cons (k, v) _ k'
    · rw [if_neg (ne_true_of_eq_false (h.irrefl _)), if_neg (ne_true_of_eq_false (h.irrefl _)), get_cons, get_cons]
      show (if eq e.1 k' then some v else _) = _
      cases eq e.1 k' <;> rfl
    · rw [if_neg (ne_true_of_eq_false h2), if_pos h1, get_cons, get_cons, get_insertKV h k k' v es]
      cases hek : eq e.1 k' with
      | false => rfl
      | true => rw [h.eq_false ((h.eq_iff _ _).1 hek ▸ (h.lt_ne h1).symm)]; rfl

theorem find_insertKV_same (h : StrictTotal eq lt) (k : κ) (v : ν) (m : List (κ × ν)) (hs : StrictSorted lt (keys m)) :
    findKV lt k (insertKV lt k v m) = some v := by
  rw [← get_eq h k _ (update_inv h hs k (some v)), get_insertKV h, h.eq_self]; rfl

theorem find_insertKV_other (h : StrictTotal eq lt) (k k' : κ) (v : ν) (hne : k' ≠ k) (m : List (κ × ν))
    (hs : StrictSorted lt (keys m)) : findKV lt k' (insertKV lt k v m) = findKV lt k' m := by
  rw [← get_eq h k' _ (update_inv h hs k (some v)), ← get_eq h k' m hs, get_insertKV h, h.eq_false (Ne.symm hne)]; rfl

/-! deletion: on a sorted map `eraseKV` is the filter `k' != key` and `findKV` the first `k' == key` (`filterKV_eq`, `get_eq`) -/

theorem find_eraseKV_same (h : StrictTotal eq lt) (k : κ) (m : List (κ × ν)) (hs : StrictSorted lt (keys m)) :
    findKV lt k (eraseKV lt k m) = none := by
  rw [← get_eq h k _ (update_inv h hs k none), ← filterKV_eq h k m hs, Map.get, find?_eq_none.2]
  · rfl
  · intro e he hek
    have hn := (mem_filter.1 he).2
    rw [hek] at hn
    cases hn

theorem find_eraseKV_other (h : StrictTotal eq lt) (k k' : κ) (hne : k' ≠ k) (m : List (κ × ν))
    (hs : StrictSorted lt (keys m)) : findKV lt k' (eraseKV lt k m) = findKV lt k' m := by
  have hp : (fun a : κ × ν => decide ((!eq a.1 k) = true ∧ eq a.1 k' = true)) = fun a => eq a.1 k' := by
    funext a
    cases hk' : eq a.1 k' with
    | false => rw [decide_eq_false fun hc => Bool.false_ne_true hc.2]
    | true => rw [h.eq_false ((h.eq_iff _ _).1 hk' ▸ hne)]; rfl
  rw [← get_eq h k' _ (update_inv h hs k none), ← get_eq h k' m hs, ← filterKV_eq h k m hs, Map.get, Map.get,
    find?_filter, hp]

end
end Coll
