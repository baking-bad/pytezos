import PytezosModel.Client.Fees
/-! Length of zarith encodings, the float-guarded divisions, per-content fee bounds of `fill` / `autofill` and their sums
over a batch. -/
namespace Impl.Fees

theorem natLen_eq (n : Nat) : natLen n = if n < 128 then 1 else 1 + natLen (n / 128) := by
  unfold natLen
  rw [Core.forgeNat]
  split <;> simp <;> omega

theorem natLen_zero : natLen 0 = 1 := by rw [natLen_eq]; simp

theorem natLen_pos (n : Nat) : 1 ≤ natLen n := by
  rw [natLen_eq]; split <;> omega

theorem natLen_le (k : Nat) : ∀ n, n < 128 ^ (k + 1) → natLen n ≤ k + 1 := by
  induction k with
  | zero => intro n h; rw [natLen_eq]; simp at h; simp [h]
  | succ k ih =>
    intro n h
    rw [natLen_eq]
    split
    · omega
    · have h2 : n / 128 < 128 ^ (k + 1) := by
        apply Nat.div_lt_of_lt_mul
        rw [Nat.pow_succ] at h
        omega
      have := ih (n / 128) h2
      omega

/-- a mutez amount the node can represent (int64) takes at most 9 bytes -/
theorem natLen_le_nine (n : Nat) (h : n < 2 ^ 63) : natLen n ≤ 9 :=
  natLen_le 8 n (Nat.lt_of_lt_of_le h (by decide))

/-- what the proofs need from the constants read from the source -/
structure Cfg.Sound (k : Cfg) : Prop where
  minimalFees : 100 ≤ k.minimalFees
  mutezPerByte : 1 ≤ k.mutezPerByte
  nanotezPerGas : 100 ≤ k.nanotezPerGas
  divisor : k.divisor = 1000
  reserve : 10 ≤ k.reserve
  feeBranch : 32 ≤ k.feeBranch
  feeSig : 64 ≤ k.feeSig.1 ∧ 96 ≤ k.feeSig.2
  fillFee : k.fillFee = .everyOwnGas
  autoBranch : 32 ≤ k.autoBranch
  autoSig : 64 ≤ k.autoSig.1 ∧ 96 ≤ k.autoSig.2

theorem sigAllow_ge (p : Nat × Nat) (h : 64 ≤ p.1 ∧ 96 ≤ p.2) (src : String) : Spec.Fees.sigLen src ≤ sigAllow p src := by
  unfold Spec.Fees.sigLen sigAllow
  split <;> omega

/-- in nanotez; 109100 = 100000 (the flat 100 mutez) + 10000 (the reserve of 10 mutez) − 900 (the most that the floor of
`100·gas / 1000` loses, `100·gas` being a multiple of 100) -/
theorem calcFee_bound (k : Cfg) (hk : k.Sound) (len extra gas fee : Nat) (h : calcFee k len extra gas = some fee) :
    1000 * (len + extra) + 100 * gas + 109100 ≤ 1000 * fee := by
  unfold calcFee pyTruncDiv at h
  split at h
  · simp at h
    subst h
    have h1 : len + extra ≤ k.mutezPerByte * (len + extra) := Nat.le_mul_of_pos_left _ hk.mutezPerByte
    have h2 : 100 * gas / 1000 ≤ k.nanotezPerGas * gas / k.divisor := by
      rw [hk.divisor]
      exact Nat.div_le_div_right (Nat.mul_le_mul_right gas hk.nanotezPerGas)
    have h3 := hk.minimalFees
    have h4 := hk.reserve
    omega
  · simp at h

/-- `fill` (repaired shape): a content's own fee pays for its final bytes, its gas limit and, on top, for the
branch, the signature and the flat 100 mutez.  133100 = the 109100 of `calcFee_bound` + 32000 (branch) − 8000 (the fee is
computed on the content with `fee = 0`, one byte; the final `fee` field has up to nine) -/
theorem fillOne_bound (k : Cfg) (hk : k.Sound) (env : Env) (n i : Nat) (c : Content) (o : Filled)
    (h : fillOne k env n i c = some o) (hfee : o.fee < 2 ^ 63) :
    1000 * o.len + 100 * o.gas + (133100 + 1000 * Spec.Fees.sigLen env.src) ≤ 1000 * o.fee := by
  unfold fillOne at h
  rw [hk.fillFee] at h
  simp only [Option.bind_eq_bind, Option.bind_eq_some_iff] at h
  obtain ⟨dg, _, ds, _, fee, hc, ho⟩ := h
  simp at ho
  subst ho
  have hb := calcFee_bound k hk _ _ _ _ hc
  have hs := sigAllow_ge k.feeSig hk.feeSig env.src
  have h9 := natLen_le_nine fee hfee
  have hbr := hk.feeBranch
  simp only [Filled.len, natLen_zero] at hb ⊢
  omega

theorem fillGo_length (k : Cfg) (env : Env) (n : Nat) (cs : List Content) :
    ∀ (i : Nat) (out : List Filled), fillGo k env n i cs = some out → out.length = cs.length := by
  induction cs with
  | nil => intro i out h; simp [fillGo] at h; subst h; rfl
  | cons c cs ih =>
    intro i out h
    simp only [fillGo, Option.bind_eq_bind, Option.bind_eq_some_iff] at h
    obtain ⟨o, _, rest, hrest, hout⟩ := h
    simp at hout
    subst hout
    simp [ih (i + 1) rest hrest]

theorem fillGo_bound (k : Cfg) (hk : k.Sound) (env : Env) (n : Nat) (cs : List Content) :
    ∀ (i : Nat) (out : List Filled), fillGo k env n i cs = some out → (∀ o ∈ out, o.fee < 2 ^ 63) →
      1000 * totalLen out + 100 * totalGas out + out.length * (133100 + 1000 * Spec.Fees.sigLen env.src) ≤ 1000 * totalFee out := by
  induction cs with
  | nil => intro i out h _; simp [fillGo] at h; subst h; simp [totalLen, totalGas, totalFee]
  | cons c cs ih =>
    intro i out h hfee
    simp only [fillGo, Option.bind_eq_bind, Option.bind_eq_some_iff] at h
    obtain ⟨o, ho, rest, hrest, hout⟩ := h
    simp at hout
    subst hout
    have h1 := fillOne_bound k hk env n i c o ho (hfee o (by simp))
    have h2 := ih (i + 1) rest hrest (fun o' ho' => hfee o' (by simp [ho']))
    simp only [totalLen, totalGas, totalFee, List.length_cons, Nat.add_mul, Nat.one_mul]
    omega

theorem fillWith_length (k : Cfg) (env : Env) (cs : List Content) (out : List Filled)
    (h : fillWith k env cs = some out) : out.length = cs.length ∧ 0 < cs.length := by
  unfold fillWith at h
  split at h
  · simp at h
  · exact ⟨fillGo_length k env _ cs 0 out h, by omega⟩

theorem fillWith_accepts (k : Cfg) (hk : k.Sound) (env : Env) (cs : List Content) (out : List Filled)
    (h : fillWith k env cs = some out) (hfee : ∀ o ∈ out, o.fee < 2 ^ 63) :
    Spec.Fees.accepts (totalFee out) (Spec.Fees.signedSize env.src out) (totalGas out) := by
  unfold fillWith at h
  split at h
  · simp at h
  · rename_i hne
    have hb := fillGo_bound k hk env _ cs 0 out h hfee
    have hpos : 0 < out.length := by rw [fillGo_length k env _ cs 0 out h]; omega
    have hm : (133100 + 1000 * Spec.Fees.sigLen env.src) ≤ out.length * (133100 + 1000 * Spec.Fees.sigLen env.src) :=
      Nat.le_mul_of_pos_left _ hpos
    unfold Spec.Fees.accepts Spec.Fees.signedSize
    omega

theorem autoOne_bound (k : Cfg) (hk : k.Sound) (env : Env) (n : Nat) (f : Filled) (kind : String) (sim : List SimRes)
    (o : Filled) (fee : Nat) (h : autoOne k env n f kind sim = some (o, fee)) :
    o.fee = 0 ∧
    1000 * o.len + 100 * o.gas + 109100 + 1000 * ((32 + Spec.Fees.sigLen env.src) / n) ≤ 1000 * fee := by
  unfold autoOne at h
  simp only [Option.bind_eq_bind, Option.bind_eq_some_iff] at h
  obtain ⟨g0, _, fee', hc, ho⟩ := h
  simp at ho
  obtain ⟨ho, hf⟩ := ho
  subst ho hf
  have hb := calcFee_bound k hk _ _ _ _ hc
  have hs := sigAllow_ge k.autoSig hk.autoSig env.src
  have hd : (32 + Spec.Fees.sigLen env.src) / n ≤ (k.autoBranch + sigAllow k.autoSig env.src) / n :=
    Nat.div_le_div_right (by have := hk.autoBranch; omega)
  refine ⟨rfl, ?_⟩
  simp only [Filled.len] at hb ⊢
  omega

theorem autoGo_bound (k : Cfg) (hk : k.Sound) (env : Env) (n : Nat) (l : List (Filled × String × List SimRes)) :
    ∀ (os : List Filled) (acc : Nat), autoGo k env n l = some (os, acc) →
      os.length = l.length ∧ (∀ o ∈ os, o.fee = 0) ∧
      1000 * totalLen os + 100 * totalGas os + os.length * (109100 + 1000 * ((32 + Spec.Fees.sigLen env.src) / n))
        ≤ 1000 * acc := by
  induction l with
  | nil => intro os acc h; simp [autoGo] at h; obtain ⟨h1, h2⟩ := h; subst h1 h2; simp [totalLen, totalGas]
  | cons x l ih =>
    intro os acc h
    obtain ⟨f, kind, sim⟩ := x
    simp only [autoGo, Option.bind_eq_bind, Option.bind_eq_some_iff] at h
    obtain ⟨⟨o, fee⟩, ho, ⟨os', acc'⟩, hrest, hout⟩ := h
    simp at hout
    obtain ⟨h1, h2⟩ := hout
    subst h1 h2
    have ⟨hz, hb⟩ := autoOne_bound k hk env n f kind sim o fee ho
    have ⟨hl, hz', hb'⟩ := ih os' acc' hrest
    refine ⟨by simp [hl], ?_, ?_⟩
    · intro o' ho'
      simp at ho'
      rcases ho' with rfl | ho'
      · exact hz
      · exact hz' o' ho'
    · generalize (32 + Spec.Fees.sigLen env.src) / n = X at *
      simp only [totalLen, totalGas, List.length_cons, Nat.add_mul, Nat.one_mul]
      omega

theorem totalFee_zero (os : List Filled) (h : ∀ o ∈ os, o.fee = 0) : totalFee os = 0 := by
  induction os with
  | nil => rfl
  | cons o os ih =>
    simp only [totalFee]
    have := h o (by simp)
    have := ih (fun o' ho' => h o' (by simp [ho']))
    omega

theorem setFirstFee_totals (os : List Filled) (acc : Nat) (hz : ∀ o ∈ os, o.fee = 0) (hne : 0 < os.length) :
    totalFee (setFirstFee os acc) = acc ∧ totalGas (setFirstFee os acc) = totalGas os ∧
    totalLen (setFirstFee os acc) + 1 = totalLen os + natLen acc := by
  cases os with
  | nil => simp at hne
  | cons o os =>
    have h0 := hz o (by simp)
    have hr := totalFee_zero os (fun o' ho' => hz o' (by simp [ho']))
    by_cases hacc : acc = 0
    · subst hacc
      refine ⟨?_, ?_, ?_⟩ <;> simp only [setFirstFee, if_true, totalFee, totalGas, totalLen, natLen_zero] <;> omega
    · refine ⟨?_, ?_, ?_⟩ <;>
        simp only [setFirstFee, hacc, if_false, totalFee, totalGas, totalLen, Filled.len, h0, natLen_zero] <;> omega

theorem zip3_length (fs : List Filled) : ∀ (cs : List Content) (ss : List (List SimRes)),
    fs.length = cs.length → ss.length = cs.length → (zip3 fs cs ss).length = cs.length := by
  induction fs with
  | nil => intro cs ss h1 _; cases cs <;> simp_all [zip3]
  | cons f fs ih =>
    intro cs ss h1 h2
    cases cs with
    | nil => simp at h1
    | cons c cs =>
      cases ss with
      | nil => simp at h2
      | cons s ss =>
        simp only [zip3, List.length_cons] at h1 h2 ⊢
        rw [ih cs ss (by omega) (by omega)]

theorem autofillWith_accepts (k : Cfg) (hk : k.Sound) (env : Env) (cs : List Content) (sims : List (List SimRes))
    (out : List Filled) (h : autofillWith k env cs sims = some out) (hfee : totalFee out < 2 ^ 63) :
    Spec.Fees.accepts (totalFee out) (Spec.Fees.signedSize env.src out) (totalGas out) := by
  unfold autofillWith at h
  simp only [Option.bind_eq_bind, Option.bind_eq_some_iff] at h
  obtain ⟨filled, hf, h⟩ := h
  split at h
  · simp at h
  · rename_i hs
    simp only [Option.bind_eq_some_iff] at h
    obtain ⟨⟨os, acc⟩, hgo, hout⟩ := h
    simp at hout
    subst hout
    have ⟨hfl, hpos⟩ := fillWith_length k env cs filled hf
    have hs' : sims.length = cs.length := by simpa using hs
    have hz3 := zip3_length filled cs sims hfl hs'
    have ⟨hl, hz, hb⟩ := autoGo_bound k hk env cs.length _ os acc hgo
    rw [hz3] at hl
    have ⟨t1, t2, t3⟩ := setFirstFee_totals os acc hz (by omega)
    rw [t1] at hfee
    have h9 := natLen_le_nine acc hfee
    unfold Spec.Fees.accepts Spec.Fees.signedSize
    rw [t1, t2]
    rw [hl, Nat.mul_add, Nat.mul_left_comm] at hb
    -- with `n = cs.length`: `n * ((32 + sig) / n) ≥ 32 + sig - (n - 1)`; the up to `n - 1` bytes the floors lose and the up to
    -- 8 bytes by which the `fee` field of the first content grows are paid from the 9100 nanotez each content has to spare
    have hdm := Nat.div_add_mod (32 + Spec.Fees.sigLen env.src) cs.length
    have hml := Nat.mod_lt (32 + Spec.Fees.sigLen env.src) hpos
    generalize (32 + Spec.Fees.sigLen env.src) / cs.length = d at *
    generalize cs.length * d = nd at *
    omega

end Impl.Fees
