import PytezosModel.Michelson.Interp.Spec
/-! Facts about the reference semantics alone (`Spec.step`, `Spec.eval`, `Res`) that both the refinement proofs and the
typing proofs use: neither side has to import the other for them. -/
namespace Interp

theorem rbind_eq_ok {α β : Type} {r : Res α} {f : α → Res β} {y : β} (h : r.bind f = .ok y) :
    ∃ x, r = .ok x ∧ f x = .ok y := by
  cases r with
  | ok x => exact ⟨x, rfl, h⟩
  | _ => cases h

/-- a guarded rule answers `ok` only where its guard holds -/
theorem rguard_eq_ok {α : Type} {c : Prop} [Decidable c] {x y : α} (h : (if c then Res.ok x else .stuck) = .ok y) :
    c ∧ x = y := by
  split at h <;> cases h
  exact ⟨‹c›, rfl⟩

theorem arith_operands (env : Env) (i : Instr) (st : List Val) (hi : i = .ADD ∨ i = .SUB ∨ i = .MUL)
    (hr : Spec.step env i st ≠ .stuck) : ∃ ta x tb y s, st = .num ta x :: .num tb y :: s := by
  rcases hi with rfl | rfl | rfl
  all_goals
    rcases st with _ | ⟨a, _ | ⟨b, st⟩⟩
    · exact absurd rfl hr
    · exact absurd (by cases a <;> rfl) hr
    cases a <;> first | exact absurd rfl hr | skip
    cases b <;> first | exact absurd rfl hr | skip
    exact ⟨_, _, _, _, _, rfl⟩

/-- instructions with sub-programs (handled by `exec`/`eval` themselves) -/
def isControl : Instr → Bool
  | .seq _ | .DIP _ | .DIPN _ _ | .IF _ _ | .IF_NONE _ _ | .IF_LEFT _ _ | .IF_CONS _ _
  | .LOOP _ | .LOOP_LEFT _ | .ITER _ | .MAP _ | .EXEC => true
  | _ => false

theorem spec_eval_simple (g : Bool) (env : Env) (f : Nat) (i : Instr) (h : isControl i = false) (st : List Val) :
    Spec.eval g env (f + 1) i st = Spec.step env i st := by
  cases i <;> first | rfl | cases h

theorem step_control (env : Env) (i : Instr) (st : List Val) (h : ¬ isControl i = false) : Spec.step env i st = .stuck := by
  cases i <;> first | exact absurd rfl h | (cases st <;> rfl)

end Interp
