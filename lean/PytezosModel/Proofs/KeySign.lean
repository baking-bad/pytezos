import PytezosModel.Proofs.KeyLemmas
/-! Lemmas about the mirror of `Key.sign` / `Key.verify` (used by Props/C07 and Props/C23). -/
namespace Impl.Key

/-- both functions hand the same thing to the primitive: the Blake2b-256 digest, except for BLS -/
theorem payloadKinds (c : Curve) :
    ∃ dg, signPayloadKind c = some dg ∧ verifyPayloadKind c = some dg ∧
      ∀ (P : Prims) m, payload P dg m = if c = .bl then m else P.blake2b 32 m := by
  cases c <;> exact ⟨_, rfl, rfl, fun _ _ => rfl⟩

/-- the accepting run of `Key.verify` does not depend on which way this flag is, only on the translator having read the
P256 branch: so `sign_verify_core` holds on a tree that lets `EcdsaError` escape too (`catches_true`, in `KeyCheck`, is for the
rejecting runs) -/
theorem catches_some : ∃ b, Generated.C07.verifyP256CatchesRangeError = some b := ⟨_, rfl⟩

/-- first row of the signature kinds with a given human prefix -/
def sigRowOf (pfx : Bytes) : Option Row := sigRows.find? fun r => r.human == pfx

theorem sigRowOf_mem (pfx : Bytes) (r : Row) (h : sigRowOf pfx = some r) : r ∈ sigRows ∧ r.human = pfx := by
  unfold sigRowOf at h
  refine ⟨List.mem_of_find?_eq_some h, ?_⟩
  have := List.find?_some h
  simpa using this

/-- the prefix `Key.sign` chooses names a signature kind whose payload length is the length of the raw
signature of that curve: `sig` or `<curve>sig`.  (On a tree where a BLS key is given the 64-byte generic
kind this does not evaluate to `rfl` and the obligation is open.) -/
theorem signPrefix_row (c : Curve) (g : Bool) :
    ∃ pfx r, signPrefix c g = some pfx ∧ sigRowOf pfx = some r ∧ r.dataLen = sigLen c ∧
      (pfx = sigTag ∨ pfx = c.tag ++ sigTag) ∧ (g = false → pfx = c.tag ++ sigTag) := by
  cases c <;> cases g <;> exact ⟨_, _, rfl, rfl, rfl, by decide, by decide⟩

/-- the test `Key.verify` makes before decoding: the text is generic (`sig…`) or carries the key's curve tag -/
theorem precheck_iff (c : Curve) (s : Str) :
    (s.take 3 != sigTag && c.tag != s.take 2) = false ↔ (s.take 3 = sigTag ∨ s.take 2 = c.tag) := by
  rw [Bool.and_eq_false_iff, bne_eq_false_iff_eq, bne_eq_false_iff_eq, @eq_comm _ c.tag]

theorem precheck_passes (c : Curve) (pfx s : Str) (h : pfx = sigTag ∨ pfx = c.tag ++ sigTag) (hp : pfx <+: s) :
    s.take 3 = sigTag ∨ s.take 2 = c.tag := by
  obtain ⟨t, rfl⟩ := hp
  rcases h with rfl | rfl
  · exact .inl rfl
  · exact .inr (by cases c <;> rfl)

theorem precheck_fails (c c' : Curve) (hne : c ≠ c') (s : Str) (hp : (c'.tag ++ sigTag) <+: s) :
    (s.take 3 != sigTag && c.tag != s.take 2) = true := by
  obtain ⟨t, rfl⟩ := hp
  -- the tag of `c'` is not that of `c`; by the clauses of `Curve.tag` for `c'` alone
  have hc : c.tag ≠ c'.tag := fun h => hne (Option.some.inj (c.ofTag_tag.symm.trans (h ▸ c'.ofTag_tag)))
  cases c' <;> exact Bool.and_eq_true_iff.2 ⟨rfl, bne_iff_ne.2 hc⟩

theorem verify_accepts (P : Prims) (C : Codec) (k : Key) (sig msg : PyIn) (es em raw : Bytes)
    (hs : scrub sig = .ok es) (hm : scrub msg = .ok em) (hpub : k.pub ≠ [])
    (hpre : es.take 3 = sigTag ∨ es.take 2 = k.curve.tag) (hdec : C.decode es = some raw)
    (hacc : P.verify k.curve k.pub (if k.curve = .bl then em else P.blake2b 32 em) raw = .accept) :
    verify P C k sig msg = .ok true := by
  obtain ⟨b, hb⟩ := catches_some
  obtain ⟨dg, _, hdg, hpay⟩ := payloadKinds k.curve
  simp [verify, hs, hm, List.isEmpty_eq_false_iff.mpr hpub, (precheck_iff _ _).mpr hpre, hdec, hdg, hb, hpay, hacc]

/-- what `Key.sign` answers for the scrubbed message `m` — the text `s` with prefix `pfx`, encoding the raw signature `raw` —
and how `Key.verify` reads it back -/
structure Signed (P : Prims) (C : Codec) (k : Key) (msg : PyIn) (m : Bytes) (generic : Bool) (s pfx : Str) (raw : Bytes) :
    Prop where
  signs : sign P C k msg generic = .ok s
  verifies : verify P C k (.str s) msg = .ok true
  starts : pfx <+: s
  form : pfx = sigTag ∨ pfx = k.curve.tag ++ sigTag
  specific : generic = false → pfx = k.curve.tag ++ sigTag
  scrubs : scrub (.str s) = .ok s
  decodes : C.decode s = some raw
  length : raw.length = sigLen k.curve
  primitive : ∃ sk, k.sec = some sk ∧ P.sign k.curve sk (if k.curve = .bl then m else P.blake2b 32 m) = some raw

/-- sign then verify, for every valid key, message and form (the body of `C07.sign_verify`, shared with C23) -/
theorem sign_verify_core (P : Prims) (C : Codec) (L : Laws P) (CL : CodecLaws C sigRows)
    (k : Key) (hk : ValidKey P k) (msg : PyIn) (m : Bytes) (hm : scrub msg = .ok m) (generic : Bool) :
    ∃ s pfx raw, Signed P C k msg m generic s pfx raw := by
  obtain ⟨sk, hsec, hne, hkp⟩ := hk
  obtain ⟨dg, hsdg, hvdg, hpay⟩ := payloadKinds k.curve
  obtain ⟨pfx, r, hpfx, hrow, hlen, hform, hspec⟩ := signPrefix_row k.curve generic
  obtain ⟨hr, hhuman⟩ := sigRowOf_mem pfx r hrow
  obtain ⟨raw, hsign, hacc⟩ := L.sign_verify k.curve k.pub sk hkp (payload P dg m)
  obtain ⟨hrl, hrb⟩ := L.sign_len k.curve sk _ raw hsign
  obtain ⟨s, henc, hdec, _, hpre, hascii⟩ := CL.enc_dec r hr raw (by rw [hrl, hlen]) hrb
  have hs : scrub (.str s) = .ok s := scrub_row_text r (List.mem_append_left _ hr) s hpre hascii
  rw [hhuman] at henc hpre
  refine ⟨s, pfx, raw, ?_, ?_, hpre, hform, hspec, hs, hdec, hrl, sk, hsec, by rw [← hpay]; exact hsign⟩
  · simp [sign, hm, hsec, List.isEmpty_eq_false_iff.mpr hne, hsdg, hpfx, hsign, henc]
  · have hpub : k.pub ≠ [] := by
      have := (L.pk_len k.curve k.pub sk hkp).1
      intro h0; rw [h0] at this; cases hc : k.curve <;> simp [hc, pkLen] at this
    exact verify_accepts P C k _ _ s m raw hs hm hpub (precheck_passes k.curve pfx s hform hpre) hdec (hpay P m ▸ hacc)

end Impl.Key
