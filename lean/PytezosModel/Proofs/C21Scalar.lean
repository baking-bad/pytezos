import PytezosModel.Proofs.C21Impl
/-! C21 helper lemmas: integer scalars and their canonical representatives, and the entry points `ADD`, `MUL`, …
of `PytezosModel.Michelson.Bls` unfolded for the source the translator read (`src_eq`). -/
namespace Bls
open Core Generated.C21

/-- the source currently anchored has exactly the shape the lemmas of `C21Impl` are proved for
(re-checked against the regenerated `Generated.C21` on every build) -/
theorem src_eq : src = some expectedSrc := by decide +kernel

/-- canonical representative of an integer scalar: the value `PUSH bls12_381_fr z` leaves on the stack -/
def sc (z : Int) : Nat := (z % (r : Int)).toNat

theorem sc_cast (z : Int) : ((sc z : Nat) : Int) = z % (r : Int) := by
  have : 0 ≤ z % (r : Int) := Int.emod_nonneg _ (by decide)
  simp [sc, Int.toNat_of_nonneg this]

theorem sc_lt (z : Int) : sc z < r := by
  have h1 : z % (r : Int) < (r : Int) := Int.emod_lt_of_pos _ (by decide)
  have h2 := sc_cast z
  omega

theorem sc_add (z w : Int) : sc (z + w) = (sc z + sc w) % r := by
  have : ((sc (z + w) : Nat) : Int) = (((sc z + sc w) % r : Nat) : Int) := by
    rw [sc_cast, Int.natCast_emod, Int.natCast_add, sc_cast, sc_cast, ← Int.add_emod]
  exact Int.ofNat.inj this

theorem sc_mul (z w : Int) : sc (z * w) = (sc z * sc w) % r := by
  have : ((sc (z * w) : Nat) : Int) = (((sc z * sc w) % r : Nat) : Int) := by
    rw [sc_cast, Int.natCast_emod, Int.natCast_mul, sc_cast, sc_cast, ← Int.mul_emod]
  exact Int.ofNat.inj this

theorem sc_nat (k : Nat) : sc (k : Int) = k % r := by
  have : ((sc (k : Int) : Nat) : Int) = ((k % r : Nat) : Int) := by
    rw [sc_cast, Int.natCast_emod]
  exact Int.ofNat.inj this

theorem sc_neg_one : sc (-1) = r - 1 := by decide +kernel

theorem sc_congr (z w : Int) (h : z % (r : Int) = w % (r : Int)) : sc z = sc w := by
  simp [sc, h]

@[simp] theorem map_ok {α β : Type} (f : α → β) (a : α) : Except.map f (Except.ok a : R α) = .ok (f a) := rfl
@[simp] theorem map_error {α β : Type} (f : α → β) (e : Err) : Except.map f (Except.error e : R α) = .error e := rfl

/-- decidable equality of results (for the closed `example`s) -/
instance decEqR {α : Type} [DecidableEq α] : DecidableEq (R α) := fun a b =>
  match a, b with
  | .ok x, .ok y => if h : x = y then isTrue (by rw [h]) else isFalse (fun e => h (Except.ok.inj e))
  | .error x, .error y => if h : x = y then isTrue (by rw [h]) else isFalse (fun e => h (Except.error.inj e))
  | .ok _, .error _ => isFalse (fun e => by cases e)
  | .error _, .ok _ => isFalse (fun e => by cases e)

variable (E : Env)

theorem withSrc_eq {α : Type} (f : Src → R α) : withSrc f = f expectedSrc := by simp only [withSrc, src_eq]

theorem ADD_eq (a b : Val) : ADD E a b = Impl.add expectedSrc E a b := withSrc_eq _
theorem MUL_eq (a b : Val) : MUL E a b = Impl.mul expectedSrc E a b := withSrc_eq _
theorem NEG_eq (a : Val) : NEG E a = Impl.neg expectedSrc E a := withSrc_eq _
theorem INT_eq (a : Val) : INT a = Impl.int a := withSrc_eq _
theorem PAIRING_CHECK_eq (ps : List (Bytes × Bytes)) : PAIRING_CHECK E ps = .ok (Impl.pairingCheck expectedSrc E ps) :=
  withSrc_eq _
theorem enc1_eq (P : E.K1.G) : enc1 E P = ofOpt .value (fromPoint E.K1 L1 P) := withSrc_eq _
theorem enc2_eq (P : E.K2.G) : enc2 E P = ofOpt .value (fromPoint E.K2 L2 P) := withSrc_eq _
theorem enc1_ok (h1 : CurveLaws E.K1 2) (P : E.K1.G) : enc1 E P = .ok (encode E.K1 L1 P) := by
  rw [enc1_eq, (fromPoint_toPoint E.K1 2 h1 L1 L1_good P).1]; rfl
theorem enc2_ok (h2 : CurveLaws E.K2 4) (P : E.K2.G) : enc2 E P = .ok (encode E.K2 L2 P) := by
  rw [enc2_eq, (fromPoint_toPoint E.K2 4 h2 L2 L2_good P).1]; rfl
theorem dec1_eq (b : Bytes) : dec1 E b = .ok (toPoint E.K1 L1 b) := withSrc_eq _
theorem dec2_eq (b : Bytes) : dec2 E b = .ok (toPoint E.K2 L2 b) := withSrc_eq _
theorem frBytes_eq (a : Val) : frBytes a = Impl.frToBytes expectedSrc a := withSrc_eq _

/-- The residue is written as the cast of the natural number `sc z`: `mul_pt` wants the scalar operand in the form
`(k : Int)`, and `C21.mul_spec_g1 / _g2` get their `k = sc z` by unifying with this. -/
theorem pushFrInt_eq (z : Int) : pushFrInt z = .ok (.num .fr (sc z : Int)) := by
  rw [sc_cast]
  exact withSrc_eq _

theorem pushFrBytes_eq (bs : Bytes) (h : bs.length ≤ 32) : pushFrBytes bs = pushFrInt (leToNat bs : Int) := by
  rw [pushFrInt_eq, sc_cast]
  exact (withSrc_eq _).trans (if_pos h)

theorem pushFrBytes_long (bs : Bytes) (h : 32 < bs.length) : pushFrBytes bs = .error .value :=
  (withSrc_eq _).trans (if_neg (Nat.not_le.2 h))

end Bls
