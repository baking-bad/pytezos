import PytezosModel.Client.OpForge
import PytezosModel.Proofs.Bytes
import PytezosModel.Proofs.Zarith
import PytezosModel.Proofs.MichelineRT
import PytezosModel.Proofs.MichelineStrict
/-! C06, part 1: the Tezos schema on its own.  What the canonical writer `Spec.Op.writeC` writes for a well-formed value of
a schema codec, the canonical reader `Spec.Op.decodeC` reads back, leaving exactly the bytes that followed.  Nothing read
from the Python source occurs here. -/
namespace C06Proofs
open Core OpLayout Impl.OpForge Spec.Op
open Generated.C06 (Codec Cond Field)

theorem takeN_append (h rest : Bytes) (n : Nat) (hl : h.length = n) : takeN n (h ++ rest) = some (h, rest) := by
  subst hl
  simp [takeN]

theorem decodeN_forgeNat (n : Nat) (rest : Bytes) : decodeN (forgeNat n ++ rest) = some (n, rest) := by
  rw [forgeNat]
  split
  · rename_i h
    simp [decodeN, h]
  · rename_i h
    have hs := unforgeNatStrict_forgeNat true (n / 128) (fun _ => by omega) rest
    have h1 : ¬ (n % 128 + 128 < 128) := by omega
    simp only [List.cons_append, decodeN, h1, if_false, hs, Option.map_some]
    congr 2
    omega

theorem find?_row {α κ : Type} [BEq κ] [LawfulBEq κ] {l : List α} {key : α → κ} {k : κ} {r : α}
    (h : l.find? (key · == k) = some r) : r ∈ l ∧ key r = k :=
  ⟨List.mem_of_find?_eq_some h, eq_of_beq (List.find?_some (p := fun x => key x == k) h)⟩

/-- in each table of the schema the reader finds a row again by its tag; an originated contract is not tagged 0, a reserved
entrypoint not 0xff -/
theorem tag_rows :
    (∀ r ∈ pkhPrefixes, assocN pkhPrefixes r.1 = some r.2) ∧
    (∀ r ∈ originatedPrefixes, assocN originatedPrefixes r.1 = some r.2 ∧ r.1 ≠ 0) ∧
    (∀ r ∈ publicKeys, assocN publicKeys r.1 = some r.2) ∧
    (∀ r ∈ reservedEntrypoints, reservedEntrypoints.find? (·.2.2 == r.2.2) = some r ∧ r.2.2 ≠ 255) := by
  decide +kernel

theorem rt_pkh (p : String) (h : Bytes) (hl : h.length = 20) (bs : Bytes) (he : writePkh p h = some bs) (rest : Bytes) :
    decodePkh (bs ++ rest) = some (.addr p h, rest) := by
  obtain ⟨r, hf, rfl⟩ := Option.map_eq_some_iff.mp he
  obtain ⟨hr, rfl⟩ := find?_row hf
  simp [decodePkh, tag_rows.1 r hr, takeN_append h rest 20 hl]

theorem rt_addr (p : String) (h : Bytes) (hl : h.length = 20) (bs : Bytes) (he : writeAddr p h = some bs) (rest : Bytes) :
    decodeAddr (bs ++ rest) = some (.addr p h, rest) := by
  unfold writeAddr at he
  split at he
  · cases he
    -- after the tag 0 the reader goes on as for a key hash
    exact rt_pkh p h hl _ (by rw [writePkh, ‹pkhPrefixes.find? _ = _›]; rfl) rest
  · obtain ⟨r, hf, rfl⟩ := Option.map_eq_some_iff.mp he
    obtain ⟨hr, rfl⟩ := find?_row hf
    obtain ⟨h1, h2⟩ := tag_rows.2.1 r hr
    simp [decodeAddr, h1, h2, takeN_append h (0 :: rest) 20 hl]

/-- no prefix occurs twice, in or across the two address tables or among the keys -/
theorem prefix_rows :
    (∀ r ∈ pkhPrefixes, pkhPrefixes.find? (·.2 == r.2) = some r) ∧
    (∀ r ∈ originatedPrefixes, pkhPrefixes.find? (·.2 == r.2) = none ∧ originatedPrefixes.find? (·.2 == r.2) = some r) ∧
    (∀ r ∈ publicKeys, publicKeys.find? (·.2.1 == r.2.1) = some r) := by
  decide +kernel

theorem rt_pubkey (p : String) (k : Bytes) (hw : WFVal .pubkey (.pubkey p k) = true) (bs : Bytes)
    (he : writePubkey p k = some bs) (rest : Bytes) : decodePubkey (bs ++ rest) = some (.pubkey p k, rest) := by
  simp only [WFVal, Bool.and_eq_true, List.any_eq_true, beq_iff_eq] at hw
  obtain ⟨r, hr, rfl, hlen⟩ := hw
  simp only [writePubkey, prefix_rows.2.2 r hr, Option.map_some, Option.some.injEq] at he
  subst he
  simp [decodePubkey, tag_rows.2.2.1 r hr, takeN_append k rest r.2.2 hlen.symm]

theorem rt_entrypoint (n : Bytes) (hw : WFVal .entrypoint (.ep n) = true) (bs : Bytes) (he : writeEntrypoint n = some bs)
    (rest : Bytes) : decodeEntrypoint (bs ++ rest) = some (.ep n, rest) := by
  simp only [WFVal, Bool.and_eq_true, decide_eq_true_eq] at hw
  unfold writeEntrypoint at he
  split at he
  · rename_i r hf
    cases he
    obtain ⟨hr, rfl⟩ := find?_row hf
    simp [decodeEntrypoint, tag_rows.2.2.2 r hr]
  · rename_i hf
    have hres : isReservedName n = false := by
      simp only [isReservedName, List.any_eq_false]
      exact fun x hx => by simpa using List.find?_eq_none.mp hf x hx
    have h0 : ¬ (n.length = 0) := by omega
    have h31 : ¬ (n.length > 31) := by omega
    split at he
    · cases he
      simp [decodeEntrypoint, h0, h31, takeN_append n rest n.length rfl, hres]
    · cases he

/-- the fuel that is needed is the length of the buffer: every item takes four bytes of it at least -/
theorem decodeItems_forgeItems : ∀ (xs : List Bytes) (body : Bytes), forgeItems xs = some body →
    ∀ fuel, body.length ≤ fuel → decodeItems fuel body = some xs
  | [], body, h, fuel, _ => by
    cases h
    unfold decodeItems
    simp
  | x :: xs, body, h, fuel, hf => by
    simp only [forgeItems, Option.bind_eq_bind, Option.bind_eq_some_iff, Option.pure_def, Option.some.injEq] at h
    obtain ⟨a, ha, b, hb, rfl⟩ := h
    have hlen := forgeArray_length 4 x a ha
    simp only [List.length_append] at hf
    obtain ⟨f, rfl⟩ : ∃ f, fuel = f + 1 := ⟨fuel - 1, by omega⟩
    have hne : ¬ ((a ++ b).length = 0) := by simp only [List.length_append]; omega
    unfold decodeItems
    simp only [hne, if_false, unforgeArray_forgeArray 4 x a b ha, decodeItems_forgeItems xs b hb f (by omega), Option.map_some]

theorem rt_writeC (c : SCodec) (v : Val) (hw : WFVal c v = true) (bs : Bytes) (he : writeC c v = some bs) (rest : Bytes) :
    decodeC c (bs ++ rest) = some (v, rest) := by
  -- by the clauses of `WFVal`, not the 11 × 7 combinations: `caseN` is its N-th clause, 12 the catch-all
  revert hw
  fun_cases WFVal c v <;> intro hw
  case case12 => exact Bool.noConfusion hw
  case case1 n =>
    cases he
    simp [decodeC, decodeN_forgeNat]
  case case2 k b =>
    obtain rfl : b = bs := Option.some.inj he
    simp only [beq_iff_eq] at hw
    simp [decodeC, takeN_append b rest k hw]
  case case3 p h =>
    simp only [Bool.and_eq_true, beq_iff_eq] at hw
    exact rt_pkh p h hw.2 bs he rest
  case case4 p h =>
    simp only [Bool.and_eq_true, beq_iff_eq] at hw
    exact rt_addr p h hw.2 bs he rest
  case case5 p k => exact rt_pubkey p k hw bs he rest
  case case6 b =>
    simp only [writeC] at he
    simp [decodeC, unforgeArray_forgeArray 4 b bs rest he]
  case case7 k b =>
    simp only [writeC] at he
    simp only [beq_iff_eq] at hw
    simp [decodeC, unforgeArray_forgeArray 4 b bs rest he, hw]
  case case8 k b =>
    simp only [writeC] at he
    simp only [decide_eq_true_eq] at hw
    simp [decodeC, unforgeArray_forgeArray 4 b bs rest he, hw]
  case case9 e =>
    obtain ⟨fb, hfb, harr⟩ := Option.bind_eq_some_iff.mp he
    simp [decodeC, unforgeArray_forgeArray 4 fb bs rest harr, Impl.Forge.decode_forge Impl.Lower.known e hw fb hfb]
  case case10 n => exact rt_entrypoint n hw bs he rest
  case case11 xs =>
    obtain ⟨body, hb, harr⟩ := Option.bind_eq_some_iff.mp he
    simp [decodeC, unforgeArray_forgeArray 4 body bs rest harr, decodeItems_forgeItems xs body hb body.length (Nat.le_refl _)]

end C06Proofs
