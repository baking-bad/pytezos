import PytezosModel.Proofs.Encoding
/-! What both C09 and C10 need about the tree's own table and `base58_encode`: the closed facts over all pairs of rows
(one kernel evaluation) and the recognised encoder as a table search.  Kept apart from `Proofs/Encoding.lean` so that files
which reason about single rows only do not depend on it. -/
namespace Impl.Encoding

theorem table_pairs_ok : pairsOk table = true := by decide +kernel

theorem table_rows_disjoint : ∀ a ∈ table, ∀ b ∈ table, rowsDisjoint a b = true :=
  (pairsOk_spec table_pairs_ok).1

theorem table_rows_encode_distinct : ∀ a ∈ table, ∀ b ∈ table, rowsEncodeDistinct a b = true :=
  (pairsOk_spec table_pairs_ok).2

/-- the translator recognised `base58_decode` with both validations, so the mirror is the table function (the closed
flags evaluate) -/
theorem base58Decode_eq (cks : List Nat → List Nat) (s : List Nat) :
    base58Decode cks s = decodeWith table true true cks s := rfl

/-- … and `base58_encode`, so the mirror is the search of the regenerated table -/
theorem base58Encode_ok_iff (cks : List Nat → List Nat) (v p s : List Nat) :
    base58Encode cks v p = .ok s ↔ ∃ r, findEncodeRow table v.length p = some r ∧ s = encOf cks r v :=
  encodeWith_ok_iff table cks v p s

end Impl.Encoding
