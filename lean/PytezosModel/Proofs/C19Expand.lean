import PytezosModel.Proofs.C19Dispatch
import PytezosModel.Proofs.StrTable
/-! C19 helper lemmas: one step of `expand`, the evaluation of the building blocks of expansions, the handlers as a table
(`rows`), and the three families whose handlers call `expand_macro` on a shorter name (`C…R`, `SET_C…R`, `MAP_C…R`). -/
namespace C19.Expand
open Impl.Macros Generated.C19 Spec Sem C19.Dispatch

def tags : List (List Char) := primTags.getD []
theorem primTags_eq : primTags = some tags := rfl

def firstChar (h : Handler) : Option Char :=
  match h.pat with
  | some ⟨.lit (c :: _) :: _, _⟩ => some c
  | _ => none

theorem head_of_match {h : Handler} {c : Char} (hc : firstChar h = some c) {s g : List Char}
    (hm : matchOf h s = some g) : s.head? = some c := by
  unfold firstChar at hc
  split at hc
  · rename_i c' l as grp hp
    cases hc
    rw [matchOf, hp] at hm
    cases s with
    | nil => simp [findall, matchAtoms, List.isPrefixOf] at hm
    | cons x xs =>
      by_cases hx : c = x
      · rw [hx]; rfl
      · simp [findall, matchAtoms, List.isPrefixOf, hx] at hm
  · cases hc

/-- no key of `prim_tags` is matched by a regex of the macro table: every regex begins with a letter, and fails on the keys
that begin with that letter -/
theorem tags_miss : handlers.all (fun h => match firstChar h with
    | some c => (tags.filter (·.head? == some c)).all fun s => (matchOf h s).isNone
    | none => false) = true := by decide +kernel

theorem not_tag_of_sends {s : List Char} {f : String} {g : List Char} (hd : Sends s f g) :
    tags.contains s = false := by
  obtain ⟨h, hd, _, _⟩ := hd
  obtain ⟨hh, hm⟩ := dispatch_inv handlers_ok hd
  have hmiss := List.all_eq_true.mp tags_miss h hh
  cases hc : firstChar h with
  | none => rw [hc] at hmiss; cases hmiss
  | some c =>
    rw [hc] at hmiss
    cases ht : tags.contains s with
    | false => rfl
    | true =>
      have := List.all_eq_true.mp hmiss s
        (List.mem_filter.mpr ⟨by simpa using ht, by rw [head_of_match hc hm]; exact beq_self_eq_true _⟩)
      rw [hm] at this
      cases this

section
variable {fuel : Nat} {s : List Char} {an : List String} {args : List Mich} {internal : Bool} {f : String} {g : List Char}

theorem expand_step (hd : Sends s f g) :
    expand (fuel + 1) s an args internal =
      (runHandler (fun p a r => expand fuel p a r true) f g an args).map
        (fun res => if internal then res else seqM res) := by
  have ht := not_tag_of_sends hd
  obtain ⟨h, hd, rfl, hs⟩ := hd
  have hc : coreOk = true := rfl
  rw [expand, primTags_eq]
  simp only [hc, ht, hd, hs, Bool.not_true, Bool.false_eq_true, if_false, bne_self_eq_false,
    bind, Except.bind, pure, Except.pure]
  cases runHandler (fun p a r => expand fuel p a r true) h.func g an args <;> rfl

theorem expand_ok (hd : Sends s f g) {res : Mich}
    (hr : runHandler (fun p a r => expand fuel p a r true) f g an args = .ok res) :
    expand (fuel + 1) s an args internal = .ok (if internal then res else seqM res) := by
  rw [expand_step hd, hr]
  rfl

theorem expand_error (hd : Sends s f g) {e : Err}
    (hr : runHandler (fun p a r => expand fuel p a r true) f g an args = .error e) :
    expand (fuel + 1) s an args internal = .error e := by
  rw [expand_step hd, hr]
  rfl

end

theorem expand_tag (fuel : Nat) (s : List Char) (an : List String) (args : List Mich) (internal : Bool)
    (ht : tags.contains s = true) :
    expand (fuel + 1) s an args internal = .ok (.prim (String.ofList s) args an) := by
  have hc : coreOk = true := rfl
  rw [expand, primTags_eq]
  simp only [hc, ht, Bool.not_true, Bool.false_eq_true, if_false, if_true]
  rfl

section
variable (ext : Ext)

theorem eval_CAR (an : List String) : eval ext (.prim "CAR" [] an) = carStep := by
  funext S; simp [eval, op0]
theorem eval_CDR (an : List String) : eval ext (.prim "CDR" [] an) = cdrStep := by
  funext S; simp [eval, op0]
theorem eval_DUP (an : List String) : eval ext (.prim "DUP" [] an) = dupStep := by
  funext S; simp [eval, op0]
theorem eval_SWAP (an : List String) : eval ext (.prim "SWAP" [] an) = swapStep := by
  funext S; simp [eval, op0]
theorem eval_PAIR (an : List String) : eval ext (.prim "PAIR" [] an) = pairStep := by
  funext S; simp [eval, op0]
theorem eval_UNPAIR (an : List String) : eval ext (.prim "UNPAIR" [] an) = unpairStep := by
  funext S; simp [eval, op0]
theorem eval_DIP1 (c : Mich) (an : List String) : eval ext (.prim "DIP" [c] an) = under 1 (eval ext c) := by
  funext S; simp [eval]
theorem eval_DIPn (n : Nat) (c : Mich) (an : List String) :
    eval ext (.prim "DIP" [.int n, c] an) = under n (eval ext c) := by
  have h : ¬ ((n : Int) < 0) := by omega
  funext S; simp [eval, h]
theorem eval_UPDATE (n : Nat) (an : List String) : eval ext (.prim "UPDATE" [.int n] an) = updateN n := by
  have h : ¬ ((n : Int) < 0) := by omega
  funext S; simp [eval, op1, h]
theorem eval_UPDATE1 (an : List String) : eval ext (.prim "UPDATE" [.int 1] an) = updateN 1 :=
  eval_UPDATE ext 1 an
theorem eval_UPDATE2 (an : List String) : eval ext (.prim "UPDATE" [.int 2] an) = updateN 2 :=
  eval_UPDATE ext 2 an
theorem eval_DUPn (n : Nat) (an : List String) : eval ext (.prim "DUP" [.int n] an) = dupN n := by
  have h : ¬ ((n : Int) < 0) := by omega
  funext S; simp [eval, op1, h]

theorem evalSeq_one (x : Mich) : evalSeq ext [x] = eval ext x := by
  rw [evalSeq_cons', evalSeq_nil', seqF_ok_right]

theorem eval_seqM (m : Mich) : eval ext (seqM m) = eval ext m := by
  cases m <;> simp only [seqM, eval_seq, evalSeq_one]

/-- an expansion means the same whether it was asked for by the parser or by another macro -/
theorem eval_wrap (internal : Bool) (m : Mich) : eval ext (if internal then m else seqM m) = eval ext m := by
  cases internal
  · exact eval_seqM ext m
  · rfl

theorem evalSeq_seqList (m : Mich) : evalSeq ext (seqList m) = eval ext m := by
  cases m <;> simp only [seqList, eval_seq, evalSeq_one]

theorem eval_dipN (m : Mich) (d : Nat) : eval ext (dipN m d) = under d (eval ext m) := by
  unfold dipN
  by_cases h0 : d = 0
  · subst h0; simp [under_zero]
  · by_cases h1 : d = 1
    · subst h1; simp only [h0, if_false, if_true, expr, eval_DIP1, eval_seqM]
    · simp only [h0, h1, if_false, expr, eval_DIPn, eval_seqM]

end

theorem expand_meaning {fuel : Nat} {s : List Char} {an : List String} {args : List Mich} {internal : Bool} {f : String}
    {g : List Char} (hd : Sends s f g) {res : Mich} {ext : Ext}
    (hr : runHandler (fun p a r => expand fuel p a r true) f g an args = .ok res) {t : F} (hm : eval ext res = t) :
    ∃ m, expand (fuel + 1) s an args internal = .ok m ∧ eval ext m = t :=
  ⟨_, expand_ok hd hr, (eval_wrap ext internal res).trans hm⟩

abbrev Recur := List Char → List String → List Mich → M Mich

theorem bind_of_ok {α β : Type} {x : M α} {a : α} (h : x = .ok a) (f : α → M β) : x.bind f = f a := by
  rw [h]
  rfl

theorem ok_of_bind {α β : Type} {x : M α} {f : α → M β} {b : β} (h : x.bind f = .ok b) :
    ∃ a, x = .ok a ∧ f a = .ok b := by
  cases x with
  | error e => cases h
  | ok a => exact ⟨a, rfl, h⟩

theorem assertThat_ok {b : Bool} {u : Unit} (h : assertThat b = .ok u) : b = true := by
  cases b with
  | true => rfl
  | false => cases h

/-- `{ DUP ; DIP { CAR ; r } ; CDR ; SWAP ; PAIR }` -/
def descendA (r : Mich) (an : List String) : Mich :=
  .seq [.prim "DUP" [] [], .prim "DIP" [.seq [.prim "CAR" [] ["@%%"], r]] [], .prim "CDR" [] ["@%%"],
    .prim "SWAP" [] [], .prim "PAIR" [] (["%@", "%@"] ++ varAnnots an)]

/-- `{ DUP ; DIP { CDR ; r } ; CAR ; PAIR }` -/
def descendD (r : Mich) (an : List String) : Mich :=
  .seq [.prim "DUP" [] [], .prim "DIP" [.seq [.prim "CDR" [] ["@%%"], r]] [], .prim "CAR" [] ["@%%"],
    .prim "PAIR" [] (["%@", "%@"] ++ varAnnots an)]

/-! `runHandler` finds the handler by comparing its name with one string literal after the other.  Here the same is said
with a table in the order of the macro table (`rows`: name, and what the handler does once the module constants are looked
up), so that the handler of entry `i` is read off at position `i` and strings are compared once (`funcs_nodup`). -/

/-- first entry with key `f`, in the shape Lean gives a `match` on string literals -/
def chain {α : Type} (d : α) (f : String) : List (String × α) → α
  | [] => d
  | (k, v) :: r => if h : f = k then Eq.ndrec_symm (motive := fun _ => α) v h else chain d f r

theorem chain_at {α : Type} (d : α) {f : String} {v : α} {l : List (String × α)} (hl : (l.map (·.1)).Nodup) {i : Nat}
    (hi : l[i]? = some (f, v)) : chain d f l = v := by
  induction l generalizing i with
  | nil => cases hi
  | cons x r ih =>
    obtain ⟨k, w⟩ := x
    rw [List.map_cons, List.nodup_cons] at hl
    cases i with
    | zero =>
      cases hi
      rw [chain, dif_pos rfl]
    | succ i =>
      have hm : f ∈ r.map (·.1) := List.mem_map.mpr ⟨_, List.mem_of_getElem? hi, rfl⟩
      have hne : f ≠ k := fun e => hl.1 (e ▸ hm)
      rw [chain, dif_neg hne]
      exact ih hl.2 hi

def rows (recur : Recur) (g : List Char) (an : List String) (args : List Mich) : List (String × M Mich) :=
  [("expand_cmpx", do
      assertThat args.isEmpty
      pure (.seq [.prim "COMPARE" [] [], .prim (String.ofList g) [] an])),
   ("expand_ifx", expandIfx g an args),
   ("expand_ifcmpx", expandIfcmpx g an args),
   ("expand_fail", do
      assertThat an.isEmpty
      assertThat args.isEmpty
      pure Spec.FAIL),
   ("expand_assert", do
      assertThat an.isEmpty
      assertThat args.isEmpty
      pure Spec.assert),
   ("expand_assert_x", do
      assertThat args.isEmpty
      assertThat an.isEmpty
      expandIfx g [] [.seq [], .seq [Spec.FAIL]]),
   ("expand_assert_cmpx", do
      assertThat args.isEmpty
      assertThat an.isEmpty
      expandIfcmpx g [] [.seq [], .seq [Spec.FAIL]]),
   ("expand_assert_none", do
      assertThat an.isEmpty
      assertThat args.isEmpty
      pure Spec.assertNone),
   ("expand_assert_some", do
      assertThat args.isEmpty
      pure (Spec.assertSome an)),
   ("expand_assert_left", do
      assertThat args.isEmpty
      pure (Spec.assertLeft an)),
   ("expand_assert_right", do
      assertThat args.isEmpty
      pure (Spec.assertRight an)),
   ("expand_dixp", do
      assertThat an.isEmpty
      assertThat (args.length == 1)
      pure (dipN (.seq args) g.length)),
   ("expand_duxp", do
      assertThat args.isEmpty
      pure (.prim "DUP" [.int g.length] an)),
   ("expand_pxr", do
      assertThat args.isEmpty
      let res ← traversePxr g (fieldAnnots an) (pairProduce an)
      pure (.seq res)),
   ("expand_unpxr", do
      assertThat args.isEmpty
      let res ← traversePxr g an unpairProduce
      pure (.seq res.reverse)),
   ("expand_caxr", do
      assertThat args.isEmpty
      let r ← recur ('C' :: g ++ ['R']) an []
      pure (.seq (.prim "CAR" [] [] :: seqList r))),
   ("expand_cdxr", do
      assertThat args.isEmpty
      let r ← recur ('C' :: g ++ ['R']) an []
      pure (.seq (.prim "CDR" [] [] :: seqList r))),
   ("expand_if_some", do
      assertThat an.isEmpty
      assertThat (args.length == 2)
      pure (.prim "IF_NONE" args.reverse [])),
   ("expand_if_right", do
      assertThat an.isEmpty
      assertThat (args.length == 2)
      pure (.prim "IF_LEFT" args.reverse [])),
   ("expand_set_car", do
      assertThat args.isEmpty
      pure (.seq [.prim "SWAP" [] [], .prim "UPDATE" [.int 1] an])),
   ("expand_set_cdr", do
      assertThat args.isEmpty
      pure (.seq [.prim "SWAP" [] [], .prim "UPDATE" [.int 2] an])),
   ("expand_set_caxr", do
      assertThat args.isEmpty
      let r ← recur ('S' :: 'E' :: 'T' :: '_' :: 'C' :: g ++ ['R']) (fieldAnnots an) []
      pure (descendA r an)),
   ("expand_set_cdxr", do
      assertThat args.isEmpty
      let r ← recur ('S' :: 'E' :: 'T' :: '_' :: 'C' :: g ++ ['R']) (fieldAnnots an) []
      pure (descendD r an)),
   ("expand_map_car", do
      let x ← mapCxrAnnots an
      pure (.seq [.prim "DUP" [] [], .prim "CDR" [] ["@%%"], .prim "DIP" [.seq (.prim "CAR" [] x.2 :: args)] [],
        .prim "SWAP" [] [], .prim "PAIR" [] [x.1, "%@"]])),
   ("expand_map_cdr", do
      let x ← mapCxrAnnots an
      pure (.seq ([.prim "DUP" [] [], .prim "CDR" [] x.2] ++ args ++
        [.prim "SWAP" [] [], .prim "CAR" [] ["@%%"], .prim "PAIR" [] ["%@", x.1]]))),
   ("expand_map_caxr", do
      let r ← recur ('M' :: 'A' :: 'P' :: '_' :: 'C' :: g ++ ['R']) (fieldAnnots an) args
      pure (descendA r an)),
   ("expand_map_cdxr", do
      let r ← recur ('M' :: 'A' :: 'P' :: '_' :: 'C' :: g ++ ['R']) (fieldAnnots an) args
      pure (descendD r an))]

theorem runHandler_eq (recur : Recur) (f : String) (g : List Char) (an : List String) (args : List Mich) :
    runHandler recur f g an args = chain (throw .unrecognised) f (rows recur g an args) := by
  -- with `f` a variable both sides are the same chain of `dite`s; what is computed is `constPrim` and `failC` in the bodies
  unfold runHandler runHandler.match_3
  rfl

theorem funcs_nodup : (handlers.map (·.func)).Nodup := StrTable.names_ne (by decide +kernel)

theorem runHandler_at {recur : Recur} {g : List Char} {an : List String} {args : List Mich} (i : Nat) {f : String}
    {v : M Mich} (hi : (rows recur g an args)[i]? = some (f, v)) : runHandler recur f g an args = v :=
  -- the keys of `rows` are the `func` column of `handlers`, literal for literal: `funcs_nodup` fits by unfolding
  (runHandler_eq recur f g an args).trans (chain_at _ funcs_nodup hi)

/-- one letter: the instruction `CAR`/`CDR` itself; more: the handler takes the first letter and asks for the rest -/
theorem cxr_expand (ext : Ext) (p : Path) (hp : 1 ≤ p.length) (an : List String) (fuel : Nat) (hf : p.length ≤ fuel)
    (internal : Bool) : ∃ m, expand fuel (cadrName p) an [] internal = .ok m ∧ eval ext m = Spec.cxr p := by
  induction p generalizing fuel internal with
  | nil => simp at hp
  | cons d q ih =>
    obtain ⟨fuel, rfl⟩ : ∃ k, fuel = k + 1 := ⟨fuel - 1, by simp at hf; omega⟩
    cases q with
    | nil =>
      cases d
      · exact ⟨.prim "CAR" [] an, expand_tag _ _ _ _ _ (by decide), by rw [eval_CAR, Spec.cxr, Spec.cxr, seqF_ok_right]⟩
      · exact ⟨.prim "CDR" [] an, expand_tag _ _ _ _ _ (by decide), by rw [eval_CDR, Spec.cxr, Spec.cxr, seqF_ok_right]⟩
    | cons e q =>
      obtain ⟨r, hr, hev⟩ := ih (by simp) fuel (by simpa using hf) true
      cases d
      · exact expand_meaning (sends_cadr_A (e :: q) (by simp)) ((runHandler_at (args := []) 15 rfl).trans (bind_of_ok hr _))
          (by rw [eval_seq, evalSeq_cons', eval_CAR, evalSeq_seqList, hev, Spec.cxr])
      · exact expand_meaning (sends_cadr_D (e :: q) (by simp)) ((runHandler_at (args := []) 16 rfl).trans (bind_of_ok hr _))
          (by rw [eval_seq, evalSeq_cons', eval_CDR, evalSeq_seqList, hev, Spec.cxr])

theorem eval_descendA (ext : Ext) (r : Mich) (an : List String) :
    eval ext (descendA r an) = dupStep ⨾ under 1 (carStep ⨾ eval ext r) ⨾ cdrStep ⨾ swapStep ⨾ pairStep := by
  simp only [descendA, eval_seq, evalSeq_cons', evalSeq_nil', seqF_ok_right, eval_DUP, eval_DIP1, eval_CAR, eval_CDR,
    eval_SWAP, eval_PAIR, seqF_assoc]

theorem eval_descendD (ext : Ext) (r : Mich) (an : List String) :
    eval ext (descendD r an) = dupStep ⨾ under 1 (cdrStep ⨾ eval ext r) ⨾ carStep ⨾ pairStep := by
  simp only [descendD, eval_seq, evalSeq_cons', evalSeq_nil', seqF_ok_right, eval_DUP, eval_DIP1, eval_CAR, eval_CDR,
    eval_PAIR, seqF_assoc]

/-- pytezos writes `SET_CAR` as `SWAP ; UPDATE 1`; the reference says `CDR ; SWAP ; PAIR` -/
theorem swap_update1 : swapStep ⨾ updateN 1 = cdrStep ⨾ swapStep ⨾ pairStep := by
  funext S
  match S with
  | [] => rfl
  | [a] => cases a <;> rfl
  | a :: x :: S => cases a <;> rfl

theorem swap_update2 : swapStep ⨾ updateN 2 = carStep ⨾ pairStep := by
  funext S
  match S with
  | [] => rfl
  | [a] => cases a <;> rfl
  | a :: x :: S => cases a <;> rfl

theorem set_expand (ext : Ext) (p : Path) (hp : 1 ≤ p.length) (an : List String) (fuel : Nat) (hf : p.length ≤ fuel)
    (internal : Bool) : ∃ m, expand fuel (setName p) an [] internal = .ok m ∧ eval ext m = Spec.setCxr p := by
  induction p generalizing fuel an internal with
  | nil => simp at hp
  | cons d q ih =>
    obtain ⟨fuel, rfl⟩ : ∃ k, fuel = k + 1 := ⟨fuel - 1, by simp at hf; omega⟩
    cases q with
    | nil =>
      cases d
      · exact expand_meaning sends_set_car (runHandler_at 19 rfl) (by
          simp only [eval_seq, evalSeq_cons', evalSeq_nil', seqF_ok_right, eval_SWAP, eval_UPDATE1, swap_update1,
            Spec.setCxr])
      · exact expand_meaning sends_set_cdr (runHandler_at 20 rfl) (by
          simp only [eval_seq, evalSeq_cons', evalSeq_nil', seqF_ok_right, eval_SWAP, eval_UPDATE2, swap_update2,
            Spec.setCxr])
    | cons e q =>
      obtain ⟨r, hr, hev⟩ := ih (by simp) (fieldAnnots an) fuel (by simpa using hf) true
      cases d
      · exact expand_meaning (sends_set_A e q) ((runHandler_at (args := []) 21 rfl).trans (bind_of_ok hr _))
          (by rw [eval_descendA, hev]; rfl)
      · exact expand_meaning (sends_set_D e q) ((runHandler_at (args := []) 22 rfl).trans (bind_of_ok hr _))
          (by rw [eval_descendD, hev]; rfl)

theorem mapCxrAnnots_ok (an : List String) (hA : (fieldAnnots an).length ≤ 1) :
    ∃ x, mapCxrAnnots an = .ok x := by
  unfold mapCxrAnnots
  match h : fieldAnnots an with
  | [] => exact ⟨_, rfl⟩
  | [f] => exact ⟨_, rfl⟩
  | _ :: _ :: _ => rw [h] at hA; simp at hA

theorem mapCxrAnnots_err (an : List String) (hA : 2 ≤ (fieldAnnots an).length) :
    mapCxrAnnots an = .error .assertion := by
  unfold mapCxrAnnots
  match h : fieldAnnots an with
  | [] => rw [h] at hA; simp at hA
  | [f] => rw [h] at hA; simp at hA
  | _ :: _ :: _ => rfl

theorem fieldAnnots_idem (an : List String) : fieldAnnots (fieldAnnots an) = fieldAnnots an := by
  simp [fieldAnnots, List.filter_filter]

theorem map_expand (ext : Ext) (code : Mich) (p : Path) (hp : 1 ≤ p.length) (an : List String)
    (hA : (fieldAnnots an).length ≤ 1) (fuel : Nat) (hf : p.length ≤ fuel) (internal : Bool) :
    ∃ m, expand fuel (mapName p) an [code] internal = .ok m ∧ eval ext m = Spec.mapCxr p (eval ext code) := by
  induction p generalizing fuel an internal with
  | nil => simp at hp
  | cons d q ih =>
    obtain ⟨fuel, rfl⟩ : ∃ k, fuel = k + 1 := ⟨fuel - 1, by simp at hf; omega⟩
    cases q with
    | nil =>
      obtain ⟨x, hx⟩ := mapCxrAnnots_ok an hA
      cases d
      · exact expand_meaning sends_map_car ((runHandler_at 23 rfl).trans (bind_of_ok hx _)) (by
          simp only [eval_seq, evalSeq_cons', evalSeq_nil', seqF_ok_right, eval_DUP, eval_DIP1, eval_CAR, eval_CDR,
            eval_SWAP, eval_PAIR, Spec.mapCxr, seqF_assoc])
      · exact expand_meaning sends_map_cdr ((runHandler_at 24 rfl).trans (bind_of_ok hx _)) (by
          simp only [List.cons_append, List.nil_append, eval_seq, evalSeq_cons', evalSeq_nil', seqF_ok_right, eval_DUP,
            eval_CAR, eval_CDR, eval_SWAP, eval_PAIR, Spec.mapCxr, seqF_assoc])
    | cons e q =>
      obtain ⟨r, hr, hev⟩ :=
        ih (by simp) (fieldAnnots an) (by rw [fieldAnnots_idem]; exact hA) fuel (by simpa using hf) true
      cases d
      · exact expand_meaning (sends_map_A e q) ((runHandler_at 25 rfl).trans (bind_of_ok hr _))
          (by rw [eval_descendA, hev]; rfl)
      · exact expand_meaning (sends_map_D e q) ((runHandler_at 26 rfl).trans (bind_of_ok hr _))
          (by rw [eval_descendD, hev]; rfl)

end C19.Expand
