import PytezosModel.Michelson.Session
/-! C22: the instruction semantics is natural in the store (`Hom`, `runInstrs_nat`; the suffix `_nat` reads "natural");
the heap run of a well-formed session state is the aliasing-free run over one context, written back at `cur` (`Rep`,
`cell_rep`), and so for sessions, by induction over the cell list (`trace_filtered`); the `protected` counter is back
where it was, or 0, after every successful instruction (`ProtBack`, `cellWith_protBack`) -/
namespace Proofs.C22
open Impl.Session Impl.BigMap

section val
variable {ρ ρ' ρ'' : Type}

theorem valMap_map (g : ρ' → ρ'') (f : ρ → ρ') (v : Val ρ) : (v.map f).map g = v.map (g ∘ f) := by
  induction v with
  | some v ih => simp only [Val.map, ih]
  | pair a b iha ihb => simp only [Val.map, iha, ihb]
  | _ => rfl

/-- `Val.map` touches the references only: a renaming that fixes those of `v` fixes `v` -/
theorem valMap_eq_self {f : ρ → ρ} {v : Val ρ} (h : ∀ r ∈ v.refs, f r = r) : v.map f = v := by
  induction v with
  | some v ih => exact congrArg Val.some (ih h)
  | pair a b iha ihb =>
    simp only [Val.refs, List.mem_append] at h
    rw [Val.map, iha fun r hr => h r (.inl hr), ihb fun r hr => h r (.inr hr)]
  | bigmap b r => exact congrArg (Val.bigmap b) (h r (List.mem_singleton_self r))
  | _ => rfl

theorem refs_map (f : ρ → ρ') (v : Val ρ) : (v.map f).refs = v.refs.map f := by
  induction v with
  | some v ih => simp only [Val.map, Val.refs, ih]
  | pair a b iha ihb => simp only [Val.map, Val.refs, iha, ihb, List.map_append]
  | _ => rfl

theorem typeOf_map (f : ρ → ρ') (v : Val ρ) : (v.map f).typeOf = v.typeOf := by
  induction v with
  | some v ih => simp only [Val.map, Val.typeOf, ih]
  | pair a b iha ihb => simp only [Val.map, Val.typeOf, iha, ihb]
  | _ => rfl

theorem erase_map (f : ρ → ρ') (v : Val ρ) : erase (v.map f) = erase v := valMap_map _ f v

end val

/-- a value without addresses as a heap value: every big map in it points at context `cur` -/
abbrev rb (cur : Nat) (v : Val Unit) : Val Nat := v.map fun _ => cur

theorem erase_rb (cur : Nat) (v : Val Unit) : erase (rb cur v) = v :=
  (erase_map _ v).trans (valMap_eq_self fun _ _ => rfl)

theorem rb_erase (cur : Nat) (v : Val Nat) (h : ∀ r ∈ v.refs, r = cur) : rb cur (erase v) = v :=
  (valMap_map _ _ v).trans (valMap_eq_self fun r hr => (h r hr).symm)

theorem set_self {α : Type} (l : List α) (i : Nat) (a : α) (h : l[i]? = some a) : l.set i a = l := by
  obtain ⟨hlt, rfl⟩ := List.getElem?_eq_some_iff.1 h
  exact List.set_getElem_self hlt

theorem map_eq_self {α : Type} {f : α → α} {l : List α} (h : ∀ a ∈ l, f a = a) : l.map f = l :=
  (List.map_congr_left h).trans (List.map_id l)

section stk
variable {α β : Type} (f : α → β) (s : Stk α)

@[simp] theorem map_prot : (s.map f).prot = s.prot := rfl
@[simp] theorem map_items : (s.map f).items = s.items.map f := rfl

theorem push_map (v : α) : (s.map f).push (f v) = (s.push v).map f := by
  simp [Stk.map, Stk.push, List.map_take, List.map_drop]

theorem peek_map : (s.map f).peek = s.peek.map f := by
  simp only [Stk.peek, Stk.map, List.isEmpty_map]
  split <;> simp

theorem pop_map (k : Nat) : (s.map f).pop k = (s.pop k).map fun r => (r.1.map f, r.2.map f) := by
  simp only [Stk.pop, Stk.map, List.length_map]
  split <;> simp [List.map_take, List.map_drop]

theorem popArgs_map (k : Nat) : (s.map f).popArgs k = (s.popArgs k).map fun r => (r.1.map f, r.2.map f) := by
  simp only [Stk.popArgs]
  split
  · simp
  · exact pop_map f s k

theorem protect_map (k : Nat) : (s.map f).protect k = (s.protect k).map (Stk.map f) := by
  by_cases h : s.items.length < k <;> simp [Stk.protect, Stk.map, h]

theorem restore_map (k : Nat) : (s.map f).restore k = (s.restore k).map (Stk.map f) := by
  by_cases h : s.prot < k <;> simp [Stk.restore, Stk.map, h]

theorem pushAll_map (vs : List α) : (s.map f).pushAll (vs.map f) = (s.pushAll vs).map f := by
  induction vs with
  | nil => rfl
  | cons v vs ih =>
    simp only [Stk.pushAll, List.map_cons, List.foldr_cons] at ih ⊢
    rw [ih, push_map]

end stk

section nat
variable {ρ ρ' S S' : Type}

theorem mutezOf_map (f : ρ → ρ') (v : Int) : (mutezOf (ρ := ρ') v) = (mutezOf (ρ := ρ) v).map (Val.map f) := by
  simp only [mutezOf]
  split
  · rfl
  · split <;> rfl

theorem stackOnly_map (f : ρ → ρ') (b : Basic) (st : List (Val ρ)) :
    stackOnly b (st.map (Val.map f)) = (stackOnly b st).map (Except.map (List.map (Val.map f))) := by
  cases b with
  | some | drop | failwith => cases st <;> rfl
  | swap | pair => rcases st with _ | ⟨x, _ | ⟨y, st⟩⟩ <;> rfl
  | car | cdr =>
    rcases st with _ | ⟨x, st⟩
    · rfl
    · cases x <;> rfl
  | add =>
    rcases st with _ | ⟨x, _ | ⟨y, st⟩⟩
    · rfl
    · cases x <;> rfl
    · cases x with
      | nat a => cases y <;> rfl
      | mutez a =>
        cases y with
        | mutez b =>
          -- both sides reduce to this by evaluation; unfolding `stackOnly` with `simp` would first generate the equations
          -- of its overlapping patterns, which is slow (the same below for `stepBigMap`)
          show some ((mutezOf _).map _) = Option.map _ (some ((mutezOf _).map _))
          rw [mutezOf_map f]
          cases mutezOf (ρ := ρ) ((a + b : Nat) : Int) <;> rfl
        | _ => rfl
      | _ => rfl
  | _ => rfl

theorem optVal_map (f : ρ → ρ') (v : Option Nat) : (optVal v : Val ρ).map f = optVal v := by
  cases v <;> rfl

theorem asOptNat_map (f : ρ → ρ') (v : Val ρ) : asOptNat (v.map f) = asOptNat v := by
  cases v with
  | some w => cases w <;> rfl
  | _ => rfl

theorem addrOf_map (f : ρ → ρ') (o : Option Str) : addrOf (ρ := ρ') o = (addrOf (ρ := ρ) o).map (Val.map f) := by
  rcases o with _ | _ | _ | _ <;> rfl

theorem readEnv_map (f : ρ → ρ') (c : Impl.Session.Ctx) (b : Basic) :
    readEnv (ρ := ρ') c b = (readEnv (ρ := ρ) c b).map (Val.map f) := by
  cases b with
  | amount | balance => exact mutezOf_map f _
  | sender | source => exact addrOf_map f _
  | _ => rfl

theorem attachVal_map (f : ρ → ρ') (cur : ρ) (copy : Bool) (v : Val Unit) (c : Impl.BigMap.Ctx) :
    attachVal (f cur) copy v c = ((attachVal cur copy v c).1.map f, (attachVal cur copy v c).2) := by
  induction v generalizing c with
  | some v ih => simp only [attachVal, ih, Val.map]
  | pair a b iha ihb => simp only [attachVal, iha, ihb, Val.map]
  | _ => rfl

/-- the outcome `r` of a run over `S` seen over `S'` -/
def img {ε α β : Type} (g : α → β) (emb : S → S') (r : Except ε α × S) : Except ε β × S' := (r.1.map g, emb r.2)

theorem img_ok {ε α β : Type} (g : α → β) (emb : S → S') (a : α) (s : S) :
    img g emb ((.ok a, s) : Except ε α × S) = (.ok (g a), emb s) := rfl

theorem img_error {ε α β : Type} (g : α → β) (emb : S → S') (e : ε) (s : S) :
    img g emb ((.error e, s) : Except ε α × S) = (.error e, emb s) := rfl

theorem executeDip_nat {α : Type} (f : ρ → ρ') (emb : S → S') (count : Nat)
    (body' : Stk (Val ρ') → S' → Res S' (Stk (Val ρ') × α)) (body : Stk (Val ρ) → S → Res S (Stk (Val ρ) × α))
    (hb : ∀ st s, body' (st.map (Val.map f)) (emb s) = img (Prod.map (Stk.map (Val.map f)) id) emb (body st s)) (st : Stk (Val ρ)) (s : S) :
    executeDip count body' (st.map (Val.map f)) (emb s) = img (Prod.map (Stk.map (Val.map f)) id) emb (executeDip count body st s) := by
  fun_cases executeDip count body st s
  all_goals simp only [executeDip, protect_map, restore_map, *, Option.map_none, Option.map_some, img_ok, Prod.map, id]
  all_goals rfl

section prog
variable {α : Type} {f : ρ → ρ'} {emb : S → S'}
  {step' : α → Stk (Val ρ') → S' → Res S' (Stk (Val ρ') × List Out)} {step : α → Stk (Val ρ) → S → Res S (Stk (Val ρ) × List Out)}

mutual
theorem execProg_nat (hstep : ∀ a st s, step' a (st.map (Val.map f)) (emb s) = img (Prod.map (Stk.map (Val.map f)) id) emb (step a st s)) :
    ∀ (p : Prog α) (st : Stk (Val ρ)) (s : S),
      execProg step' p (st.map (Val.map f)) (emb s) = img (Prod.map (Stk.map (Val.map f)) id) emb (execProg step p st s)
  | .op a, st, s => by simp only [execProg, hstep]
  | .dip body, st, s => by
    simp only [execProg]
    exact executeDip_nat f emb 1 _ _ (execProgs_nat hstep body) st s
  | .dipn n body, st, s => by
    simp only [execProg]
    exact executeDip_nat f emb n _ _ (execProgs_nat hstep body) st s
theorem execProgs_nat (hstep : ∀ a st s, step' a (st.map (Val.map f)) (emb s) = img (Prod.map (Stk.map (Val.map f)) id) emb (step a st s)) :
    ∀ (ps : List (Prog α)) (st : Stk (Val ρ)) (s : S),
      execProgs step' ps (st.map (Val.map f)) (emb s) = img (Prod.map (Stk.map (Val.map f)) id) emb (execProgs step ps st s)
  | [], st, s => rfl
  | p :: ps, st, s => by
    simp only [execProgs, execProg_nat hstep p st s]
    rcases execProg step p st s with ⟨e | r, s1⟩
    · rfl
    · simp only [img_ok, Prod.map, id, execProgs_nat hstep ps r.1 s1]
      rcases execProgs step ps r.1 s1 with ⟨e | r2, s2⟩ <;> rfl
end
end prog

/-- `σ'` simulates `σ`: references are renamed by `f`, states embedded by `emb`, reading and writing commute -/
structure Hom (σ : Store ρ S) (σ' : Store ρ' S') (f : ρ → ρ') (emb : S → S') : Prop where
  rd : ∀ s r, σ'.rd (emb s) (f r) = σ.rd s r
  wr : ∀ s r c, σ'.wr (emb s) (f r) c = emb (σ.wr s r c)

variable {σ : Store ρ S} {σ' : Store ρ' S'} {f : ρ → ρ'} {emb : S → S'} (H : Hom σ σ' f emb)
include H

theorem bmGet_nat (s : S) (b : BM Nat Nat) (r : ρ) (k : Nat) : bmGet σ' (emb s) b (f r) k = bmGet σ s b r k := by
  simp only [bmGet, H.rd]

theorem bmUpdate_nat (s : S) (b : BM Nat Nat) (r : ρ) (k : Nat) (v : Option Nat) :
    bmUpdate σ' (emb s) b (f r) k v = bmUpdate σ s b r k v := by
  simp only [bmUpdate, bmGet_nat H]

theorem stepBigMap_nat (s : S) (b : Basic) (xs : List (Val ρ)) :
    stepBigMap σ' (emb s) b (xs.map (Val.map f)) = (stepBigMap σ s b xs).map (List.map (Val.map f)) := by
  cases b with
  | get | mem =>
    rcases xs with _ | ⟨x, _ | ⟨y, st⟩⟩
    · rfl
    · cases x <;> rfl
    · cases x with
      | nat k =>
        cases y with
        | bigmap b r =>
          show (bmGet σ' (emb s) b (f r) k).map _ = Except.map _ ((bmGet σ s b r k).map _)
          rw [bmGet_nat H]
          cases bmGet σ s b r k <;> simp only [Except.map, List.map_cons, Val.map, optVal_map]
        | _ => rfl
      | _ => rfl
  | update | getAndUpdate =>
    rcases xs with _ | ⟨x, _ | ⟨y, _ | ⟨z, st⟩⟩⟩
    · rfl
    · cases x <;> rfl
    · cases x <;> rfl
    · cases x with
      | nat k =>
        cases z with
        | bigmap b r =>
          show (asOptNat (y.map f)).bind _ = Except.map _ ((asOptNat y).bind _)
          rw [asOptNat_map]
          cases asOptNat y with
          | error e => rfl
          | ok ov =>
            simp only [Except.bind, bmUpdate_nat H]
            cases bmUpdate σ s b r k ov <;> simp only [Except.map, List.map_cons, Val.map, optVal_map]
        | _ => rfl
      | _ => rfl
  | _ => rfl

theorem stepPops_nat (b : Basic) (st : Stk (Val ρ)) (s : S) :
    stepPops σ' b (st.map (Val.map f)) (emb s) = img (Stk.map (Val.map f)) emb (stepPops σ b st s) := by
  simp only [stepPops, popArgs_map]
  rcases st.popArgs (arity b) with _ | ⟨xs, st1⟩
  · rfl
  · simp only [Option.map_some, stackOnly_map, stepBigMap_nat H]
    rcases stackOnly b xs with _ | r
    · rcases stepBigMap σ s b xs with e | ys
      · rfl
      · simp only [Option.map_none, Except.map, pushAll_map, img_ok]
    · rcases r with e | ys
      · rfl
      · simp only [Option.map_some, Except.map, pushAll_map, img_ok]

theorem stepEnv_nat (cur : ρ) (b : Basic) (st : Stk (Val ρ)) (s : S) :
    stepEnv σ' (f cur) b (st.map (Val.map f)) (emb s) = img (Stk.map (Val.map f)) emb (stepEnv σ cur b st s) := by
  fun_cases stepEnv σ cur b st s
  all_goals simp only [stepEnv, H.rd, readEnv_map f, *, Except.map, push_map, img_ok]
  all_goals rfl

theorem stepBasic_nat (cur : ρ) (b : Basic) (st : Stk (Val ρ)) (s : S) :
    stepBasic σ' (f cur) b (st.map (Val.map f)) (emb s) = img (Stk.map (Val.map f)) emb (stepBasic σ cur b st s) := by
  fun_cases stepBasic σ cur b st s
  -- 24: the last arm of `stepBasic` (`stepPops`); 19 – 23: AMOUNT … SOURCE; 18: EMPTY_BIG_MAP, the one arm that writes
  case case24 => simpa only [stepBasic] using stepPops_nat H _ st s
  case case19 | case20 | case21 | case22 | case23 => simpa only [stepBasic] using stepEnv_nat H cur _ st s
  case case18 => simp only [stepBasic, H.rd, H.wr, *, img_ok, ← push_map, Val.map]; rfl
  all_goals simp only [stepBasic, peek_map, pop_map, protect_map, restore_map, H.rd, *, Option.map_none, Option.map_some,
    push_map, pushAll_map, img_ok]
  all_goals rfl

theorem basicStep_nat (cur : ρ) (b : Basic) (st : Stk (Val ρ)) (s : S) :
    basicStep σ' (f cur) b (st.map (Val.map f)) (emb s) = img (Prod.map (Stk.map (Val.map f)) id) emb (basicStep σ cur b st s) := by
  simp only [basicStep, stepBasic_nat H]
  rcases stepBasic σ cur b st s with ⟨e | st1, s1⟩ <;> rfl

theorem runBasics_nat (cur : ρ) (code : List (Prog Basic)) (st : Stk (Val ρ)) (s : S) :
    runBasics σ' (f cur) code (st.map (Val.map f)) (emb s) = img (Prod.map (Stk.map (Val.map f)) id) emb (runBasics σ cur code st s) :=
  execProgs_nat (basicStep_nat H cur) code st s

theorem aggVal_nat (v : Val ρ) (s : S) :
    aggVal σ' (v.map f) (emb s) = img (Prod.map (Val.map f) id) emb (aggVal σ v s) := by
  fun_induction aggVal σ v s
  all_goals simp only [Val.map, aggVal, H.rd, H.wr, *, img_ok, img_error]
  all_goals rfl

theorem beginWith_nat (cur : ρ) (p sl : Lit) (s : S) :
    beginWith σ' (f cur) p sl (emb s) = img (Val.map f) emb (beginWith σ cur p sl s) := by
  fun_cases beginWith σ cur p sl s
  all_goals simp only [beginWith, H.rd, H.wr, attachVal_map f, *]
  all_goals rfl

theorem endWith_nat (cur : ρ) (res : Val ρ) (s : S) :
    endWith σ' (f cur) (res.map f) (emb s) = img (Prod.map (Val.map f) id) emb (endWith σ cur res s) := by
  have ht (a b : Val ρ) : (Val.pair (a.map f) (b.map f)).typeOf = (Val.pair a b).typeOf := typeOf_map f (.pair a b)
  fun_cases endWith σ cur res s
  -- 5: the arm for a `res` that is not a pair, which `fun_cases` states as the hypothesis `x`
  case case5 x =>
    rw [endWith, H.rd]
    simp only [*]
    cases res with
    | pair => exact (x _ _ rfl).elim
    | _ => rfl
  all_goals simp only [endWith, H.rd, Val.map, aggVal_nat H, *, if_true, if_false, img_ok, img_error]
  all_goals rfl

theorem popResult_nat (cur : ρ) (st : Stk (Val ρ)) (s : S) :
    popResult σ' (f cur) (st.map (Val.map f)) (emb s) =
      img (fun r => (r.1.map (Val.map f), r.2.1.map f, r.2.2.1.map f, r.2.2.2)) emb (popResult σ cur st s) := by
  simp only [popResult, pop_map]
  rcases st.pop 1 with _ | ⟨xs, st1⟩
  · rfl
  · rcases xs with _ | ⟨res, _ | ⟨y, xs⟩⟩
    · rfl
    · simp only [Option.map_some, List.map_cons, List.map_nil, map_items, List.isEmpty_map, endWith_nat H]
      cases st1.items.isEmpty
      · rfl
      · rcases endWith σ cur res s with ⟨e | r, s1⟩ <;> rfl
    · rfl

theorem stepInstr_nat (cur : ρ) (i : Instr) (st : Stk (Val ρ)) (s : S) :
    stepInstr σ' (f cur) i (st.map (Val.map f)) (emb s) = img (Prod.map (Stk.map (Val.map f)) id) emb (stepInstr σ cur i st s) := by
  have hclear : (st.map (Val.map f)).clear = st.clear.map (Val.map f) := rfl
  fun_cases stepInstr σ cur i st s
  all_goals simp +zetaDelta only [stepInstr, basicStep_nat H, H.rd, H.wr, beginWith_nat H, popResult_nat H, aggVal_nat H, peek_map,
    push_map, runBasics_nat H, *, Option.map_some, img_ok, img_error, Prod.map, id, erase_map]
  all_goals first | rfl | (simp only [← push_map]; rfl)

theorem runInstrs_nat (cur : ρ) (is : List (Prog Instr)) (st : Stk (Val ρ)) (s : S) :
    runInstrs σ' (f cur) is (st.map (Val.map f)) (emb s) = img (Prod.map (Stk.map (Val.map f)) id) emb (runInstrs σ cur is st s) :=
  execProgs_nat (stepInstr_nat H cur) is st s

end nat

theorem heap_hom (h : List Impl.Session.Ctx) (cur : Nat) (hlt : cur < h.length) :
    Hom unitStore heapStore (fun _ => cur) (fun c => h.set cur c) :=
  ⟨fun _ _ => List.getElem?_set_self hlt, fun _ _ _ => List.set_set ..⟩

abbrev rbS (cur : Nat) (st : Stk (Val Unit)) : Stk (Val Nat) := st.map (Val.map fun _ => cur)

def mapStep (cur : Nat) : Except Fail (Stk (Val Unit) × List Out) → Except Fail (Stk (Val Nat) × List Out)
  | .ok r => .ok (rbS cur r.1, r.2)
  | .error f => .error f

theorem mapStep_eq (cur : Nat) (r : Except Fail (Stk (Val Unit) × List Out)) :
    mapStep cur r = r.map (Prod.map (Stk.map (Val.map fun _ => cur)) id) := by
  cases r <;> rfl

section sim
variable {α : Type} (cur : Nat)
  (stepH : α → Stk (Val Nat) → List Impl.Session.Ctx → Res (List Impl.Session.Ctx) (Stk (Val Nat) × List Out))
  (stepU : α → Stk (Val Unit) → Impl.Session.Ctx → Res Impl.Session.Ctx (Stk (Val Unit) × List Out))

theorem execProg_sim
    (hstep : ∀ a pst h c, h[cur]? = some c → stepH a (rbS cur pst) h = (mapStep cur (stepU a pst c).1, h.set cur (stepU a pst c).2)) :
    ∀ (p : Prog α) (pst : Stk (Val Unit)) (h : List Impl.Session.Ctx) (c : Impl.Session.Ctx), h[cur]? = some c →
      execProg stepH p (rbS cur pst) h = (mapStep cur (execProg stepU p pst c).1, h.set cur (execProg stepU p pst c).2)
  | p, pst, h, c, hc => by
    have hlt : cur < h.length := (List.getElem?_eq_some_iff.1 hc).1
    have := execProg_nat (f := fun _ => cur) (emb := fun c => h.set cur c) (step' := stepH) (step := stepU)
      (fun a st s => by rw [hstep a st _ s (List.getElem?_set_self hlt), List.set_set, mapStep_eq]; rfl) p pst c
    rw [set_self h cur c hc] at this
    rw [this, mapStep_eq]; rfl
end sim

/-- a session state without addresses: the stack and the one context -/
abbrev PState := Stk (Val Unit) × Impl.Session.Ctx

/-- a cell on the aliasing-free state: run; on error nothing changes -/
def cellP (a : PState) (cl : Cell) : PState × CellResult :=
  match runInstrs unitStore () cl a.1 a.2 with
  | (.ok r, c') => ((r.1, c'), .ok r.2)
  | (.error _, _) => (a, .failed)

/-- what `observe` sees of any heap state that represents `a` (`observe_rep`) -/
def obsP (a : PState) : Observation := ⟨a.1.items, a.1.prot, (a.1.items.flatMap Val.refs).map fun _ => some a.2, some a.2⟩

/-- the shape the theorems are about: the stack copy follows the context copy, the stack object is replaced -/
abbrev repaired : Cfg := ⟨true, .replaceStack⟩

theorem config_repaired : Impl.Session.config = some repaired := by decide

/-- `cell`, `session`, `dropFailing` and `trace` are `config.map k`, each with its own `k` -/
theorem withConfig_eq {α : Type} (k : Cfg → α) : config.map k = some (k repaired) := congrArg (Option.map k) config_repaired

theorem cell_eq (σ : State) (cl : Cell) : cell σ cl = some (cellWith repaired σ cl) := withConfig_eq _

theorem session_eq (σ : State) (cs : List Cell) : session σ cs = some (sessionWith repaired σ cs) := withConfig_eq _

theorem dropFailing_eq (σ : State) (cs : List Cell) : dropFailing σ cs = some (dropFailingWith repaired σ cs) := withConfig_eq _

theorem trace_eq (σ : State) (cs : List Cell) : trace σ cs = some (traceWith repaired σ cs) := withConfig_eq _

/-- a heap state represents the aliasing-free state `a` -/
def Rep (σ : State) (a : PState) : Prop := WF σ ∧ σ.heap[σ.cur]? = some a.2 ∧ σ.stack.map erase = a.1

theorem refs_rbS (cur : Nat) (pst : Stk (Val Unit)) : ∀ v ∈ (rbS cur pst).items, ∀ r ∈ v.refs, r = cur := by
  intro v hv r hr
  obtain ⟨w, _, rfl⟩ := List.mem_map.1 hv
  rw [refs_map] at hr
  obtain ⟨_, _, rfl⟩ := List.mem_map.1 hr
  rfl

theorem erase_rbS (cur : Nat) (pst : Stk (Val Unit)) : (rbS cur pst).map erase = pst := by
  simp only [rbS, Stk.map, List.map_map]
  rw [map_eq_self (f := erase ∘ Val.map fun _ => cur) fun v _ => erase_rb cur v]

theorem rbS_map (cur : Nat) (g : Nat → Nat) (pst : Stk (Val Unit)) : (rbS cur pst).map (Val.map g) = rbS (g cur) pst := by
  simp only [rbS, Stk.map, List.map_map, Function.comp_def, valMap_map]

theorem rep_stack {σ : State} {a : PState} (h : Rep σ a) : σ.stack = rbS σ.cur a.1 := by
  obtain ⟨hwf, _, hst⟩ := h
  rw [← hst]
  simp only [rbS, Stk.map, List.map_map]
  rw [map_eq_self (f := (Val.map fun _ => σ.cur) ∘ erase) fun v hv => rb_erase σ.cur v (hwf.2 v hv)]

theorem observe_rep {σ : State} {a : PState} (h : Rep σ a) : observe σ = obsP a := by
  have hs := rep_stack h
  obtain ⟨_, hc, _⟩ := h
  simp only [observe, obsP, hs, map_items, map_prot, List.flatMap_map, Function.comp_def, refs_map, List.map_flatMap,
    List.map_map, hc]
  rw [map_eq_self fun v _ => erase_rb σ.cur v]

theorem rep_init : Rep State.init (Stk.empty, Ctx.init) := ⟨⟨Nat.zero_lt_one, nofun⟩, rfl, rfl⟩

/-- one cell on the heap is the cell on the aliasing-free state: when it succeeds, the interpreter's context holds the new
aliasing-free context; when it fails, the interpreter moves to the context copy (appended at the end of the heap) with
the stack copy redirected to it, which represents the old `a` again -/
theorem cell_rep {σ : State} {a : PState} (h : Rep σ a) (cl : Cell) :
    Rep (cellWith repaired σ cl).1 (cellP a cl).1 ∧ (cellWith repaired σ cl).2 = (cellP a cl).2 := by
  have hs := rep_stack h
  obtain ⟨hwf, hc, _⟩ := h
  obtain ⟨pst, c⟩ := a
  have hlt : σ.cur < σ.heap.length := hwf.1
  have hc1 : (σ.heap ++ [c])[σ.cur]? = some c := by rw [List.getElem?_append_left hlt]; exact hc
  have hlt1 : σ.cur < (σ.heap ++ [c]).length := (List.getElem?_eq_some_iff.1 hc1).1
  have hsim := runInstrs_nat (heap_hom _ σ.cur hlt1) () cl pst c
  rw [set_self _ _ _ hc1] at hsim
  -- the backup of the stack points at the backup of the context
  simp only [cellWith, hc, cellP, hs, hsim, rbS_map, decide_true, Bool.and_true, if_true]
  rcases runInstrs unitStore () cl pst c with ⟨e | r, c'⟩
  · simp only [img_error]
    refine ⟨⟨⟨?_, refs_rbS _ _⟩, ?_, erase_rbS _ _⟩, trivial⟩
    · simp only [List.length_set, List.length_append, List.length_cons, List.length_nil]; omega
    · -- the run wrote at `cur` only (`hsim`), so the context copy at the end of the heap is as it was taken
      show ((σ.heap ++ [c]).set σ.cur c')[σ.heap.length]? = some c
      rw [List.getElem?_set_ne (by omega)]
      simp
  · simp only [img_ok]
    refine ⟨⟨⟨?_, refs_rbS _ _⟩, List.getElem?_set_self hlt1, erase_rbS _ _⟩, rfl⟩
    simp only [List.length_set, List.length_append, List.length_cons, List.length_nil]; omega

theorem cellP_failed (a : PState) (cl : Cell) (h : (cellP a cl).2.isFailed = true) : (cellP a cl).1 = a := by
  revert h
  fun_cases cellP a cl
  · exact nofun
  · exact fun _ => rfl

theorem exists_rep {σ : State} (hwf : WF σ) : ∃ a, Rep σ a := by
  have hlt := hwf.1
  refine ⟨(σ.stack.map erase, σ.heap[σ.cur]), hwf, ?_, rfl⟩
  simp [List.getElem?_eq_getElem hlt]

theorem results_eq_trace (cfg : Cfg) (σ : State) (cs : List Cell) :
    (sessionWith cfg σ cs).1 = (traceWith cfg σ cs).map (·.1) := by
  induction cs generalizing σ with
  | nil => rfl
  | cons cl cs ih => simp only [sessionWith, traceWith, List.map_cons, ih]

/-- a failing cell leaves a state that represents what the state before it did, and two states that represent the
same aliasing-free state run every cell alike -/
theorem trace_filtered {σ σ' : State} {a : PState} (h : Rep σ a) (h' : Rep σ' a) (cs : List Cell) :
    traceWith repaired σ' (dropFailingWith repaired σ cs) = (traceWith repaired σ cs).filter (fun r => !r.1.isFailed) ∧
    ∃ a', Rep (sessionWith repaired σ cs).2 a' ∧ Rep (sessionWith repaired σ' (dropFailingWith repaired σ cs)).2 a' := by
  induction cs generalizing σ σ' a with
  | nil => exact ⟨rfl, a, h, h'⟩
  | cons cl cs ih =>
    obtain ⟨h1, h2⟩ := cell_rep h cl
    simp only [dropFailingWith, traceWith, sessionWith, List.filter_cons]
    cases hf : (cellWith repaired σ cl).2.isFailed with
    | true =>
      rw [cellP_failed a cl (h2 ▸ hf)] at h1
      exact ih h1 h'
    | false =>
      obtain ⟨h1', h2'⟩ := cell_rep h' cl
      obtain ⟨i1, i2⟩ := ih h1 h1'
      simp only [Bool.false_eq_true, if_false, Bool.not_false, if_true, traceWith, sessionWith]
      exact ⟨by rw [i1, h2, h2', observe_rep h1, observe_rep h1'], i2⟩

section prot
variable {α : Type} (s : Stk α)

theorem pushAll_prot (vs : List α) : (s.pushAll vs).prot = s.prot := by
  induction vs with
  | nil => rfl
  | cons v vs ih => exact ih

theorem pop_prot {k : Nat} {r : List α × Stk α} (h : s.pop k = some r) : r.2.prot = s.prot := by
  simp only [Stk.pop] at h
  split at h
  · cases h
  · cases h; rfl

theorem popArgs_prot {k : Nat} {r : List α × Stk α} (h : s.popArgs k = some r) : r.2.prot = s.prot := by
  simp only [Stk.popArgs] at h
  split at h
  · cases h; rfl
  · exact pop_prot s h

theorem protect_prot {k : Nat} {s' : Stk α} (h : s.protect k = some s') : s'.prot = s.prot + k := by
  simp only [Stk.protect] at h
  split at h
  · cases h
  · cases h; rfl

theorem restore_prot {k : Nat} {s' : Stk α} (h : s.restore k = some s') : s'.prot = s.prot - k ∧ k ≤ s.prot := by
  simp only [Stk.restore] at h
  split at h
  · cases h
  · cases h; exact ⟨rfl, by omega⟩

end prot

/-- every successful outcome satisfies `P`; unfolded, this is the form `execProg_prot` takes its hypothesis in -/
def OkAll {ε α S : Type} (P : α → Prop) (r : Except ε α × S) : Prop := ∀ a s', r = (.ok a, s') → P a

theorem okAll_ok {ε α S : Type} {P : α → Prop} {a : α} {s : S} (h : P a) : OkAll P ((.ok a, s) : Except ε α × S) :=
  fun _ _ e => by cases e; exact h

theorem okAll_error {ε α S : Type} {P : α → Prop} {e : ε} {s : S} : OkAll P ((.error e, s) : Except ε α × S) :=
  fun _ _ h => by cases h

section protInstr
variable {ρ S : Type} (σ : Store ρ S)

theorem stepPops_prot (b : Basic) (st : Stk (Val ρ)) (s : S) : OkAll (fun st' => st'.prot = st.prot) (stepPops σ b st s) := by
  fun_cases stepPops σ b st s
  case case2 hp _ _ => exact okAll_ok ((pushAll_prot _ _).trans (popArgs_prot st hp))
  all_goals exact okAll_error

theorem stepEnv_prot (cur : ρ) (b : Basic) (st : Stk (Val ρ)) (s : S) : OkAll (fun st' => st'.prot = st.prot) (stepEnv σ cur b st s) := by
  fun_cases stepEnv σ cur b st s
  case case2 => exact okAll_ok rfl
  all_goals exact okAll_error

theorem stepBasic_prot (cur : ρ) (b : Basic) (st : Stk (Val ρ)) (s : S) :
    OkAll (fun st' => st'.prot = st.prot) (stepBasic σ cur b st s) := by
  fun_cases stepBasic σ cur b st s
  -- the numbered cases are the arms of `stepBasic` that can end in `.ok`: 24 `stepPops`, 19 – 23 AMOUNT … SOURCE, 2 DUP,
  -- 18 EMPTY_BIG_MAP, 4 DROP n, 8 DIG, 12 DUG, 16 DUP n (the last three protect and restore the same count)
  case case24 => exact stepPops_prot σ _ st s
  case case19 | case20 | case21 | case22 | case23 => exact stepEnv_prot σ cur _ st s
  case case2 | case18 => exact okAll_ok rfl
  case case4 h => exact okAll_ok (pop_prot st h)
  case case8 h1 _ _ h2 _ h3 =>
    have e1 := protect_prot st h1
    have e2 := pop_prot _ h2
    have e3 := restore_prot _ h3
    dsimp only at e2
    exact okAll_ok ((pushAll_prot _ _).trans (by omega))
  case case12 h1 _ h2 _ h3 =>
    have e1 := pop_prot st h1
    have e2 := protect_prot _ h2
    have e3 := restore_prot _ h3
    rw [pushAll_prot] at e3
    dsimp only at e1
    exact okAll_ok (by omega)
  case case16 h1 _ _ st2 h3 =>
    have e1 := protect_prot st h1
    have e3 := restore_prot _ h3
    exact okAll_ok (show st2.prot = st.prot by omega)
  all_goals exact okAll_error

/-- `protected` after a successful instruction: back where it was, or 0 -/
def ProtBack (p p' : Nat) : Prop := p' = p ∨ p' = 0

theorem ProtBack.trans {a b c : Nat} (h1 : ProtBack a b) (h2 : ProtBack b c) : ProtBack a c := by
  unfold ProtBack at *; omega

theorem executeDip_prot {β : Type} (count : Nat) (body : Stk (Val ρ) → S → Res S (Stk (Val ρ) × β))
    (hb : ∀ st s, OkAll (fun r => ProtBack st.prot r.1.prot) (body st s)) (st : Stk (Val ρ)) (s : S) :
    OkAll (fun r => ProtBack st.prot r.1.prot) (executeDip count body st s) := by
  fun_cases executeDip count body st s
  case case4 h1 _ _ h2 st2 h3 =>
    have e1 := protect_prot st h1
    have e2 := hb _ s _ _ h2
    have e3 := restore_prot _ h3
    exact okAll_ok (show ProtBack st.prot st2.prot by unfold ProtBack at *; omega)
  all_goals exact okAll_error

mutual
theorem execProg_prot {α : Type} (step : α → Stk (Val ρ) → S → Res S (Stk (Val ρ) × List Out))
    (hstep : ∀ a st s r s', step a st s = (.ok r, s') → ProtBack st.prot r.1.prot) :
    ∀ (p : Prog α) st s r s', execProg step p st s = (.ok r, s') → ProtBack st.prot r.1.prot
  | .op a, st, s => by simp only [execProg]; exact hstep a st s
  | .dip body, st, s => by
    simp only [execProg]
    exact executeDip_prot 1 _ (execProgs_prot step hstep body) st s
  | .dipn n body, st, s => by
    simp only [execProg]
    exact executeDip_prot n _ (execProgs_prot step hstep body) st s
theorem execProgs_prot {α : Type} (step : α → Stk (Val ρ) → S → Res S (Stk (Val ρ) × List Out))
    (hstep : ∀ a st s r s', step a st s = (.ok r, s') → ProtBack st.prot r.1.prot) :
    ∀ (ps : List (Prog α)) st s r s', execProgs step ps st s = (.ok r, s') → ProtBack st.prot r.1.prot
  | [], st, s => okAll_ok (Or.inl rfl)
  | p :: ps, st, s => by
    simp only [execProgs]
    rcases h1 : execProg step p st s with ⟨f | r1, s1⟩
    · exact okAll_error
    · dsimp only
      rcases h2 : execProgs step ps r1.1 s1 with ⟨f | r2, s2⟩
      · exact okAll_error
      · exact okAll_ok ((execProg_prot step hstep p st s r1 s1 h1).trans (execProgs_prot step hstep ps r1.1 s1 r2 s2 h2))
end

theorem basicStep_prot (cur : ρ) (b : Basic) (st : Stk (Val ρ)) (s : S) :
    OkAll (fun r => ProtBack st.prot r.1.prot) (basicStep σ cur b st s) := by
  fun_cases basicStep σ cur b st s
  case case1 h1 => exact okAll_ok (Or.inl (stepBasic_prot σ cur b st s _ _ h1))
  all_goals exact okAll_error

theorem popResult_prot (cur : ρ) (st : Stk (Val ρ)) (s : S) : OkAll (fun r => r.1.prot = st.prot) (popResult σ cur st s) := by
  fun_cases popResult σ cur st s
  case case1 hp _ _ _ _ => exact okAll_ok (pop_prot st hp)
  all_goals exact okAll_error

theorem stepInstr_prot (cur : ρ) (i : Instr) (st : Stk (Val ρ)) (s : S) :
    OkAll (fun r => ProtBack st.prot r.1.prot) (stepInstr σ cur i st s) := by
  fun_cases stepInstr σ cur i st s
  -- 1: a `Basic` leaf; 10: COMMIT that succeeds; 16: RUN that succeeds
  case case1 => exact basicStep_prot σ cur _ st s
  case case10 hq => exact okAll_ok (Or.inl (popResult_prot σ cur st s _ _ hq))
  case case16 h2 _ _ hq =>
    -- the cleared stack has nothing protected, so neither has the stack the code body leaves
    have e1 := (execProgs_prot _ (basicStep_prot σ cur) _ _ _ _ _ h2).elim id id
    exact okAll_ok (Or.inr ((popResult_prot σ cur _ _ _ _ hq).trans e1))
  all_goals first | exact okAll_error | exact okAll_ok (Or.inl rfl)

end protInstr

/-- with the repaired restore (the stack object is replaced by its copy) no cell leaves a protected prefix behind:
`protected` is where it was (every failing cell, and every successful one but RUN) or 0 -/
theorem cellWith_protBack (σ : State) (cl : Cell) : ProtBack σ.stack.prot (cellWith repaired σ cl).1.stack.prot := by
  simp only [cellWith]
  cases σ.heap[σ.cur]? with
  | none => exact .inl rfl
  | some ctx =>
    dsimp only
    rcases hr : runInstrs heapStore σ.cur cl σ.stack (σ.heap ++ [ctx]) with ⟨f | r, h⟩
    · exact .inl rfl
    · exact execProgs_prot _ (stepInstr_prot heapStore σ.cur) cl _ _ r h hr

theorem sessionWith_protBack (σ : State) (cs : List Cell) : ProtBack σ.stack.prot (sessionWith repaired σ cs).2.stack.prot := by
  induction cs generalizing σ with
  | nil => exact .inl rfl
  | cons cl cs ih => exact (cellWith_protBack σ cl).trans (ih _)

end Proofs.C22
