import PytezosModel.Proofs.InterpGood
set_option linter.unusedSectionVars false   -- `[Mode]` is a section variable of every lemma here; some do not use it
/-! Ordered insertion / deletion keep a set / map of the interpreter model well-formed (`goodSet` / `goodMap`): C14's
lemmas about strictly sorted lists, transported along the embedding of the keys of one simple comparable type. -/
namespace Interp
variable [Mode]
open Typing

section
variable {k : Ty} {ks : List Val} {x : Val}
  (hall : ∀ e ∈ ks, isKey k e = true) (hs : Coll.StrictSorted keyLt ks) (hx : isKey k x = true)
include hall hs

theorem keys_op_good (opK : List (KeyOf k) → List (KeyOf k)) (opV : List Val → List Val)
    (hmap : ∀ ys, (opK ys).map Subtype.val = opV (ys.map Subtype.val))
    (hstrict : ∀ ys, Coll.StrictSorted (ltK : KeyOf k → KeyOf k → Bool) ys → Coll.StrictSorted ltK (opK ys)) :
    (∀ e ∈ opV ks, isKey k e = true) ∧ Coll.StrictSorted keyLt (opV ks) := by
  obtain ⟨ys, rfl⟩ := lift_keys ks hall
  have h := hstrict ys (by rw [ltK_eq]; exact List.pairwise_map.mp hs)
  rw [ltK_eq] at h
  rw [← hmap]
  refine ⟨?_, List.pairwise_map.mpr h⟩
  intro e he
  obtain ⟨z, _, rfl⟩ := List.mem_map.mp he
  exact z.2

include hx

theorem keys_insert_good :
    (∀ e ∈ _root_.Spec.Coll.insertKey keyLt x ks, isKey k e = true) ∧
      Coll.StrictSorted keyLt (_root_.Spec.Coll.insertKey keyLt x ks) :=
  keys_op_good hall hs (_root_.Spec.Coll.insertKey ltK ⟨x, hx⟩) _
    (fun ys => by rw [ltK_eq]; exact insertKey_map Subtype.val keyLt ⟨x, hx⟩ ys)
    fun ys h => Coll.insertKey_strict (strictTotalK k) ⟨x, hx⟩ ys h

theorem keys_erase_good :
    (∀ e ∈ _root_.Spec.Coll.eraseKey keyLt x ks, isKey k e = true) ∧
      Coll.StrictSorted keyLt (_root_.Spec.Coll.eraseKey keyLt x ks) :=
  keys_op_good hall hs (_root_.Spec.Coll.eraseKey ltK ⟨x, hx⟩) _
    (fun ys => by rw [ltK_eq]; exact eraseKey_map Subtype.val keyLt ⟨x, hx⟩ ys)
    fun _ h => Coll.eraseKey_strict (strictTotalK k) ⟨x, hx⟩ h

end

theorem goodSet_of {t : Ty} {xs : List Val} (h1 : simpleComparable t = true) (h2 : ∀ e ∈ xs, isKey t e = true)
    (h3 : Coll.StrictSorted keyLt xs) : goodSet t xs = true := by
  simp only [goodSet, Bool.and_eq_true, List.all_eq_true]
  exact ⟨⟨h1, h2⟩, (strictSorted_iff xs).mpr h3⟩

theorem goodSet_nil {t : Ty} (h : simpleComparable t = true) : goodSet t [] = true := by rw [goodSet, h]; rfl

theorem goodMap_nil {k : Ty} (h : simpleComparable k = true) : goodMap k [] = true := by rw [goodMap, h]; rfl

theorem goodSet_insert {t : Ty} {xs : List Val} {x : Val} (hg : goodSet t xs = true) (hx : isKey t x = true) :
    goodSet t (_root_.Spec.Coll.insertKey keyLt x xs) = true := by
  obtain ⟨h1, h2, h3⟩ := goodSet_spec hg
  obtain ⟨g1, g2⟩ := keys_insert_good h2 h3 hx
  exact goodSet_of h1 g1 g2

theorem goodSet_erase {t : Ty} {xs : List Val} {x : Val} (hg : goodSet t xs = true) (hx : isKey t x = true) :
    goodSet t (_root_.Spec.Coll.eraseKey keyLt x xs) = true := by
  obtain ⟨h1, h2, h3⟩ := goodSet_spec hg
  obtain ⟨g1, g2⟩ := keys_erase_good h2 h3 hx
  exact goodSet_of h1 g1 g2

theorem goodMap_unkvs {k : Ty} {m : List (Val × Val)} (h1 : simpleComparable k = true)
    (h2 : ∀ e ∈ Coll.keys m, isKey k e = true) (h3 : Coll.StrictSorted keyLt (Coll.keys m)) :
    goodMap k (Spec.unkvs m) = true := by
  simp only [goodMap, Bool.and_eq_true, List.all_eq_true]
  refine ⟨⟨h1, ?_⟩, ?_⟩
  · intro e he
    rw [unkvs_eq, List.mem_map] at he
    obtain ⟨p, hp, rfl⟩ := he
    simp only [Impl.ofKV, isBinding]
    exact h2 p.1 (by simp only [Coll.keys, List.mem_map]; exact ⟨p, hp, rfl⟩)
  · have : (Spec.unkvs m).map keyOf = Coll.keys m := by
      simp [unkvs_eq, Coll.keys, List.map_map, Function.comp_def, Impl.ofKV, keyOf]
    rw [this]
    exact (strictSorted_iff _).mpr h3

theorem goodMap_keys {k : Ty} {items : List Val} (hg : goodMap k items = true) :
    simpleComparable k = true ∧ (∀ e ∈ Coll.keys (Spec.kvs items), isKey k e = true) ∧
      Coll.StrictSorted keyLt (Coll.keys (Spec.kvs items)) := by
  obtain ⟨h1, _, h3, h4⟩ := goodMap_spec hg
  refine ⟨h1, ?_, ?_⟩
  · intro e he
    simp only [Coll.keys, List.mem_map] at he
    obtain ⟨p, hp, rfl⟩ := he
    rw [kvs_eq] at hp
    exact h3 p hp
  · rw [kvs_eq]; exact h4

theorem goodMap_insert {k : Ty} {items : List Val} {x y : Val} (hg : goodMap k items = true) (hx : isKey k x = true) :
    goodMap k (Spec.unkvs (_root_.Spec.Coll.insertKV keyLt x y (Spec.kvs items))) = true := by
  obtain ⟨h1, h2, h3⟩ := goodMap_keys hg
  obtain ⟨g1, g2⟩ := keys_insert_good h2 h3 hx
  apply goodMap_unkvs h1
  · rw [Coll.insertKV_keys]; exact g1
  · rw [Coll.insertKV_keys]; exact g2

theorem goodMap_erase {k : Ty} {items : List Val} {x : Val} (hg : goodMap k items = true) (hx : isKey k x = true) :
    goodMap k (Spec.unkvs (_root_.Spec.Coll.eraseKV keyLt x (Spec.kvs items))) = true := by
  obtain ⟨h1, h2, h3⟩ := goodMap_keys hg
  obtain ⟨g1, g2⟩ := keys_erase_good h2 h3 hx
  apply goodMap_unkvs h1
  · rw [Coll.eraseKV_keys]; exact g1
  · rw [Coll.eraseKV_keys]; exact g2

theorem kvs_litOk {k : Ty} {items : List Val} (hb : ∀ e ∈ items, isBinding k e = true) (hg : GoodStack items) :
    ∀ p ∈ Spec.kvs items, litOk p.1 = true ∧ litOk p.2 = true := by
  intro p hp
  rw [kvs_eq, List.mem_map] at hp
  obtain ⟨e, he, rfl⟩ := hp
  obtain ⟨a, b, rfl, _⟩ := isBinding_pair (hb e he)
  simpa [Impl.toKV] using hg _ he

theorem unkvs_litOk {m : List (Val × Val)} (h : ∀ p ∈ m, litOk p.1 = true ∧ litOk p.2 = true) : GoodStack (Spec.unkvs m) := by
  intro z hz
  rw [unkvs_eq, List.mem_map] at hz
  obtain ⟨p, hp, rfl⟩ := hz
  simpa [Impl.ofKV] using h p hp

theorem goodMap_bindings {k : Ty} {items : List Val} (hg : goodMap k items = true) : ∀ e ∈ items, isBinding k e = true := by
  simp only [goodMap, Bool.and_eq_true, List.all_eq_true] at hg
  exact hg.1.2

end Interp
