import PytezosModel.Proofs.InterpGood
import PytezosModel.Proofs.InterpSpec
set_option linter.unusedSectionVars false   -- `[Mode]` is a section variable of every lemma here; some do not use it
/-! Type soundness (preservation) of the reference semantics: a typed program run on a well-formed stack of the
right types leaves a well-formed stack whose runtime types are the statically assigned ones.

By induction on the fuel (`sound_all`) with four invariants that depend on one another — `SoundE` (an instruction), `SoundS` (a
sequence), `SoundI` (the loop of ITER), `SoundM` (the loop of MAP) — all about the unguarded evaluator `Spec.eval false`, in
every mode.  The step for `SoundE` goes through `Typed` / `typed_inv`, the case analysis of a typed configuration that the
progress proof (InterpProgress) uses again. -/
namespace Interp
variable [Mode]
open Typing

theorem typeInstr_simple (i : Instr) (hc : isControl i = false) (hl : isLiteral i = false) (ts : List Ty) :
    typeInstr Mode.strict i ts = Typing.step i ts := by
  cases i <;> first | rfl | (cases hc; done) | (cases hl; done)

def SoundE (env : Env) (f : Nat) : Prop :=
  ∀ i st st' tr, StackWF st → Spec.eval false env f i st = .ok st' → typeInstr Mode.strict i (st.map typeOf) = some tr →
    StackWF st' ∧ tr = .ok (st'.map typeOf)

def SoundS (env : Env) (f : Nat) : Prop :=
  ∀ is st st' tr, StackWF st → Spec.evalSeq false env f is st = .ok st' → typeSeq Mode.strict is (st.map typeOf) = some tr →
    StackWF st' ∧ tr = .ok (st'.map typeOf)

/-- a loop body typed `t :: S → S` (or always failing) -/
def BodyKeeps (body : Instr) (t : Ty) (S : List Ty) : Prop :=
  typeInstr Mode.strict body (t :: S) = some (.ok S) ∨ typeInstr Mode.strict body (t :: S) = some .failed

def SoundI (env : Env) (f : Nat) : Prop :=
  ∀ body xs st st' t, (∀ x ∈ xs, WF x ∧ typeOf x = t) → StackWF st → BodyKeeps body t (st.map typeOf) →
    Spec.evalIter false env f body xs st = .ok st' → StackWF st' ∧ st'.map typeOf = st.map typeOf

/-- type of the items MAP collects: the new element, or (for maps) the binding with the new value -/
def itemTy (isMap : Bool) (t t' : Ty) : Ty :=
  match isMap, t with
  | true, .pair k _ => .pair k t'
  | _, _ => t'

def SoundM (env : Env) (f : Nat) : Prop :=
  ∀ body isMap xs st ys st' t t', (∀ x ∈ xs, WF x ∧ typeOf x = t) → StackWF st →
    typeInstr Mode.strict body (t :: st.map typeOf) = some (.ok (t' :: st.map typeOf)) →
    (isMap = true → ∃ k v, t = .pair k v) →
    Spec.evalMap false env f body isMap xs st = .ok (ys, st') →
    (∀ y ∈ ys, WF y ∧ typeOf y = itemTy isMap t t') ∧ StackWF st' ∧ st'.map typeOf = st.map typeOf ∧ (ys = [] → xs = [])

theorem typeSeq_cons {i : Instr} {is : List Instr} {S : List Ty} {tr : TRes}
    (h : typeSeq Mode.strict (i :: is) S = some tr) :
    ∃ tr1, typeInstr Mode.strict i S = some tr1 ∧ ∀ S1, tr1 = .ok S1 → typeSeq Mode.strict is S1 = some tr := by
  cases is with
  | nil => exact ⟨tr, h, fun S1 e => e ▸ rfl⟩
  | cons j js =>
    simp only [typeSeq] at h
    split at h
    · rename_i S1 hti
      exact ⟨_, hti, fun _ e => TRes.ok.inj e ▸ h⟩
    · cases h

theorem SoundE.body {env : Env} {f : Nat} (hE : SoundE env f) {body : Instr} {st st1 : List Val} {S0 S1 : List Ty}
    (hw : StackWF st) (hst : st.map typeOf = S0)
    (hb : typeInstr Mode.strict body S0 = some (.ok S1) ∨ typeInstr Mode.strict body S0 = some .failed)
    (hq : Spec.eval false env f body st = .ok st1) : StackWF st1 ∧ st1.map typeOf = S1 := by
  subst hst
  rcases hb with hb | hb
  · exact (hE body st st1 _ hw hq hb).imp_right fun h => (TRes.ok.inj h).symm
  · cases (hE body st st1 _ hw hq hb).2

section
variable (env : Env) (f : Nat) (hE : SoundE env f)
include hE

theorem soundS_succ (hS : SoundS env f) : SoundS env (f + 1) := by
  intro is st st' tr hw hev hty
  cases is with
  | nil =>
    cases hev
    cases hty
    exact ⟨hw, rfl⟩
  | cons i is =>
    obtain ⟨tr1, hti, hrest⟩ := typeSeq_cons hty
    obtain ⟨st1, hq, hev⟩ := rbind_eq_ok hev
    obtain ⟨h1, h2⟩ := hE i st st1 tr1 hw hq hti
    exact hS is st1 st' tr h1 hev (hrest _ h2)

theorem soundI_succ (hI : SoundI env f) : SoundI env (f + 1) := by
  intro body xs st st' t hxs hw hb hev
  cases xs with
  | nil =>
    simp only [Spec.evalIter, Res.ok.injEq] at hev
    subst hev
    exact ⟨hw, rfl⟩
  | cons x xs =>
    simp only [Spec.evalIter] at hev
    obtain ⟨st1, hq, hev⟩ := rbind_eq_ok hev
    have hx := hxs x List.mem_cons_self
    obtain ⟨h1, h2⟩ := hE.body (stackWF_cons.mpr ⟨hx.1, hw⟩) (by rw [List.map_cons, hx.2]) hb hq
    have := hI body xs st1 st' t (fun y hy => hxs y (List.mem_cons_of_mem _ hy)) h1 (h2 ▸ hb) hev
    exact ⟨this.1, this.2.trans h2⟩

theorem soundM_succ (hM : SoundM env f) : SoundM env (f + 1) := by
  intro body isMap xs st ys st' t t' hxs hw hb hk hev
  cases xs with
  | nil =>
    simp only [Spec.evalMap, Res.ok.injEq, Prod.mk.injEq] at hev
    obtain ⟨rfl, rfl⟩ := hev
    exact ⟨(fun _ h => nomatch h), hw, rfl, fun _ => rfl⟩
  | cons x xs =>
    simp only [Spec.evalMap] at hev
    obtain ⟨r, hq, hev⟩ := rbind_eq_ok hev
    have hx := hxs x List.mem_cons_self
    have hw1 : StackWF (x :: st) := stackWF_cons.mpr ⟨hx.1, hw⟩
    have hmap : (x :: st).map typeOf = t :: st.map typeOf := by rw [List.map_cons, hx.2]
    obtain ⟨h1, h2⟩ := hE body (x :: st) r _ hw1 hq (by rw [hmap]; exact hb)
    cases r with
    | nil => cases h2
    | cons y st1 =>
      simp only [TRes.ok.injEq, List.map_cons, List.cons.injEq] at h2
      rw [stackWF_cons] at h1
      obtain ⟨item, hitem, hev⟩ := rbind_eq_ok hev
      obtain ⟨⟨ys', st2⟩, hr, hev⟩ := rbind_eq_ok hev
      cases hev
      -- the item kept for this element: the new element, or the old key with the new value
      have hi : WF item ∧ typeOf item = itemTy isMap t t' := by
        cases isMap with
        | false =>
          cases hitem
          exact ⟨h1.1, h2.1.symm⟩
        | true =>
          obtain ⟨k, v, rfl⟩ := hk rfl
          obtain ⟨a, b, rfl, ha, _⟩ := hasTy_pair (hasTy_iff.mpr hx)
          cases hitem
          obtain ⟨ha1, ha2⟩ := hasTy_iff.mp ha
          exact ⟨(wf_pair a y).mpr ⟨ha1, h1.1⟩, by simp [itemTy, typeOf, ha2, ← h2.1]⟩
      have hb' : typeInstr Mode.strict body (t :: st1.map typeOf) = some (.ok (t' :: st1.map typeOf)) := by
        rw [← h2.2]
        exact hb
      obtain ⟨g1, g2, g3, _⟩ := hM body isMap xs st1 ys' _ t t' (fun z hz => hxs z (List.mem_cons_of_mem _ hz)) h1.2 hb' hk hr
      refine ⟨?_, g2, by rw [g3, ← h2.2], fun h => nomatch h⟩
      intro z hz
      rcases List.mem_cons.mp hz with rfl | hz
      · exact hi
      · exact g1 z hz

end

theorem join_left {T : List Ty} {b tr : TRes} (h : join (.ok T) b = some tr) : tr = .ok T := by
  cases b with
  | failed =>
    cases h
    rfl
  | ok T' =>
    simp only [join] at h
    split at h <;> cases h
    rfl

theorem join_right {T : List Ty} {a tr : TRes} (h : join a (.ok T) = some tr) : tr = .ok T := by
  cases a with
  | failed =>
    cases h
    rfl
  | ok T' =>
    simp only [join] at h
    split at h <;> cases h
    rename_i heq
    rw [heq]

theorem join_inv {x y : Option TRes} {tr : TRes}
    (h : (match x, y with | some a, some b => join a b | _, _ => none) = some tr) :
    ∃ a b, x = some a ∧ y = some b ∧ (∀ S, a = .ok S → tr = .ok S) ∧ (∀ S, b = .ok S → tr = .ok S) := by
  split at h
  · rename_i a b
    exact ⟨a, b, rfl, rfl, fun S e => join_left (e ▸ h), fun S e => join_right (e ▸ h)⟩
  · cases h

/-- the typing rule of LOOP, LOOP_LEFT, ITER: the body leaves the stack type `S'` it will be run on again (or always fails) -/
theorem loop_typing {r : Option TRes} {S' S : List Ty} {tr : TRes}
    (h : (match r with
      | some (.ok s') => if s' = S' then some (.ok S) else none
      | some .failed => some (.ok S)
      | none => none) = some tr) :
    (r = some (.ok S') ∨ r = some .failed) ∧ tr = .ok S := by
  split at h
  · split at h <;> cases h
    rename_i hs
    rw [hs]
    exact ⟨.inl rfl, rfl⟩
  · cases h
    exact ⟨.inr rfl, rfl⟩
  · cases h

/-- the typing rule of MAP over a collection of type `C t`: the body maps `t :: S` to `t' :: S`; in guard mode the typing is
strict, so the body keeps the element type and the guard does not fire -/
theorem map_typing {r : Option TRes} {S : List Ty} {t : Ty} {C : Ty → Ty} {tr : TRes}
    (h : (match r with
      | some (.ok (t' :: s')) => if s' = S ∧ (!Mode.strict || t' = t) then some (.ok (C t' :: S)) else none
      | _ => none) = some tr) :
    ∃ t', r = some (.ok (t' :: S)) ∧ (Mode.guard && t' != t) = false ∧ tr = .ok (C t' :: S) := by
  split at h
  · split at h <;> cases h
    rename_i t' s' hs
    obtain ⟨rfl, hkeep⟩ := hs
    refine ⟨t', rfl, ?_, rfl⟩
    cases hgd : Mode.guard with
    | false => rfl
    | true =>
      rw [Mode.guard_strict hgd] at hkeep
      simpa using hkeep
  · cases h

theorem listOf_sound {body : Instr} {t t' : Ty} {st ys : List Val} {r : Val}
    (hb : typeInstr Mode.strict body (t :: st.map typeOf) = some (.ok (t' :: st.map typeOf)))
    (hys : ∀ y ∈ ys, WF y ∧ typeOf y = t') (hl : Spec.listOf false body t st ys = .ok r) :
    WF r ∧ typeOf r = .list t' := by
  cases ys with
  | nil =>
    -- the element type of the empty result is the one the typing rule computes
    simp only [Spec.listOf, Spec.mapOutTy, typeInstr_lax hb, Bool.false_and] at hl
    cases hl
    exact ⟨(wf_list _ _).mpr (allTy_nil _), rfl⟩
  | cons y rest =>
    obtain ⟨-, rfl⟩ := rguard_eq_ok hl
    have hy := (hys y List.mem_cons_self).2
    exact ⟨(wf_list _ _).mpr (allTy_iff.mpr fun z hz => hy ▸ hys z hz), congrArg Ty.list hy⟩

theorem mapOf_sound {body : Instr} {k v t' : Ty} {st ys : List Val} {r : Val}
    (hb : typeInstr Mode.strict body (.pair k v :: st.map typeOf) = some (.ok (t' :: st.map typeOf)))
    (hys : ∀ y ∈ ys, WF y ∧ typeOf y = .pair k t') (hl : Spec.mapOf false body k v st ys = .ok r) :
    WF r ∧ typeOf r = .map k t' := by
  cases ys with
  | nil =>
    simp only [Spec.mapOf, Spec.mapOutTy, typeInstr_lax hb, Bool.false_and] at hl
    cases hl
    exact ⟨(wf_map _ _ _).mpr (allTy_nil _), rfl⟩
  | cons y rest =>
    have hy := hys y List.mem_cons_self
    obtain ⟨a, b, rfl, ha, hb'⟩ := hasTy_pair (hasTy_iff.mpr hy)
    obtain ⟨ha', hb''⟩ : typeOf a = k ∧ typeOf b = t' := ⟨(hasTy_iff.mp ha).2, (hasTy_iff.mp hb').2⟩
    obtain ⟨-, rfl⟩ := rguard_eq_ok hl
    subst ha' hb''
    exact ⟨(wf_map _ _ _).mpr (allTy_iff.mpr hys), rfl⟩

/-- what a typed configuration `(i, st)` does at fuel `f + 1`, as ten rule schemes.  In each the stack has the shape the rule of
`Spec.eval` asks for and the premises of the typing rule are there for the sub-programs that are run.  In `done` …
`iter` (one scheme for several instructions, or for several shapes of the top value) an equation says how the evaluation
goes on, for both evaluators; in `map_list`, `map_map`, `exec` the configuration is concrete and `Spec.eval` computes.  `GoodStack` and
`literalsOk` pass to the parts, and in guard mode a MAP body keeps the element type (what progress needs besides). -/
inductive Typed : Instr → List Val → TRes → Prop
  | simple {i st tr} : isControl i = false → isLiteral i = false → StackWF st →
      Typing.step i (st.map typeOf) = some tr → Typed i st tr
  | seq {is st tr} : StackWF st → typeSeq Mode.strict is (st.map typeOf) = some tr → Typed (.seq is) st tr
  | done {i st st1} : (∀ g env f, Spec.eval g env (f + 1) i st = .ok st1) → StackWF st1 →
      (literalsOk i = true → GoodStack st → GoodStack st1) → Typed i st (.ok (st1.map typeOf))
  | branch {i st tr taken st0 ta} : (∀ g env f, Spec.eval g env (f + 1) i st = Spec.eval g env f taken st0) →
      StackWF st0 → (GoodStack st → GoodStack st0) → (literalsOk i = true → literalsOk taken = true) →
      typeInstr Mode.strict taken (st0.map typeOf) = some ta → (∀ S, ta = .ok S → tr = .ok S) → Typed i st tr
  | dip {i n body st S} : (∀ g env f, Spec.eval g env (f + 1) i st =
        (Spec.eval g env f body (st.drop n)).bind fun st' => .ok (st.take n ++ st')) →
      literalsOk i = literalsOk body → StackWF st →
      typeInstr Mode.strict body ((st.drop n).map typeOf) = some (.ok S) → Typed i st (.ok ((st.take n).map typeOf ++ S))
  | loop {i body st st0 S1 tr} : (∀ g env f, Spec.eval g env (f + 1) i st =
        (Spec.eval g env f body st0).bind fun st' => Spec.eval g env f i st') →
      literalsOk i = literalsOk body → StackWF st0 → (GoodStack st → GoodStack st0) →
      (typeInstr Mode.strict body (st0.map typeOf) = some (.ok S1) ∨
        typeInstr Mode.strict body (st0.map typeOf) = some .failed) →
      typeInstr Mode.strict i S1 = some tr → Typed i st tr
  | iter {body c xs t st} :
      (∀ g env f, Spec.eval g env (f + 1) (.ITER body) (c :: st) = Spec.evalIter g env f body xs st) →
      (∀ x ∈ xs, WF x ∧ typeOf x = t) → (litOk c = true → GoodStack xs) → StackWF st → BodyKeeps body t (st.map typeOf) →
      Typed (.ITER body) (c :: st) (.ok (st.map typeOf))
  | map_list {body t xs st t'} : (∀ x ∈ xs, WF x ∧ typeOf x = t) → StackWF st →
      typeInstr Mode.strict body (t :: st.map typeOf) = some (.ok (t' :: st.map typeOf)) → (Mode.guard && t' != t) = false →
      Typed (.MAP body) (.list t xs :: st) (.ok (.list t' :: st.map typeOf))
  | map_map {body k v xs st t'} : (∀ x ∈ xs, WF x ∧ typeOf x = .pair k v) → StackWF st →
      typeInstr Mode.strict body (.pair k v :: st.map typeOf) = some (.ok (t' :: st.map typeOf)) →
      (Mode.guard && t' != v) = false → Typed (.MAP body) (.map k v xs :: st) (.ok (.map k t' :: st.map typeOf))
  | exec {x a b body st} : WF x → typeOf x = a → BodyTy body a b → StackWF st →
      Typed .EXEC (x :: .lam a b body :: st) (.ok (b :: st.map typeOf))

/-- **inversion of the typing judgement on a well-formed stack**.  The typing rule is found from the type of the top of the
stack, the shape of the top value from its type (canonical forms). -/
theorem typed_inv {i : Instr} {st : List Val} {tr : TRes} (hw : StackWF st)
    (hty : typeInstr Mode.strict i (st.map typeOf) = some tr) : Typed i st tr := by
  by_cases hc : isControl i = false
  · by_cases hl : isLiteral i = false
    · exact .simple hc hl hw (typeInstr_simple i hc hl _ ▸ hty)
    · cases i <;> first | (exact absurd rfl hl) | skip
      · -- PUSH: the literal has been checked against its type
        rename_i t v
        simp only [typeInstr] at hty
        split at hty <;> cases hty
        rename_i hcv
        obtain ⟨hwv, rfl⟩ := hasTy_iff.mp (Bool.and_eq_true _ _ ▸ hcv).2
        exact .done (st1 := v :: st) (fun _ _ _ => rfl) (stackWF_cons.mpr ⟨hwv, hw⟩) fun hl hg => goodStack_cons.mpr ⟨hl, hg⟩
      · -- LAMBDA: so has the body
        rename_i a b body
        simp only [typeInstr] at hty
        have : BodyTy body a b ∧ tr = .ok (.lambda a b :: st.map typeOf) := by
          unfold BodyTy
          split at hty
          · rename_i b' heq
            split at hty <;> cases hty
            rename_i hb
            subst hb
            exact ⟨.inl heq, rfl⟩
          · rename_i heq
            cases hty
            exact ⟨.inr heq, rfl⟩
          · cases hty
        obtain ⟨hb, rfl⟩ := this
        exact .done (st1 := .lam a b body :: st) (fun _ _ _ => rfl) (stackWF_cons.mpr ⟨(wf_lam a b body).mpr hb, hw⟩)
          fun hl hg => goodStack_cons.mpr ⟨hl, hg⟩
  cases i <;> first | (exact absurd rfl hc) | skip
  case seq is => exact .seq hw hty
  case DIP body =>
    rcases st with _ | ⟨x, st⟩
    · cases hty
    simp only [List.map_cons, typeInstr] at hty
    split at hty <;> cases hty
    rename_i S hb
    exact .dip (n := 1) (fun _ _ _ => rfl) rfl hw hb
  case DIPN n body =>
    simp only [typeInstr, List.length_map] at hty
    split at hty
    · rename_i hn
      split at hty <;> cases hty
      rename_i S hb
      rw [← List.map_take]
      rw [← List.map_drop] at hb
      exact .dip (fun _ _ _ => if_pos hn) rfl hw hb
    · cases hty
  case EXEC =>
    rcases st with _ | ⟨x, _ | ⟨a, st⟩⟩
    · cases hty
    · cases hty
    rw [stackWF_cons, stackWF_cons] at hw
    obtain ⟨hwx, hwa, hw⟩ := hw
    rw [List.map_cons, List.map_cons] at hty
    generalize hta : typeOf a = ta at hty
    cases ta <;> first | (cases hty; done) | skip
    obtain ⟨body, rfl, hbody⟩ := canon_lambda hwa hta
    simp only [typeInstr] at hty
    split at hty <;> cases hty
    rename_i htx
    exact .exec hwx htx hbody hw
  -- the other instructions look at the top of the stack: its type is one their typing rule accepts
  all_goals
    have hty0 := hty      -- for LOOP / LOOP_LEFT: the instruction is run again on a stack of this type
    rcases st with _ | ⟨a, st⟩
    · cases hty
    rw [stackWF_cons] at hw
    obtain ⟨hwa, hw⟩ := hw
    rw [List.map_cons] at hty
    generalize hta : typeOf a = ta at hty
    cases ta <;> first | (cases hty; done) | skip
  · -- IF
    obtain ⟨b, rfl⟩ := canon_bool hwa hta
    obtain ⟨ta, tb, h1, h2, j1, j2⟩ := join_inv hty
    cases b
    · exact .branch (fun _ _ _ => rfl) hw goodStack_tail
        (fun hl => (Bool.and_eq_true_iff.mp hl).2) h2 j2
    · exact .branch (fun _ _ _ => rfl) hw goodStack_tail
        (fun hl => (Bool.and_eq_true_iff.mp hl).1) h1 j1
  · -- IF_NONE
    obtain ⟨ta, tb, h1, h2, j1, j2⟩ := join_inv hty
    rcases canon_option hwa hta with rfl | ⟨v, rfl, hwv, rfl⟩
    · exact .branch (fun _ _ _ => rfl) hw goodStack_tail
        (fun hl => (Bool.and_eq_true_iff.mp hl).1) h1 j1
    · exact .branch (fun _ _ _ => rfl) (stackWF_cons.mpr ⟨hwv, hw⟩) (goodStack_top id)
        (fun hl => (Bool.and_eq_true_iff.mp hl).2) h2 j2
  · -- IF_LEFT
    obtain ⟨ta, tb, h1, h2, j1, j2⟩ := join_inv hty
    rcases canon_or hwa hta with ⟨v, rfl, hwv, rfl⟩ | ⟨v, rfl, hwv, rfl⟩
    · exact .branch (fun _ _ _ => rfl) (stackWF_cons.mpr ⟨hwv, hw⟩) (goodStack_top id)
        (fun hl => (Bool.and_eq_true_iff.mp hl).1) h1 j1
    · exact .branch (fun _ _ _ => rfl) (stackWF_cons.mpr ⟨hwv, hw⟩) (goodStack_top id)
        (fun hl => (Bool.and_eq_true_iff.mp hl).2) h2 j2
  · -- IF_CONS
    obtain ⟨ta, tb, h1, h2, j1, j2⟩ := join_inv hty
    obtain ⟨xs, rfl, hxs⟩ := canon_list hwa hta
    cases xs with
    | nil =>
      exact .branch (fun _ _ _ => rfl) hw goodStack_tail
        (fun hl => (Bool.and_eq_true_iff.mp hl).2) h2 j2
    | cons x xs =>
      have hx := hxs x List.mem_cons_self
      refine .branch (st0 := x :: .list _ xs :: st) (fun _ _ _ => rfl) ?_ (fun hg => ?_)
        (fun hl => (Bool.and_eq_true_iff.mp hl).1) (by rw [List.map_cons, hx.2]; exact h1) j1
      · rw [stackWF_cons, stackWF_cons, wf_list, allTy_iff]
        exact ⟨hx.1, fun y hy => hxs y (List.mem_cons_of_mem _ hy), hw⟩
      · rw [goodStack_cons, litOk_list, goodStack_cons] at hg
        rw [goodStack_cons, goodStack_cons, litOk_list]
        exact ⟨hg.1.1, hg.1.2, hg.2⟩
  · -- LOOP
    obtain ⟨b, rfl⟩ := canon_bool hwa hta
    obtain ⟨hb, rfl⟩ := loop_typing hty
    cases b
    · exact .done (fun _ _ _ => rfl) hw fun _ => goodStack_tail
    · exact .loop (fun _ _ _ => rfl) rfl hw goodStack_tail hb hty0
  · -- LOOP_LEFT
    rcases canon_or hwa hta with ⟨v, rfl, hwv, rfl⟩ | ⟨v, rfl, hwv, rfl⟩
    · obtain ⟨hb, rfl⟩ := loop_typing hty
      exact .loop (fun _ _ _ => rfl) rfl (stackWF_cons.mpr ⟨hwv, hw⟩) (goodStack_top id) hb hty0
    · obtain ⟨-, rfl⟩ := loop_typing hty
      exact .done (fun _ _ _ => rfl) (stackWF_cons.mpr ⟨hwv, hw⟩) fun _ => goodStack_top id
  · -- ITER over a list
    obtain ⟨xs, rfl, hxs⟩ := canon_list hwa hta
    obtain ⟨hk, rfl⟩ := loop_typing hty
    exact .iter (fun _ _ _ => rfl) hxs (litOk_list _ _).mp hw hk
  · -- over a map
    obtain ⟨xs, rfl, hxs⟩ := canon_map hwa hta
    obtain ⟨hk, rfl⟩ := loop_typing hty
    exact .iter (fun _ _ _ => rfl) hxs (fun h => ((litOk_map _ _ _).mp h).2) hw hk
  · -- over a set
    obtain ⟨xs, rfl, hxs⟩ := canon_set hwa hta
    obtain ⟨hk, rfl⟩ := loop_typing hty
    exact .iter (fun _ _ _ => rfl) hxs (fun h => ((litOk_set _ _).mp h).2) hw hk
  · -- MAP over a list
    obtain ⟨xs, rfl, hxs⟩ := canon_list hwa hta
    obtain ⟨t', hb, hoff, rfl⟩ := map_typing (C := .list) hty
    exact .map_list hxs hw hb hoff
  · -- over a map
    obtain ⟨xs, rfl, hxs⟩ := canon_map hwa hta
    obtain ⟨t', hb, hoff, rfl⟩ := map_typing (C := .map _) hty
    exact .map_map hxs hw hb hoff

section
variable (env : Env) (f : Nat) (hE : SoundE env f) (hS : SoundS env f) (hI : SoundI env f) (hM : SoundM env f)
include hE hS hI hM

theorem soundE_succ : SoundE env (f + 1) := by
  intro i st st' tr hw0 hev hty0
  cases typed_inv hw0 hty0 with
  | simple hc hl hw hty =>
    rw [spec_eval_simple false env f i hc st] at hev
    obtain ⟨h1, h2⟩ := step_sound env i st st' hw hl hev
    rw [h2] at hty
    cases hty
    exact ⟨h1, rfl⟩
  | seq hw hty => exact hS _ st st' tr hw hev hty
  | done heq hw1 =>
    rw [heq] at hev
    cases hev
    exact ⟨hw1, rfl⟩
  | branch heq hw0 _ _ hta hj =>
    rw [heq] at hev
    obtain ⟨h1, h2⟩ := hE _ _ st' _ hw0 hev hta
    exact ⟨h1, hj _ h2⟩
  | @dip _ n body _ _ heq _ hw hb =>
    rw [heq] at hev
    obtain ⟨st1, hq, hev⟩ := rbind_eq_ok hev
    cases hev
    obtain ⟨h1, h2⟩ := hE body _ st1 _ (stackWF_drop hw n) hq hb
    cases h2
    exact ⟨stackWF_append.mpr ⟨stackWF_take hw n, h1⟩, by rw [List.map_append]⟩
  | @loop _ body _ st0 _ _ heq _ hw0 _ hb hty =>
    rw [heq] at hev
    obtain ⟨st1, hq, hev⟩ := rbind_eq_ok hev
    -- the body leaves a stack on which the loop is typed again
    obtain ⟨h1, rfl⟩ := hE.body hw0 rfl hb hq
    exact hE i st1 st' tr h1 hev hty
  | iter heq hxs _ hw hk =>
    rw [heq] at hev
    exact (hI _ _ _ st' _ hxs hw hk hev).imp_right fun g => by rw [g]
  | @map_list body t xs st t' hxs hw hb =>
    obtain ⟨⟨ys, st1⟩, hq, hev⟩ := rbind_eq_ok hev
    obtain ⟨r, hl, hev⟩ := rbind_eq_ok hev
    cases hev
    obtain ⟨g1, g2, g3, _⟩ := hM body false xs st ys st1 t t' hxs hw hb (fun h => nomatch h) hq
    obtain ⟨hr1, hr2⟩ := listOf_sound (st := st) hb g1 hl
    exact ⟨stackWF_cons.mpr ⟨hr1, g2⟩, by rw [List.map_cons, hr2, g3]⟩
  | @map_map body k v xs st t' hxs hw hb =>
    obtain ⟨⟨ys, st1⟩, hq, hev⟩ := rbind_eq_ok hev
    obtain ⟨r, hl, hev⟩ := rbind_eq_ok hev
    cases hev
    obtain ⟨g1, g2, g3, _⟩ := hM body true xs st ys st1 (.pair k v) t' hxs hw hb (fun _ => ⟨k, v, rfl⟩) hq
    obtain ⟨hr1, hr2⟩ := mapOf_sound (st := st) hb g1 hl
    exact ⟨stackWF_cons.mpr ⟨hr1, g2⟩, by rw [List.map_cons, hr2, g3]⟩
  | @exec x a b body st hwx hta hbody hw =>
    simp only [Spec.eval, hta, if_true] at hev
    obtain ⟨r, hq, hev⟩ := rbind_eq_ok hev
    split at hev
    · rename_i y
      obtain ⟨hyb, rfl⟩ := rguard_eq_ok hev
      -- the body of a well-formed lambda value is typed `[a] → [b]` (or always fails)
      have hwy := (stackWF_cons.mp (hE.body (stackWF_cons.mpr ⟨hwx, stackWF_nil⟩) (by simp [hta]) hbody hq).1).1
      exact ⟨stackWF_cons.mpr ⟨hwy, hw⟩, by rw [List.map_cons, hyb]⟩
    · cases hev

end

theorem sound_all (env : Env) : ∀ f, SoundE env f ∧ SoundS env f ∧ SoundI env f ∧ SoundM env f
  | 0 => by
    refine ⟨?_, ?_, ?_, ?_⟩
    · intro i st st' tr _ hev _
      cases hev
    · intro is st st' tr hw hev hty
      cases is with
      | nil =>
        cases hev
        cases hty
        exact ⟨hw, rfl⟩
      | cons i is => cases hev
    · intro body xs st st' t _ hw _ hev
      cases xs with
      | nil =>
        cases hev
        exact ⟨hw, rfl⟩
      | cons x xs => cases hev
    · intro body isMap xs st ys st' t t' _ hw _ _ hev
      cases xs with
      | nil =>
        cases hev
        exact ⟨(fun _ h => nomatch h), hw, rfl, fun _ => rfl⟩
      | cons x xs => cases hev
  | f + 1 =>
    have ⟨hE, hS, hI, hM⟩ := sound_all env f
    ⟨soundE_succ env f hE hS hI hM, soundS_succ env f hE hS, soundI_succ env f hE hI, soundM_succ env f hE hM⟩

/-- **type preservation of the reference semantics** -/
theorem preservation (env : Env) (fuel : Nat) (i : Instr) (st st' : List Val) (ts : List Ty) (tr : TRes)
    (hst : StackTy st ts) (hty : typeInstr Mode.strict i ts = some tr) (hev : Spec.eval false env fuel i st = .ok st') :
    ∃ ts', tr = .ok ts' ∧ StackTy st' ts' := by
  obtain ⟨hw, hm⟩ := stackTy_iff.mp hst
  subst hm
  obtain ⟨h1, h2⟩ := (sound_all env fuel).1 i st st' tr hw hev hty
  exact ⟨st'.map typeOf, h2, stackTy_iff.mpr ⟨h1, rfl⟩⟩

end Interp
