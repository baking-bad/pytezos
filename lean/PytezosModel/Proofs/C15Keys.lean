import PytezosModel.Proofs.C03Impl
import PytezosModel.Michelson.BigMap
/-! C15 — big map keys of every comparable Michelson type.  `Impl.BigMap.*` reaches `==` / `!=` / `∈` (Python `__eq__`, and
`__hash__` + `__eq__` for the `set` of removed keys) through a `DecidableEq K` instance.  For `Order.TVal τ` that instance
(`tvalDecEq`) runs the mirror of the pytezos `__eq__` methods (`Impl.Order.eq`); the driver imports this file, so the
correspondence run executes that mirror on every key comparison. -/
namespace Proofs.C15Keys
open Order Impl.Order Spec.Order

variable {τ : CTy}

theorem tval_eq_iff (a b : TVal τ) : TVal.eq a b = true ↔ a = b := TVal.eq_iff a b

/-- `==` on keys of type `τ`: decided by running the mirror of `__eq__` -/
instance tvalDecEq (τ : CTy) : DecidableEq (TVal τ) := fun a b =>
  decidable_of_iff (TVal.eq a b = true) (tval_eq_iff a b)

/-- `a == b` of the model is `a.__eq__(b)` of the code -/
theorem tval_beq (a b : TVal τ) : (a == b) = TVal.eq a b :=
  Bool.eq_iff_iff.2 (beq_iff_eq.trans (tval_eq_iff a b).symm)

/-- `a != b` of the model is `not a.__eq__(b)` (none of the comparable classes defines `__ne__`) -/
theorem tval_bne (a b : TVal τ) : (a != b) = !TVal.eq a b := by
  simp only [bne, tval_beq]

/-- a key of type `τ` written as a literal (the examples of Props/C15); that `v` has the type is checked by evaluation -/
def key (τ : CTy) (v : CVal) (h : check τ v = true := by decide) : TVal τ := ⟨v, check_sound τ v h⟩

end Proofs.C15Keys
