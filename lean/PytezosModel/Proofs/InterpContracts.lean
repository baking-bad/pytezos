import PytezosModel.Proofs.InterpBytes
import PytezosModel.Proofs.InterpPack
import PytezosModel.Proofs.InterpUnpack
/-! Contracts and operations: Python's text operations on address texts (`partition('%')`, `_split`, `from_value`) against
the reference's reading of an address text (`addrOf`, `epOf`, `Spec.normAddr`); the mirrors of VOTING_POWER / HASH_KEY (a
table and a function of `env`), ADDRESS / IMPLICIT_ACCOUNT / CONTRACT / SET_DELEGATE / EMIT / TRANSFER_TOKENS /
CHECK_SIGNATURE against their rules; `execUn_eq`, which collects the one-operand mirrors (also NAT, BYTES, PACK, UNPACK of
the imported files). -/
namespace Interp

theorem execVotingPower_eq (env : Env) (a : Val) (h : Spec.votingPowerV env a ≠ .stuck) :
    Impl.execVotingPower env a = Spec.votingPowerV env a := by
  unfold Spec.votingPowerV at h ⊢
  split at h
  · simp [Impl.execVotingPower, numFromValue_eq]
  · exact absurd rfl h

theorem execHashKey_eq (env : Env) (a : Val) (h : Spec.hashKeyV env a ≠ .stuck) :
    Impl.execHashKey env a = Spec.hashKeyV env a := by
  unfold Spec.hashKeyV at h ⊢
  split at h
  · simp [Impl.execHashKey]
  · exact absurd rfl h

theorem pySplit_fst (s : List Nat) : (Impl.pySplit s).1 = addrOf s := rfl

theorem pySplit_snd (s : List Nat) : (Impl.pySplit s).2 = epOf s := by
  unfold Impl.pySplit Impl.pyPartition epOf
  cases h : s.dropWhile (· != 37) with
  | nil => simp
  | cons x e => simp

theorem addrFromValue_eq (s : List Nat) : Impl.addrFromValue s = Spec.normAddr s := rfl

theorem isPkh_eq (a : List Nat) : Impl.isPkh a = isImplicit a := rfl

theorem execAddress_eq (a : Val) (h : Spec.addressV a ≠ .stuck) : Impl.execAddress a = Spec.addressV a := by
  cases a <;> first | (exact absurd rfl h) | rfl

theorem execImplicitAccount_eq (a : Val) (h : Spec.implicitAccountV a ≠ .stuck) :
    Impl.execImplicitAccount a = Spec.implicitAccountV a := by
  unfold Spec.implicitAccountV at h ⊢
  split at h
  · rfl
  · exact absurd rfl h

theorem execContract_eq (t : Ty) (ep : List Nat) (a : Val) (h : Spec.contractV t ep a ≠ .stuck) :
    Impl.execContract t ep a = Spec.contractV t ep a := by
  unfold Spec.contractV at h ⊢
  split at h
  · rename_i s
    simp only [Impl.execContract, pySplit_fst, pySplit_snd, addrFromValue_eq, isPkh_eq, Spec.resolveEp]
    by_cases h1 : epOf s = defaultEp
    · by_cases h2 : ep = defaultEp
      · by_cases h3 : isImplicit (addrOf s) = true <;> by_cases h4 : t = Ty.unit <;> simp [h1, h2, h3, h4]
      · by_cases h3 : isImplicit (addrOf s) = true <;> simp [h1, h2, h3]
    · by_cases h2 : ep = defaultEp
      · by_cases h3 : isImplicit (addrOf s) = true <;> simp [h1, h2, h3]
      · simp [h1, h2]
  · exact absurd rfl h

theorem execSetDelegate_eq (env : Env) (a : Val) (h : Spec.setDelegateV env a ≠ .stuck) :
    Impl.execSetDelegate env a = Spec.setDelegateV env a := by
  unfold Spec.setDelegateV at h ⊢
  split at h
  · rfl
  · rfl
  · exact absurd rfl h

theorem execEmit_eq (env : Env) (tag : List Nat) (t : Ty) (a : Val) : Impl.execEmit env tag t a = Spec.emitV env tag t a := rfl

theorem execTransferTokens_eq (env : Env) (a b c : Val) (h : Spec.transferTokensV env a b c ≠ .stuck) :
    Impl.execTransferTokens env a b c = Spec.transferTokensV env a b c := by
  unfold Spec.transferTokensV at h ⊢
  split at h
  · simp only [Impl.execTransferTokens, pySplit_fst, pySplit_snd]
  · exact absurd rfl h

theorem execCheckSignature_eq (env : Env) (a b c : Val) (_ : Spec.checkSignatureV env a b c ≠ .stuck) :
    Impl.execCheckSignature env a b c = Spec.checkSignatureV env a b c := by
  unfold Impl.execCheckSignature Spec.checkSignatureV
  split
  · rfl
  · rename_i h1
    split
    · exact (h1 _ _ _ rfl rfl rfl).elim
    · rfl

theorem execUn_eq (env : Env) (i : Instr) (a : Val) (h : Spec.unV env i a ≠ .stuck) :
    Impl.execUn env i a = Spec.unV env i a := by
  unfold Spec.unV at h ⊢
  split at h
  · exact execNat_eq a h
  · exact execBytes_eq a h
  · exact execVotingPower_eq env a h
  · exact execHashKey_eq env a h
  · exact execAddress_eq a h
  · exact execImplicitAccount_eq a h
  · exact execContract_eq _ _ a h
  · exact execSetDelegate_eq env a h
  · exact execEmit_eq env _ _ a
  · exact execPack_eq a h
  · exact execUnpack_eq env _ a h
  · exact absurd rfl h

end Interp
