import PytezosModel.Props.C04
#print axioms C04.source_shape
#print axioms C04.pack_micheline
#print axioms C04.pack_eq_spec
#print axioms C04.unpack_pack
#print axioms C04.unpack_pack_plain
#print axioms C04.unpack_none_of_invalid
#print axioms C04.unpack_none_of_bad_prefix
#print axioms C04.unpack_total
#print axioms C04.unpack_value_strict
#print axioms C04.pack_none_of_unpackable
