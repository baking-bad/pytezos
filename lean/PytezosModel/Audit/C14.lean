import PytezosModel.Props.C14
#print axioms C14.source_shapes_recognised
#print axioms C14.literal_accept_iff
#print axioms C14.literal_reject_duplicates
#print axioms C14.set_literal_inv
#print axioms C14.map_literal_inv
#print axioms C14.map_literal_accept_iff
#print axioms C14.set_step_refines
#print axioms C14.set_step_inv
#print axioms C14.step_refines_dict
#print axioms C14.step_inv
#print axioms C14.set_history
#print axioms C14.history_inv
#print axioms C14.history_from_literal
#print axioms C14.obs_set_mem
#print axioms C14.obs_get
#print axioms C14.obs_map_mem
#print axioms C14.obs_get_and_update
#print axioms C14.obs_size_iter
#print axioms C14.obs_set_members
#print axioms C14.get_update_same
#print axioms C14.get_update_other
#print axioms C14.int_strictTotal
#print axioms C14.int_history
