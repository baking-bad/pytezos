import PytezosModel.Proofs.InterpSoundEval
import PytezosModel.Props.C01
/-! C02 — every value the interpreter leaves on the stack has exactly the type the Michelson typing rules
assign to that slot (annotations are not part of the modelled types).

`Typing.typeInstr` is the static type system of the modelled core (annotation-free typing rules written from
the reference); `typeOf` mirrors how pytezos builds the runtime type of a value (`from_items`, `from_some`,
`from_comb`, `create_type`: every `Val` carries the types its Python object carries); `HasTy v t` is deep
well-formedness (every element of a collection, every lambda body) and `StackTy` its pointwise lift.

FULL STATEMENT (properties.jsonl): for every well-typed program and input, every value left on the stack
(and hence the storage taken from it) has exactly the statically assigned type.

* `preservation` proves it at full strength for the reference semantics `Spec.eval`.
* `run_preserves_types` transports it to the mirror of pytezos' machine, `Impl.run`, for every execution
  inside the guard of C01 ("MAP is never applied to an *empty* collection with a type-changing body").
  Outside the guard pytezos really leaves a value of the wrong type (recorded open finding:
  `map_empty_type_counterexample`), so the unguarded statement is false of the code.
* `type_soundness` adds the progress half (C01's `progress`): a well-typed program on well-typed values is never
  stuck; `welltyped_run_preserves_types` is `run_preserves_types` with well-typedness as the hypothesis (no "the
  reference run is not stuck").
* `map_keeps_key_type` is the sentence "instructions that transform collections keep their key and element
  types" for MAP over a map with an arbitrary (composite) key type. -/
namespace C02
open Interp Typing

/- `HasTy` / `StackTy` / `WF` below are the judgements of the generic development (class `Interp.Mode`, Proofs/InterpTyping.lean)
at the Michelson typing rules: `HasTy v t` is `Typing.checkVal false v t = true` (`hasTy_is_checkVal`). -/
local instance : Mode := Mode.lax

/-- what `HasTy` means in this file -/
theorem hasTy_is_checkVal (v : Val) (t : Ty) : HasTy v t ↔ Typing.checkVal false v t = true := Iff.rfl

/-- **type preservation (reference semantics)**: a well-typed instruction run on a stack of the input type
ends with a stack whose every slot is a well-formed value of exactly the statically assigned type. -/
theorem preservation (env : Env) (fuel : Nat) (i : Instr) (st st' : List Val) (ts : List Ty) (tr : TRes)
    (hst : StackTy st ts) (hty : typeInstr false i ts = some tr) (hev : Spec.eval false env fuel i st = .ok st') :
    ∃ ts', tr = .ok ts' ∧ StackTy st' ts' :=
  Interp.preservation env fuel i st st' ts tr hst hty hev

/-- slot by slot: the runtime type pytezos attaches to each final value is the static type of the slot -/
theorem preservation_runtime_types (env : Env) (fuel : Nat) (i : Instr) (st st' : List Val) (ts ts' : List Ty)
    (hst : StackTy st ts) (hty : typeInstr false i ts = some (.ok ts')) (hev : Spec.eval false env fuel i st = .ok st') :
    st'.map typeOf = ts' := by
  obtain ⟨ts'', h1, h2⟩ := preservation env fuel i st st' ts _ hst hty hev
  cases h1
  exact h2.map_typeOf

/-- **the pytezos machine** (`Impl.run`, mirror of `Interpreter.execute` over the protected-prefix stack): for
every program, environment, fuel bound and well-typed input, if the run is inside the guard, its final stack has
exactly the statically assigned types — every slot, deep. -/
theorem run_preserves_types (env : Env) (fuel : Nat) (i : Instr) (st st' : List Val) (ts : List Ty) (tr : TRes)
    (hst : StackTy st ts) (hty : typeInstr false i ts = some tr)
    (hs : Spec.eval true env fuel i st ≠ .stuck) (hg : Spec.eval true env fuel i st ≠ .offguard) (hrun : Impl.run env fuel i st = .ok st') :
    ∃ ts', tr = .ok ts' ∧ StackTy st' ts' ∧ st'.map typeOf = ts' := by
  rw [C01.run_eq_reference env fuel i st hs hg] at hrun
  obtain ⟨ts', h1, h2⟩ := preservation env fuel i st st' ts tr hst hty hrun
  exact ⟨ts', h1, h2, h2.map_typeOf⟩

/-- **type soundness of the reference semantics** = progress + preservation: a well-typed program (typing rules,
well-formed set / map literals) on a stack of well-typed values (`StackTy`, strictly sorted sets / maps) never gets
stuck, and a stack it returns consists of well-typed values of exactly the statically assigned types. -/
theorem type_soundness (env : Env) (fuel : Nat) (i : Instr) (st : List Val) (ts : List Ty) (tr : TRes)
    (hst : StackTy st ts) (hgood : ∀ v ∈ st, litOk v = true) (hlit : literalsOk i = true)
    (hty : typeInstr false i ts = some tr) :
    Spec.eval false env fuel i st ≠ .stuck ∧
    ∀ st', Spec.eval false env fuel i st = .ok st' →
      ∃ ts', tr = .ok ts' ∧ StackTy st' ts' ∧ ∀ v ∈ st', litOk v = true := by
  obtain ⟨hw, hm⟩ := stackTy_iff.mp hst
  subst hm
  have hwf : ∀ v ∈ st, WellFormed v := fun v hv => ⟨hw v hv, hgood v hv⟩
  refine ⟨C01.progress env fuel i st tr hty hwf hlit, fun st' hev => ?_⟩
  obtain ⟨ts', h1, h2⟩ := preservation env fuel i st st' _ tr hst hty hev
  exact ⟨ts', h1, h2, fun v hv => (Interp.wellFormed_preserved env fuel i st st' tr hty hwf hlit hev v hv).2⟩

/-- **the pytezos machine, well-typed programs**: `run_preserves_types` with well-typedness in place of "the reference
run is not stuck" — the typing rules accept the program, the literals are well-formed, the input values are well-typed;
inside C01's guard every final slot of the machine has exactly the statically assigned type. -/
theorem welltyped_run_preserves_types (env : Env) (fuel : Nat) (i : Instr) (st st' : List Val) (ts : List Ty) (tr : TRes)
    (hst : StackTy st ts) (hgood : ∀ v ∈ st, litOk v = true) (hlit : literalsOk i = true)
    (hty : typeInstr false i ts = some tr)
    (hg : Spec.eval true env fuel i st ≠ .offguard) (hrun : Impl.run env fuel i st = .ok st') :
    ∃ ts', tr = .ok ts' ∧ StackTy st' ts' ∧ st'.map typeOf = ts' := by
  obtain ⟨hw, hm⟩ := stackTy_iff.mp hst
  subst hm
  have hwf : ∀ v ∈ st, WellFormed v := fun v hv => ⟨hw v hv, hgood v hv⟩
  rw [C01.welltyped_run_eq_reference env fuel i st tr hty hwf hlit hg] at hrun
  obtain ⟨ts', h1, h2⟩ := preservation env fuel i st st' _ tr hst hty hrun
  exact ⟨ts', h1, h2, h2.map_typeOf⟩

/-- **the pytezos machine, strictly typed programs — static hypotheses only**: for a program accepted by the strict
typing rules (`typeInstr true`: MAP bodies keep the element type; well-formed literals) on strictly well-typed input
values, every final slot of the machine has exactly the statically assigned type.  No guard: C01's
`strict_guard_never_fires`. -/
theorem strict_run_preserves_types (env : Env) (fuel : Nat) (i : Instr) (st st' : List Val) (tr : TRes)
    (hty : typeInstr true i (st.map typeOf) = some tr) (hwf : ∀ v ∈ st, C01.StrictWF v) (hlit : literalsOk i = true)
    (hrun : Impl.run env fuel i st = .ok st') :
    ∃ ts', tr = .ok ts' ∧ StackTy st' ts' ∧ st'.map typeOf = ts' := by
  rw [C01.strict_run_eq_reference env fuel i st tr hty hwf hlit] at hrun
  have hst : StackTy st (st.map typeOf) :=
    stackTy_iff.mpr ⟨fun v hv => (C01.strictWF_wellFormed v (hwf v hv)).1, rfl⟩
  obtain ⟨ts', h1, h2⟩ := preservation env fuel i st st' _ tr hst (C01.strict_typing_is_typing i _ tr hty) hrun
  exact ⟨ts', h1, h2, h2.map_typeOf⟩

/-- a program typed as always failing (FAILWITH in tail position) never returns a stack -/
theorem failing_type_never_returns (env : Env) (fuel : Nat) (i : Instr) (st st' : List Val) (ts : List Ty)
    (hst : StackTy st ts) (hty : typeInstr false i ts = some .failed)
    (hs : Spec.eval true env fuel i st ≠ .stuck) (hg : Spec.eval true env fuel i st ≠ .offguard) : Impl.run env fuel i st ≠ .ok st' := by
  intro hrun
  obtain ⟨ts', h1, _⟩ := run_preserves_types env fuel i st st' ts _ hst hty hs hg hrun
  cases h1

/-- the storage of a contract run: the final stack of a well-typed contract body is one
`pair (list operation) storage`; here, for any result type `pair a b`, both components are well-formed values
of the declared types -/
theorem storage_has_declared_type (env : Env) (fuel : Nat) (i : Instr) (st : List Val) (ts : List Ty) (r : Val) (a b : Ty)
    (hst : StackTy st ts) (hty : typeInstr false i ts = some (.ok [.pair a b]))
    (hs : Spec.eval true env fuel i st ≠ .stuck) (hg : Spec.eval true env fuel i st ≠ .offguard) (hrun : Impl.run env fuel i st = .ok [r]) :
    ∃ x y, r = .pair x y ∧ HasTy x a ∧ HasTy y b ∧ typeOf y = b := by
  obtain ⟨ts', h1, h2, _⟩ := run_preserves_types env fuel i st [r] ts _ hst hty hs hg hrun
  cases h1
  cases h2 with
  | cons hv _ =>
    obtain ⟨x, y, rfl, hx, hy⟩ := hasTy_pair hv
    exact ⟨x, y, rfl, hx, hy, hy.typeOf_eq⟩

/-- **collections keep their key type**: MAP over a `map k v` — for every key type `k`, composite or not —
yields a `map k v'` with the same `k`, `v'` being the type the body leaves on top. -/
theorem map_keeps_key_type (env : Env) (fuel : Nat) (body : Instr) (m : Val) (st st' : List Val)
    (k v v' : Ty) (ts : List Ty)
    (hst : StackTy (m :: st) (.map k v :: ts))
    (hbody : typeInstr false body (.pair k v :: ts) = some (.ok (v' :: ts)))
    (hs : Spec.eval true env fuel (.MAP body) (m :: st) ≠ .stuck)
    (hg : Spec.eval true env fuel (.MAP body) (m :: st) ≠ .offguard)
    (hrun : Impl.run env fuel (.MAP body) (m :: st) = .ok st') :
    ∃ r rest, st' = r :: rest ∧ typeOf r = .map k v' ∧ HasTy r (.map k v') ∧ StackTy rest ts := by
  have hty : typeInstr false (.MAP body) (.map k v :: ts) = some (.ok (.map k v' :: ts)) := by
    simp [typeInstr, hbody]
  obtain ⟨ts', h1, h2, _⟩ := run_preserves_types env fuel (.MAP body) (m :: st) st' _ _ hst hty hs hg hrun
  cases h1
  cases h2 with
  | cons hv hrest => exact ⟨_, _, rfl, hv.typeOf_eq, hv, hrest⟩

/-- the recorded finding on the mirror: the program is well-typed with result `[list int]`, the reference leaves
a `list int`, the pytezos machine a `list timestamp` — outside the guard the statement is false of the code -/
theorem map_empty_type_counterexample :
    typeInstr false (.seq [.NIL .timestamp, .MAP (.seq [.DROP, .PUSH .int (.num .int 0)])]) [] = some (.ok [.list .int]) ∧
    (∃ st', Impl.run C01.env0 5 (.seq [.NIL .timestamp, .MAP (.seq [.DROP, .PUSH .int (.num .int 0)])]) [] = .ok st' ∧
      st'.map typeOf = [.list .timestamp]) := by
  exact ⟨rfl, [.list .timestamp []], C01.map_empty_counterexample.2.1, rfl⟩

-- non-vacuity: MAP { CDR } over `map (pair int int) int` (the shape named in the property) is inside the guard,
-- well-typed, and the hypotheses of `map_keeps_key_type` hold
def mPair : Val := .map (.pair .int .int) .int [.pair (.pair (.num .int 1) (.num .int 2)) (.num .int 3)]
example : StackTy [mPair] [.map (.pair .int .int) .int] :=
  .cons (by rfl) .nil
example : typeInstr false .CDR [.pair (.pair .int .int) .int] = some (.ok [.int]) := by rfl
example : Spec.eval true C01.env0 5 (.MAP .CDR) [mPair] = .ok [mPair] := by rfl

-- right combs: `UPDATE 3` changes the type of one component, `GET 0` / `UPDATE 0` are typed on every type
example : typeInstr false (.seq [.PUSH .string (.str [97]), .UPDATEN 3, .GETN 2]) [.pair .int (.pair .nat .unit)]
    = some (.ok [.pair .string .unit]) := by rfl
example : typeInstr false (.seq [.GETN 0, .UNIT, .UPDATEN 0, .UNIT, .UNIT, .PAIRN 3, .UNPAIRN 2]) [.int]
    = some (.ok [.unit, .pair .unit .unit]) := by rfl
example : StackTy [.pair (.num .int 1) (.pair (.num .nat 2) .unit)] [.pair .int (.pair .nat .unit)] :=
  .cons (by rfl) .nil

-- arithmetic: the result types of EDIV on mutez, AND on int × nat, SUB_MUTEZ
example : typeInstr false (.seq [.EDIV, .SWAP, .AND]) [.mutez, .mutez, .int] = none := by rfl
example : typeInstr false .EDIV [.mutez, .nat] = some (.ok [.option (.pair .mutez .mutez)]) := by rfl
example : typeInstr false (.seq [.AND, .PUSH .nat (.num .nat 3), .LSL]) [.int, .nat] = some (.ok [.nat]) := by rfl
example : typeInstr false .SUB_MUTEZ [.mutez, .mutez] = some (.ok [.option .mutez]) := by rfl

example : typeInstr false (.seq [.EMPTY_SET .nat, .PUSH .bool (.bool true), .PUSH .nat (.num .nat 5), .UPDATE, .PUSH .nat (.num .nat 1), .MEM]) []
    = some (.ok [.bool]) := by rfl
example : typeInstr false .GET_AND_UPDATE [.string, .option .nat, .map .string .nat] = some (.ok [.option .nat, .map .string .nat]) := by rfl
example : typeInstr false .GET [.string, .map .int .nat] = none := by rfl
example : StackTy [C01.mapAB, C01.set13] [.map .string .nat, .set .int] :=
  .cons (by rfl) (.cons (by rfl) .nil)

-- hashing and the remaining environment readers
example : typeInstr false (.seq [.SHA512, .SHA3, .CAST .bytes, .TOTAL_VOTING_POWER, .MIN_BLOCK_TIME, .RENAME]) [.bytes]
    = some (.ok [.nat, .nat, .bytes]) := by rfl
example : typeInstr false (.CAST .int) [.nat] = none := by rfl

-- conversions, NEVER (typed like FAILWITH: only in tail position), VOTING_POWER, HASH_KEY
example : typeInstr false (.seq [.BYTES, .DUP, .NAT, .SWAP, .INT, .BYTES]) [.int] = some (.ok [.bytes, .nat]) := by rfl
example : typeInstr false (.seq [.HASH_KEY, .VOTING_POWER]) [.key] = some (.ok [.nat]) := by rfl
example : typeInstr false .NEVER [.never, .int] = some .failed := by rfl
example : typeInstr false (.seq [.NEVER, .UNIT]) [.never] = none := by rfl
example : typeInstr false .BYTES [.mutez] = none := by rfl
example : typeInstr false (.seq [.SELF [97] .nat, .DUP, .ADDRESS, .CONTRACT .string [98], .SWAP, .PUSH .mutez (.num .mutez 1),
      .PUSH .nat (.num .nat 2), .TRANSFER_TOKENS]) [] = some (.ok [.operation, .option (.contract .string)]) := by rfl
example : typeInstr false (.seq [.IMPLICIT_ACCOUNT, .PUSH .mutez (.num .mutez 1), .PUSH .nat (.num .nat 2), .TRANSFER_TOKENS]) [.keyHash]
    = none := by rfl      -- the parameter has to be `unit`
example : typeInstr false (.seq [.SET_DELEGATE, .SWAP, .EMIT [] .int, .NIL .operation, .SWAP, .CONS, .SWAP, .CONS]) [.option .keyHash, .int]
    = some (.ok [.list .operation]) := by rfl
example : StackTy [.opTransfer [75] [76] [97] 5 (.num .nat 7) .nat, .contract .unit [116]] [.operation, .contract .unit] :=
  .cons (by rfl) (.cons (by rfl) .nil)

-- non-vacuity of `type_soundness` / `welltyped_run_preserves_types`: the hypotheses hold for MAP { CDR } over the map above
example : ∀ v ∈ [mPair], litOk v = true := by simp [mPair, litOk, litOks, simpleComparable]
example : literalsOk (.MAP .CDR) = true := by rfl
example : typeInstr false (.MAP .CDR) [.map (.pair .int .int) .int] = some (.ok [.map (.pair .int .int) .int]) := by rfl

-- non-vacuity of `strict_run_preserves_types`: MAP { CDR } over `map (pair int int) int` keeps the element type, so it is
-- strictly typed; the program of the open finding (a MAP body that turns timestamps into ints) is typed but not strictly
example : typeInstr true (.MAP .CDR) [.map (.pair .int .int) .int] = some (.ok [.map (.pair .int .int) .int]) := by rfl
example : ∀ v ∈ [mPair], C01.StrictWF v := by simp [mPair, C01.StrictWF, checkVal, checkVals, typeOf, litOk, litOks, simpleComparable]
example : typeInstr true (.seq [.NIL .timestamp, .MAP (.seq [.DROP, .PUSH .int (.num .int 0)])]) [] = none := by rfl

end C02
