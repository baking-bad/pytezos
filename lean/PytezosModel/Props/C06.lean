import PytezosModel.Proofs.C06Writer
/-! C06 — local operation forging matches the Tezos operation binary format.

`Impl.OpForge.forgeGroup` is the mirror of `forge_operation_group`: the bodies of the `forge_<kind>` functions are not
transcribed by hand but *run* generically over the field layouts the translator extracts from the source on every run
(`Generated.C06.opLayouts`), with the regenerated `operation_tags`, `reserved_entrypoints`, address and public-key
prefix tables.  `Spec.Op.tezosOps` / `Spec.Op.decodeGroup` is the transcription of the Tezos operation encoding (the
reader restricted to canonical encodings: minimal naturals, 0x00/0xff booleans, reserved entrypoints only by tag,
never an explicit (`default`, `Unit`) parameter).

Full statement (properties.jsonl): for every group of the ten current-protocol kinds with well-formed fields the
forged bytes are the canonical Tezos encoding: decoding them with the Tezos operation encoding returns the same branch
and contents, and different groups never forge to the same bytes.  Here: `forgeGroup_eq_canonical` (the bytes are the
ones the schema's canonical writer produces), `group_roundtrip` and `forgeGroup_injective`, for groups of any length and
naturals of any size.  Well-formedness (`Spec.Op.WFGroup`) = the widths the schema fixes
(20-byte hashes, 32-byte branch, key widths, 96-byte proof), known address / key prefixes, entrypoint names of 1…31
bytes, Micheline over known primitives, at least one content.  base58 (C09/C10), UTF-8 and JSON spelling are outside
(handled at the harness boundary); the Micheline sub-codec is C05's. -/
namespace C06
open Core OpLayout Impl.OpForge Spec.Op
open Generated.C06 (Codec Cond Field)

/-- the helper functions (`forge_tag`, `forge_bool`, `forge_array`, `forge_nat`, `forge_base58`, `forge_entrypoint`,
`forge_operation_group`) have the bodies the mirror was written for, and `has_parameters` recognises Unit structurally -/
theorem source_recognised :
    Generated.C06.helpersAsMirrored = true ∧ Generated.C06.unitTestStructural = some true := by
  decide

/-- **(1) the extracted layouts are the Tezos layouts**: for each of the ten kinds the body of `forge_<kind>` frames
exactly the fields of the Tezos schema, in that order (`eraseL` forgets the widths of fixed-size payloads, which the
Python code takes from its base58 / hex inputs); the tag is the Tezos tag; tags and kinds determine each other. -/
theorem layouts_eq_spec : ∀ row ∈ tezosOps,
    layoutOf row.kind = some (eraseL row.layout) ∧ tagOf row.kind = some row.tag ∧ row.tag < 256 ∧
      rowOfTag row.tag = some row ∧ rowOfKind row.kind = some row := by
  decide +kernel

/-- the regenerated `reserved_entrypoints` is the Tezos table (tags 0–9) -/
theorem reserved_entrypoints_eq_spec : Generated.C06.reservedEntrypoints = some reservedEntrypoints := by
  decide +kernel

/-- `validation_passes` agrees with the Tezos passes of the ten kinds -/
theorem validation_passes_eq_spec : ∀ row ∈ tezosOps,
    Generated.C06.validationPasses.bind (lookup · row.kind) = some row.pass := by
  decide +kernel

/-- the prefix chains of `forge_address` / `forge_public_key` contain the Tezos rows: tz1–tz4 ↦ 00 00…03, KT1 ↦ 01 … 00,
sr1 ↦ 03 … 00, edpk/sppk/p2pk/BLpk ↦ 00…03 -/
theorem address_tables_eq_spec :
    (∀ r ∈ pkhPrefixes, addrRow r.2 = some ([0, r.1], [])) ∧
    (∀ r ∈ originatedPrefixes, addrRow r.2 = some ([r.1], [0])) ∧
    (∀ r ∈ publicKeys, pkTag r.2.1 = some r.1) :=
  C06Proofs.addr_rows

/-- **generic layout round trip** (induction on the layout): whatever a straight-line `forge_<kind>` body writes for a
well-formed record is read back by the schema reader, which stops exactly where the body stopped -/
theorem layout_roundtrip (l : List SField) (r : Record) (hw : WFRecord l r = true) (bs : Bytes)
    (he : encodeL (eraseL l) r = some bs) (rest : Bytes) : decodeL l (bs ++ rest) = some (normL l r, rest) :=
  C06Proofs.rt_writeL l r hw bs (C06Proofs.eq_writeL reserved_entrypoints_eq_spec l r hw ▸ he) rest

/-- **(2) group round trip**: for every well-formed group (any number of contents, any kinds of the ten, naturals of
any size) the forged bytes decode, with the Tezos operation encoding, to the same branch and contents
(`normGroup`: an explicit (`default`, `Unit`) parameter is the absent parameter, as in Tezos) -/
theorem group_roundtrip (g : Group) (hw : WFGroup g = true) (bs : Bytes) (he : forgeGroup g = some bs) :
    decodeGroup bs = some (normGroup g) :=
  C06Proofs.rt_group reserved_entrypoints_eq_spec layouts_eq_spec g hw bs he

/-- **the forged bytes are the canonical bytes**: on every well-formed group the mirror of `forge_operation_group`
writes exactly what the canonical writer of the Tezos schema writes (`Spec.Op.writeGroup` uses the Tezos tables only —
address / key tags, the ten reserved entrypoints by tag, elision of (`default`, `Unit`) — nothing regenerated from the
source; the zarith, length-prefix and Micheline primitives are the shared ones of C05) -/
theorem forgeGroup_eq_canonical (g : Group) (hw : WFGroup g = true) : forgeGroup g = writeGroup g :=
  C06Proofs.eq_writeGroup reserved_entrypoints_eq_spec layouts_eq_spec source_recognised.1 g hw

/-- different groups never forge to the same bytes -/
theorem forgeGroup_injective (g₁ g₂ : Group) (h₁ : WFGroup g₁ = true) (h₂ : WFGroup g₂ = true) (bs : Bytes)
    (f₁ : forgeGroup g₁ = some bs) (f₂ : forgeGroup g₂ = some bs) : normGroup g₁ = normGroup g₂ :=
  C06Proofs.forgeGroup_inj reserved_entrypoints_eq_spec layouts_eq_spec g₁ g₂ h₁ h₂ bs f₁ f₂

/-- **(3) entrypoint codec**: every name of 1…31 bytes round-trips … -/
theorem entrypoint_roundtrip (n : Bytes) (h0 : 0 < n.length) (h31 : n.length ≤ 31) (bs : Bytes)
    (he : forgeEntrypoint n = some bs) (rest : Bytes) : decodeEntrypoint (bs ++ rest) = some (.ep n, rest) :=
  have hw : WFVal .entrypoint (.ep n) = true := by simp [WFVal, h0, h31]
  C06Proofs.rt_entrypoint n hw bs ((C06Proofs.eq_writeC reserved_entrypoints_eq_spec .entrypoint (.ep n) hw).symm.trans he) rest

/-- … and each of the ten reserved names is forged as its single tag byte -/
theorem entrypoint_reserved_canonical : ∀ row ∈ reservedEntrypoints, forgeEntrypoint row.2.1 = some [row.2.2] := by
  decide +kernel

/-- an explicit (`default`, `Unit`) parameter is forged exactly like an absent one -/
theorem default_unit_elided (n : String) (fs : List (String × Codec)) :
    encodeF (.opt n .elideDefaultUnit fs) (.opt (some [.ep defaultName, .mich (.prim 11 [] none)])) =
      encodeF (.opt n .elideDefaultUnit fs) (.opt none) := by
  have h : elided [.ep defaultName, .mich (.prim 11 [] none)] = true := by decide +kernel
  simp [encodeF, h]

/-! non-vacuity: a concrete well-formed group (transaction to the reserved entrypoint `stake` with a 2^200 amount and a
2^64 counter, a tz4 delegation, a BLS reveal with proof) is forged and read back -/
def exampleGroup : Group :=
  ⟨List.replicate 32 1,
   [⟨"transaction", [.req (.addr "tz1" (List.replicate 20 7)), .req (.nat 1000), .req (.nat (2 ^ 64)), .req (.nat 10600),
      .req (.nat 300), .req (.nat (2 ^ 200)), .req (.addr "KT1" (List.replicate 20 9)),
      .opt (some [.ep [115, 116, 97, 107, 101], .mich (.prim 7 [.int (-5), .str [97]] (some [37, 120]))])]⟩,
    ⟨"delegation", [.req (.addr "tz4" (List.replicate 20 3)), .req (.nat 0), .req (.nat 127), .req (.nat 128), .req (.nat 0),
      .opt none]⟩,
    ⟨"reveal", [.req (.addr "tz4" (List.replicate 20 3)), .req (.nat 0), .req (.nat 1), .req (.nat 2), .req (.nat 3),
      .req (.pubkey "BLpk" (List.replicate 48 5)), .opt (some [.raw (List.replicate 96 6)])]⟩]⟩

example : WFGroup exampleGroup = true ∧ (forgeGroup exampleGroup).isSome = true
    ∧ ((forgeGroup exampleGroup).bind decodeGroup).isSome = true := by
  decide +kernel
example : forgeEntrypoint [115, 116, 97, 107, 101] = some [6] := by decide +kernel
-- the canonical reader rejects a reserved name written as a named entrypoint, and non-minimal naturals
example : (decodeEntrypoint [255, 5, 115, 116, 97, 107, 101]).isNone = true := by decide +kernel
example : (decodeN [128, 0]).isNone = true := by decide +kernel
example : WFRecord [.req "x" .entrypoint] [.req (.ep (List.replicate 31 97))] = true
    ∧ WFRecord [.req "x" .entrypoint] [.req (.ep (List.replicate 32 97))] = false := by decide +kernel

end C06
