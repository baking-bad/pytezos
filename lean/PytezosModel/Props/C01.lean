import PytezosModel.Generated.C01Bodies
import PytezosModel.Proofs.InterpTables
import PytezosModel.Proofs.InterpRefine
import PytezosModel.Proofs.InterpGuard
import PytezosModel.Proofs.InterpProgress
import PytezosModel.Proofs.InterpUnpackPack
/-! C01 — the interpreter computes the Michelson result, or fails with the FAILWITH value, that the
reference semantics prescribes.

`Impl.exec` mirrors the `execute` methods and the protected-prefix `MichelsonStack` of pytezos (tied to the
code by the correspondence run); `Spec.eval` is the big-step reference semantics of the modelled core over a
plain list (values carry their types; outcomes: a stack, a FAILWITH value, a runtime failure `rtfail`, out of fuel
`oof`, `stuck` for ill-typed configurations, and — guard mode only — `offguard`).
The modelled core is exactly the constructors of `Interp.Instr`.

FULL STATEMENT (properties.jsonl): for every well-typed program … the interpreter ends with exactly the stack,
or FAILWITH value, of the reference semantics.

* `welltyped_run_eq_reference` is that statement, literally about WELL-TYPED programs: the program is accepted by the
  typing rules (`Typing.typeInstr`, with well-formed set / map literals `Typing.literalsOk`), every input value is a
  well-typed value (`WellFormed`: deep typing + strictly sorted sets / maps); then `Impl.run` returns exactly the
  outcome of the reference semantics — the stack, the FAILWITH value, the runtime failure (mutez overflow, shift by
  more than 256 bits), and it needs more fuel exactly when the reference does.  The only other hypothesis is the
  documented guard: MAP is never applied to an *empty* list / map with a body that changes the element type (the
  guarded reference run does not answer `offguard`).  There pytezos keeps the old element type on the (empty) result —
  its `MapInstruction` cannot know the new one — and a later EXEC/APPLY/CONS/COMPARE may fail its dynamic type
  assertion: a recorded open finding, exhibited on the mirror by `map_empty_counterexample`.
* It rests on `progress` (a well-typed program on well-typed values is never stuck: the progress half of type
  soundness; the preservation half is C02) and on `exec_refines_spec` (refinement for every execution that is not stuck
  and inside the guard, any protected prefix).
* **Tie to the source.**  `Impl` does not contain the `dispatch_types` tables, the shift / mutez / `count` bounds or the
  stack indices: it reads them from `Generated.C01`, which translator/c01.py regenerates from
  src/pytezos/michelson/instructions/*.py and stack.py on every run.  The theorems `*_tables_eq_reference`,
  `numeric_guards_eq_reference` and `stack_indices` below are the obligations that what was read agrees with the
  reference; `exec_refines_spec` is proved from them (Proofs/InterpTables.lean → InterpStack / InterpArith / InterpStep).
  `source_bodies_recognised` is the obligation that the body of every modelled `execute` (and of the helpers / stack /
  comb methods they call) is still the text the mirror was transcribed from. -/
namespace C01
open Interp

/-- **well-typed value** (Michelson typing): a well-formed value of its runtime type — deep, by `Typing.checkVal false`: the
elements of collections, the bodies of lambdas — in which every set and every map with simple comparable keys is
strictly sorted (`Typing.litOk`) -/
def WellFormed (v : Val) : Prop := Typing.checkVal false v (typeOf v) = true ∧ Typing.litOk v = true

/-- **strictly well-typed value**: the same with `Typing.checkVal true` — every lambda inside `v` has a *strictly* typed
body (its MAP bodies keep the element type) -/
def StrictWF (v : Val) : Prop := Typing.checkVal true v (typeOf v) = true ∧ Typing.litOk v = true

/-- **shape digests**: for each of the 102 instruction forms, the helpers (`execute_dip`, `execute_shift`, `dispatch_types`
…) and the `MichelsonStack` / `PairType` / `from_value` methods they call, the normalised statement list in the source
is the one the mirror `Impl` was written from (translator/c01.py, `SHAPES`) -/
theorem source_bodies_recognised : Generated.C01.bodyRecognised.all (·.2) = true := by decide

/-- the digest list covers all 102 instruction forms -/
theorem source_bodies_cover_all_forms : Generated.C01.modelledForms = 102 ∧ 102 ≤ Generated.C01.bodyRecognised.length := by
  decide +kernel

/-- the `dispatch_types` tables read from arithmetic.py are the reference tables -/
theorem arithmetic_tables_eq_reference :
    Impl.addTy = Spec.addTy ∧ Impl.subTy = Spec.subTy ∧ Impl.mulTy = Spec.mulTy ∧ Impl.edivTy = Spec.edivTy ∧
    (∀ a, Impl.negTy a = ruleTy1 .NEG [a]) :=
  ⟨addTy_eq, subTy_eq, mulTy_eq, edivTy_eq, negTy_eq⟩

/-- the tables of boolean.py: result classes of the typing rules, `bool` / `int` / `~int(x)` / `not bool(x)` converters -/
theorem boolean_tables_eq_reference :
    (∀ a b, Impl.convRow Generated.C01.andTable [a, b]
        = (Typing.andTy a b).map fun t => (t, if t = Ty.bool then Generated.C01.Conv.bool else .int)) ∧
    (∀ a b, Impl.convRow Generated.C01.boolAddTable [a, b]
        = (Typing.orTy a b).map fun t => (t, if t = Ty.bool then Generated.C01.Conv.bool else .int)) ∧
    (∀ a, Impl.convRow Generated.C01.notTable [a]
        = (ruleTy1 .NOT [a]).map fun t => (t, if t = Ty.bool then Generated.C01.Conv.not else .invert)) :=
  ⟨andRow_eq, orRow_eq, notRow_eq⟩

/-- the tables / operand classes of generic.py (CONCAT, SIZE, SLICE) -/
theorem generic_tables_eq_reference :
    (∀ t, Impl.convRow Generated.C01.concatListTable [t]
        = (ruleTy1 .CONCAT [.list t]).map fun r => (r, if r = Ty.string then Generated.C01.Conv.str else .bytes)) ∧
    (∀ a b, Impl.convRow Generated.C01.concatPairTable [a, b]
        = (match a with | .list _ => none | _ => ruleTy1 .CONCAT [a, b]).map
            fun r => (r, if r = Ty.string then Generated.C01.Conv.str else .bytes)) ∧
    (∀ t, Impl.classIn Generated.C01.sizeClasses t = (Typing.step .SIZE [t]).isSome) ∧
    (∀ t, Impl.classIn Generated.C01.sliceOffsetClass t = decide (t = .nat)) ∧
    (∀ t, Impl.classIn Generated.C01.sliceLengthClass t = decide (t = .nat)) ∧
    (∀ t, Impl.classIn Generated.C01.sliceClasses t = (Typing.step .SLICE [.nat, .nat, t]).isSome) :=
  ⟨concatListRow_eq, concatPairRow_eq, sizeClasses_eq, sliceOffsetClass_eq, sliceLengthClass_eq, sliceClasses_eq⟩

/-- the numbers read from the source: shifts by at most 256 bits, `nat` / `mutez` ranges (`value >= 0`, at most 63 bits),
`PAIR n` / `UNPAIR n` need `n ≥ 2`, `unpairn_comb(count - 2)` -/
theorem numeric_guards_eq_reference :
    Generated.C01.shiftLimit = some 257 ∧ Impl.numFromValue = Spec.numOk ∧ Generated.C01.pairnMin = some 2 ∧
    Generated.C01.unpairnMin = some 2 ∧ Generated.C01.unpairnCombOffset = some 2 :=
  ⟨shiftLimit_eq, numFromValue_eq, pairnMin_eq, unpairnMin_eq, unpairnCombOffset_eq⟩

/-- `MichelsonStack.push / pop / peek` work at index `self.protected` -/
theorem stack_indices :
    Generated.C01.pushIndex = some .atProtected ∧ Generated.C01.popIndex = some .atProtected ∧
    Generated.C01.peekIndex = some .atProtected :=
  ⟨pushIndex_eq, popIndex_eq, peekIndex_eq⟩

/-- **refinement, any protected prefix** (the form used inside DIP / DIG / DUG / DUP n):
for every program, fuel bound, environment, visible stack `st` and protected prefix `pre`, if the reference
semantics is not stuck and stays inside the guard, the pytezos machine started on `pre ++ st` with `pre` protected
has the reference outcome: the same stack under the same prefix, the same FAILWITH value, a runtime failure (mutez
overflow, shift by more than 256 bits) exactly where the reference fails, and it exhausts the fuel bound exactly when
the reference does. -/
theorem exec_refines_spec (env : Env) (fuel : Nat) (i : Instr) (pre st : List Val)
    (h : Spec.eval true env fuel i st ≠ .stuck) (hg : Spec.eval true env fuel i st ≠ .offguard) :
    Impl.exec env fuel i (stk pre st) = (Spec.eval true env fuel i st).map' (stk pre) :=
  Interp.exec_refines_spec env fuel i pre st h hg

/-- a REPL / contract run on the stack `st`: the guarded reference outcome, whatever it is -/
theorem run_eq_guarded (env : Env) (fuel : Nat) (i : Instr) (st : List Val)
    (h : Spec.eval true env fuel i st ≠ .stuck) (hg : Spec.eval true env fuel i st ≠ .offguard) :
    Impl.run env fuel i st = Spec.eval true env fuel i st := by
  have := Interp.exec_refines_spec env fuel i [] st h hg
  simp only [stk, List.nil_append, List.length_nil] at this
  rw [Impl.run, this]
  cases Spec.eval true env fuel i st <;> rfl

/-- a REPL / contract run: final stack -/
theorem run_ok (env : Env) (fuel : Nat) (i : Instr) (st st' : List Val)
    (h : Spec.eval true env fuel i st = .ok st') : Impl.run env fuel i st = .ok st' := by
  rw [run_eq_guarded env fuel i st (by rw [h]; nofun) (by rw [h]; nofun), h]

/-- a REPL / contract run: FAILWITH value -/
theorem run_failwith (env : Env) (fuel : Nat) (i : Instr) (st : List Val) (v : Val)
    (h : Spec.eval true env fuel i st = .failed v) : Impl.run env fuel i st = .failed v := by
  rw [run_eq_guarded env fuel i st (by rw [h]; nofun) (by rw [h]; nofun), h]

/-- a REPL / contract run: runtime failure (mutez overflow / underflow, shift by more than 256 bits) -/
theorem run_rtfail (env : Env) (fuel : Nat) (i : Instr) (st : List Val)
    (h : Spec.eval true env fuel i st = .rtfail) : Impl.run env fuel i st = .rtfail := by
  rw [run_eq_guarded env fuel i st (by rw [h]; nofun) (by rw [h]; nofun), h]

/-- the guard only removes behaviours: a reference execution that stays inside the guard is a reference execution -/
theorem guarded_is_reference (env : Env) (fuel : Nat) (i : Instr) (st : List Val)
    (hg : Spec.eval true env fuel i st ≠ .offguard) : Spec.eval false env fuel i st = Spec.eval true env fuel i st :=
  Interp.eval_guard env fuel i st hg

/-- corollary in terms of the unguarded reference semantics -/
theorem run_eq_reference (env : Env) (fuel : Nat) (i : Instr) (st : List Val)
    (h : Spec.eval true env fuel i st ≠ .stuck) (hg : Spec.eval true env fuel i st ≠ .offguard) :
    Impl.run env fuel i st = Spec.eval false env fuel i st := by
  rw [guarded_is_reference env fuel i st hg]
  exact run_eq_guarded env fuel i st h hg

section
/- the generic development (Proofs/InterpTyping … InterpProgress, class `Interp.Mode`) at the Michelson typing rules and the
plain reference semantics -/
local instance : Mode := Mode.lax

/-- **progress** (the half of type soundness C02 does not prove): a well-typed program — accepted by the typing rules,
all its set / map literals well-formed — run on well-typed values is never stuck: for every environment and fuel bound
the reference semantics yields a stack, a FAILWITH value, a runtime failure, or runs out of fuel. -/
theorem progress (env : Env) (fuel : Nat) (i : Instr) (st : List Val) (tr : TRes)
    (hty : Typing.typeInstr false i (st.map typeOf) = some tr) (hwf : ∀ v ∈ st, WellFormed v)
    (hlit : Typing.literalsOk i = true) : Spec.eval false env fuel i st ≠ .stuck :=
  Interp.progress env fuel i st tr hty hwf hlit

/-- the four outcomes of a well-typed program; a returned stack consists of well-typed values of the static types -/
theorem welltyped_outcomes (env : Env) (fuel : Nat) (i : Instr) (st : List Val) (tr : TRes)
    (hty : Typing.typeInstr false i (st.map typeOf) = some tr) (hwf : ∀ v ∈ st, WellFormed v)
    (hlit : Typing.literalsOk i = true) :
    (∃ st', Spec.eval false env fuel i st = .ok st' ∧ (∀ v ∈ st', WellFormed v) ∧ tr = .ok (st'.map typeOf)) ∨
    (∃ v, Spec.eval false env fuel i st = .failed v) ∨
    Spec.eval false env fuel i st = .rtfail ∨ Spec.eval false env fuel i st = .oof := by
  have h1 := Interp.progress env fuel i st tr hty hwf hlit
  have h2 := Interp.eval_ne_offguard env fuel i st tr hty hwf hlit
  cases hq : Spec.eval false env fuel i st with
  | ok st' =>
    refine Or.inl ⟨st', rfl, Interp.wellFormed_preserved env fuel i st st' tr hty hwf hlit hq, ?_⟩
    exact ((sound_all env fuel).1 i st st' tr (fun v hv => (hwf v hv).1) hq hty).2
  | failed v => exact Or.inr (Or.inl ⟨v, rfl⟩)
  | rtfail => exact Or.inr (Or.inr (Or.inl rfl))
  | oof => exact Or.inr (Or.inr (Or.inr rfl))
  | stuck => exact absurd hq h1
  | offguard => exact absurd hq h2

/-- **C01 for well-typed programs.**  For every program accepted by the typing rules (with well-formed literals), every
environment, fuel bound and input stack of well-typed values: if the run stays inside the documented guard (MAP is not
applied to an empty collection with a type-changing body), the pytezos machine returns exactly the outcome of the
reference semantics.  There is no hypothesis that the reference run is defined: well-typedness gives it (`progress`). -/
theorem welltyped_run_eq_reference (env : Env) (fuel : Nat) (i : Instr) (st : List Val) (tr : TRes)
    (hty : Typing.typeInstr false i (st.map typeOf) = some tr) (hwf : ∀ v ∈ st, WellFormed v)
    (hlit : Typing.literalsOk i = true)
    (hguard : Spec.eval true env fuel i st ≠ .offguard) :
    Impl.run env fuel i st = Spec.eval false env fuel i st := by
  have hp : Spec.eval false env fuel i st ≠ .stuck := Interp.progress env fuel i st tr hty hwf hlit
  rw [guarded_is_reference env fuel i st hguard] at hp
  exact run_eq_reference env fuel i st hp hguard

/-- the same, spelled out for a run that terminates within the fuel bound: the machine ends with exactly the stack,
FAILWITH value or runtime failure of the reference semantics, and these are the only possibilities; a final stack
consists of well-typed values of the statically assigned types. -/
theorem welltyped_terminating_run (env : Env) (fuel : Nat) (i : Instr) (st : List Val) (tr : TRes)
    (hty : Typing.typeInstr false i (st.map typeOf) = some tr) (hwf : ∀ v ∈ st, WellFormed v)
    (hlit : Typing.literalsOk i = true)
    (hterm : Spec.eval false env fuel i st ≠ .oof)
    (hguard : Spec.eval true env fuel i st ≠ .offguard) :
    (∃ st', Spec.eval false env fuel i st = .ok st' ∧ Impl.run env fuel i st = .ok st' ∧
        (∀ v ∈ st', WellFormed v) ∧ tr = .ok (st'.map typeOf)) ∨
    (∃ v, Spec.eval false env fuel i st = .failed v ∧ Impl.run env fuel i st = .failed v) ∨
    (Spec.eval false env fuel i st = .rtfail ∧ Impl.run env fuel i st = .rtfail) := by
  have hrun := welltyped_run_eq_reference env fuel i st tr hty hwf hlit hguard
  rcases welltyped_outcomes env fuel i st tr hty hwf hlit with ⟨st', h, hw, ht⟩ | ⟨v, h⟩ | h | h
  · exact Or.inl ⟨st', h, by rw [hrun, h], hw, ht⟩
  · exact Or.inr (Or.inl ⟨v, h, by rw [hrun, h]⟩)
  · exact Or.inr (Or.inr ⟨h, by rw [hrun, h]⟩)
  · exact absurd h hterm

/-- a contract / REPL run starts on the empty stack: there the only hypotheses are the static ones and the guard -/
theorem welltyped_program_run (env : Env) (fuel : Nat) (i : Instr) (tr : TRes)
    (hty : Typing.typeInstr false i [] = some tr) (hlit : Typing.literalsOk i = true)
    (hguard : Spec.eval true env fuel i [] ≠ .offguard) :
    Impl.run env fuel i [] = Spec.eval false env fuel i [] ∧ Spec.eval false env fuel i [] ≠ .stuck :=
  ⟨welltyped_run_eq_reference env fuel i [] tr hty (by simp) hlit hguard,
   progress env fuel i [] tr hty (by simp) hlit⟩
end

/-! ### Strictly typed programs: the guard is a static property

`Typing.typeInstr true` is `Typing.typeInstr false` with one more requirement: the body of every MAP — in the program, in
the PUSHed lambda literals, in LAMBDA bodies — leaves an element of the type it was given.  For such programs, run on
strictly well-typed values (`StrictWF`: the lambdas on the input stack have strictly typed bodies too), the guard of
`welltyped_run_eq_reference` never fires, so C01's statement holds with static hypotheses only.  The invariant "every
lambda on the stack has a strictly typed body" is carried through all 102 instruction forms by the same preservation /
progress development as the non-strict one, instantiated at the mode `Mode.strictGuarded`. -/

/-- strict typing refines typing: same result -/
theorem strict_typing_is_typing (i : Instr) (s : List Ty) (tr : TRes)
    (h : Typing.typeInstr true i s = some tr) : Typing.typeInstr false i s = some tr :=
  Interp.strict_imp_lax.1 i s tr h

/-- a strictly well-typed value is a well-typed value -/
theorem strictWF_wellFormed (v : Val) (h : StrictWF v) : WellFormed v :=
  ⟨Interp.strict_imp_lax.2.1 v (typeOf v) h.1, h.2⟩

section
local instance : Mode := Mode.strictGuarded

/-- **the guard never fires on a strictly typed program**: for every environment and fuel bound, the *guarded* reference
semantics of a strictly typed program (well-formed literals) on strictly well-typed values does not answer `offguard` — MAP is
never applied to an empty collection with a type-changing body, because there is no type-changing body. -/
theorem strict_guard_never_fires (env : Env) (fuel : Nat) (i : Instr) (st : List Val) (tr : TRes)
    (hty : Typing.typeInstr true i (st.map typeOf) = some tr) (hwf : ∀ v ∈ st, StrictWF v)
    (hlit : Typing.literalsOk i = true) : Spec.eval true env fuel i st ≠ .offguard :=
  Interp.eval_ne_offguard env fuel i st tr hty hwf hlit

/-- the invariant behind it, preserved through every instruction form: a strictly typed program leaves strictly well-typed
values of the static types (in particular every lambda it leaves has a strictly typed body) -/
theorem strict_invariant_preserved (env : Env) (fuel : Nat) (i : Instr) (st st' : List Val) (tr : TRes)
    (hty : Typing.typeInstr true i (st.map typeOf) = some tr) (hwf : ∀ v ∈ st, StrictWF v)
    (hlit : Typing.literalsOk i = true) (hev : Spec.eval true env fuel i st = .ok st') :
    (∀ v ∈ st', StrictWF v) ∧ tr = .ok (st'.map typeOf) :=
  ⟨Interp.wellFormed_preserved env fuel i st st' tr hty hwf hlit hev,
   ((sound_all env fuel).1 i st st' tr (fun v hv => (hwf v hv).1) (Interp.eval_ok_plain hev) hty).2⟩
end

/-- **C01 for strictly typed programs — static hypotheses only.**  For every program accepted by the strict typing rules
(`Typing.typeInstr true`; set / map literals well-formed), every environment, every fuel bound and every input stack of
strictly well-typed values, the pytezos machine returns exactly the outcome of the (unguarded) reference semantics: the
same stack, the same FAILWITH value, the same runtime failure, out of fuel exactly when the reference is. -/
theorem strict_run_eq_reference (env : Env) (fuel : Nat) (i : Instr) (st : List Val) (tr : TRes)
    (hty : Typing.typeInstr true i (st.map typeOf) = some tr) (hwf : ∀ v ∈ st, StrictWF v)
    (hlit : Typing.literalsOk i = true) :
    Impl.run env fuel i st = Spec.eval false env fuel i st :=
  welltyped_run_eq_reference env fuel i st tr (strict_typing_is_typing i _ tr hty)
    (fun v hv => strictWF_wellFormed v (hwf v hv)) hlit (strict_guard_never_fires env fuel i st tr hty hwf hlit)

/-- spelled out for a terminating run: exactly the stack / FAILWITH value / runtime failure of the reference, nothing else;
a final stack consists of well-typed values of the static types -/
theorem strict_terminating_run (env : Env) (fuel : Nat) (i : Instr) (st : List Val) (tr : TRes)
    (hty : Typing.typeInstr true i (st.map typeOf) = some tr) (hwf : ∀ v ∈ st, StrictWF v)
    (hlit : Typing.literalsOk i = true) (hterm : Spec.eval false env fuel i st ≠ .oof) :
    (∃ st', Spec.eval false env fuel i st = .ok st' ∧ Impl.run env fuel i st = .ok st' ∧
        (∀ v ∈ st', WellFormed v) ∧ tr = .ok (st'.map typeOf)) ∨
    (∃ v, Spec.eval false env fuel i st = .failed v ∧ Impl.run env fuel i st = .failed v) ∨
    (Spec.eval false env fuel i st = .rtfail ∧ Impl.run env fuel i st = .rtfail) :=
  welltyped_terminating_run env fuel i st tr (strict_typing_is_typing i _ tr hty)
    (fun v hv => strictWF_wellFormed v (hwf v hv)) hlit hterm (strict_guard_never_fires env fuel i st tr hty hwf hlit)

/-- a contract / REPL run starts on the empty stack: the hypotheses are a check of the program text -/
theorem strict_program_run (env : Env) (fuel : Nat) (i : Instr) (tr : TRes)
    (hty : Typing.typeInstr true i [] = some tr) (hlit : Typing.literalsOk i = true) :
    Impl.run env fuel i [] = Spec.eval false env fuel i [] ∧ Spec.eval false env fuel i [] ≠ .stuck :=
  welltyped_program_run env fuel i tr (strict_typing_is_typing i _ tr hty) hlit
    (strict_guard_never_fires env fuel i [] tr hty (by simp) hlit)

/-- **`UNPACK t (PACK v) = Some v`**.  For every type `t` UNPACK is modelled for (`Typing.unpackable`),
every well-typed value `v` of type `t` whose strings are Michelson strings (`Interp.strOk`: printable ASCII and newlines — the
typing of the model does not say it), and every environment: the bytes pytezos' PACK answers for `v` are turned back into
`Some v` by its UNPACK at `t`.  (The reference semantics has the same property: `Interp.unpackV_packV`.) -/
theorem unpack_pack (env : Env) (v : Val) (t : Ty) (bs : List Nat)
    (hu : Typing.unpackable t = true) (hwf : WellFormed v) (ht : typeOf v = t) (hs : Interp.strOk v = true)
    (hp : Impl.execPack v = .ok (.bytes bs)) : Impl.execUnpack env t (.bytes bs) = .ok (.some v) :=
  Interp.execUnpack_execPack env false v t bs hu (ht ▸ hwf.1) hwf.2 hs hp

/-- the same as a run of the machine: `PACK ; UNPACK t` on a stack with `v` on top leaves `Some v` on top — or fails at run time
when the serialization reaches 2^32 bytes -/
theorem pack_unpack_run (env : Env) (fuel : Nat) (v : Val) (t : Ty) (st : List Val)
    (hu : Typing.unpackable t = true) (hwf : WellFormed v) (ht : typeOf v = t) (hs : Interp.strOk v = true) :
    Impl.run env (fuel + 4) (.seq [.PACK, .UNPACK t]) (v :: st) = .ok (.some v :: st) ∨
    Impl.run env (fuel + 4) (.seq [.PACK, .UNPACK t]) (v :: st) = .rtfail := by
  have hp : Typing.packable (typeOf v) = true := Interp.unpackable_packable (ht ▸ hu)
  rcases Interp.packV_outcome v hp (Interp.optBoth_some false v (typeOf v) hwf.1 hp) with ⟨bs, hq⟩ | hq
  · have hun := Interp.unpackV_packV env false v t bs hu (ht ▸ hwf.1) hwf.2 hs hq
    refine .inl (run_ok env (fuel + 4) _ _ _ ?_)
    -- with fuel 4 or more (the `seq`, its two steps, the instruction) the reference run unfolds to the two value-level rules
    show ((Spec.packV v).bind _).bind _ = _
    rw [hq]
    show ((Spec.unpackV env t (.bytes bs)).bind _).bind _ = _
    rw [hun]
    rfl
  · refine .inr (run_rtfail env (fuel + 4) _ _ ?_)
    show ((Spec.packV v).bind _).bind _ = _
    rw [hq]
    rfl

/-- the stack discipline alone: DIP n through `protect`/`restore` is `take`/`drop` on the visible stack, for every
depth, stack and prefix -/
theorem dip_n_spec (env : Env) (fuel n : Nat) (body : Instr) (pre st st' : List Val) (hn : n ≤ st.length)
    (h : Spec.eval true env fuel body (st.drop n) = .ok st') :
    Impl.exec env (fuel + 1) (.DIPN n body) (stk pre st) = .ok (stk pre (st.take n ++ st')) := by
  have hs : Spec.eval true env (fuel + 1) (.DIPN n body) st = .ok (st.take n ++ st') :=
    (if_pos hn).trans (by rw [h]; rfl)
  rw [Interp.exec_refines_spec env (fuel + 1) (.DIPN n body) pre st (by rw [hs]; nofun) (by rw [hs]; nofun), hs]
  rfl

def env0 : Env := { amount := 0, balance := 0, sender := [], source := [], self := [], now := 0, level := 1, chainId := [] }

/-- the recorded finding on the mirror: `NIL timestamp ; MAP { DROP ; PUSH int 0 }` — the reference result is an
empty `list int`, the pytezos machine leaves an empty `list timestamp` -/
theorem map_empty_counterexample :
    Spec.eval false env0 5 (.seq [.NIL .timestamp, .MAP (.seq [.DROP, .PUSH .int (.num .int 0)])]) []
      = .ok [.list .int []] ∧
    Impl.run env0 5 (.seq [.NIL .timestamp, .MAP (.seq [.DROP, .PUSH .int (.num .int 0)])]) []
      = .ok [.list .timestamp []] ∧
    Spec.eval true env0 5 (.seq [.NIL .timestamp, .MAP (.seq [.DROP, .PUSH .int (.num .int 0)])]) [] = .offguard := by
  exact ⟨rfl, rfl, rfl⟩

-- non-vacuity of the hypotheses of `exec_refines_spec`: a DIP, a lambda call and a FAILWITH, neither stuck nor outside the guard
example : Spec.eval true env0 20
    (.seq [.PUSH .int (.num .int 3), .PUSH .int (.num .int 4), .DIP (.seq [.DUP, .ADD]), .PAIR,
           .LAMBDA (.pair .int .int) .int (.seq [.UNPAIR, .MUL]), .SWAP, .EXEC]) []
    = .ok [.num .int 24] := by rfl
example : Spec.eval true env0 20 (.seq [.PUSH .string (.str [97]), .FAILWITH]) [] = .failed (.str [97]) := by rfl

-- right combs: PAIR n, GET n (k CDRs), UPDATE n, UNPAIR n, and the identity cases `GET 0` / `UPDATE 0` on non-pairs
example : Spec.eval true env0 20
    (.seq [.PUSH .int (.num .int 3), .PUSH .nat (.num .nat 2), .UNIT, .PAIRN 3, .DUP, .GETN 4, .UPDATEN 1, .UNPAIRN 3]) []
    = .ok [.num .int 3, .num .nat 2, .num .int 3] := by rfl
example : Spec.eval true env0 20 (.seq [.UNIT, .GETN 0, .PUSH .int (.num .int 1), .UPDATEN 0]) [] = .ok [.num .int 1] := by rfl
example : Impl.run env0 20 (.seq [.PUSH .int (.num .int 3), .PUSH .nat (.num .nat 2), .UNIT, .PAIRN 3, .UNPAIRN 2]) []
    = .ok [.unit, .pair (.num .nat 2) (.num .int 3)] :=
  run_ok env0 20 _ [] _ (by rfl)

-- arithmetic: Euclidean division with a negative dividend and divisor (`-7 = 3 * (-3) + 2`), division by zero,
-- two's complement AND of a negative int with a nat, shifts at the bound, SUB_MUTEZ underflow
example : Spec.eval true env0 20 (.seq [.PUSH .int (.num .int (-3)), .PUSH .int (.num .int (-7)), .EDIV]) []
    = .ok [.some (.pair (.num .int 3) (.num .nat 2))] := by rfl
example : Spec.eval true env0 20 (.seq [.PUSH .nat (.num .nat 0), .PUSH .mutez (.num .mutez 5), .EDIV]) []
    = .ok [.none (.pair .mutez .mutez)] := by rfl
example : Spec.eval true env0 20 (.seq [.PUSH .nat (.num .nat 13), .PUSH .int (.num .int (-3)), .AND]) [] = .ok [.num .nat 13] := by rfl
example : Spec.eval true env0 20 (.seq [.PUSH .nat (.num .nat 256), .PUSH .nat (.num .nat 1), .LSL, .PUSH .nat (.num .nat 256), .SWAP, .LSR]) []
    = .ok [.num .nat 1] := by rfl
example : Spec.eval true env0 20 (.seq [.PUSH .mutez (.num .mutez 2), .PUSH .mutez (.num .mutez 1), .SUB_MUTEZ]) [] = .ok [.none .mutez] := by rfl
example : Impl.run env0 20 (.seq [.PUSH .int (.num .int (-3)), .PUSH .int (.num .int (-7)), .EDIV]) []
    = .ok [.some (.pair (.num .int 3) (.num .nat 2))] :=
  run_ok env0 20 _ [] _ (by rfl)

-- sets and maps: ordered insertion in the middle, membership of the last element, removal, lookup of a bound and of an
-- unbound key, GET_AND_UPDATE returning the old binding
def set13 : Val := .set .int [.num .int 1, .num .int 3]
def mapAB : Val := .map .string .nat [.pair (.str [97]) (.num .nat 1), .pair (.str [98]) (.num .nat 2)]
example : Spec.eval true env0 20
    (.seq [.PUSH (.set .int) set13, .PUSH .bool (.bool true), .PUSH .int (.num .int 2), .UPDATE, .DUP, .PUSH .int (.num .int 3), .MEM]) []
    = .ok [.bool true, .set .int [.num .int 1, .num .int 2, .num .int 3]] := by rfl
example : Spec.eval true env0 20
    (.seq [.PUSH (.set .int) set13, .PUSH .bool (.bool false), .PUSH .int (.num .int 1), .UPDATE, .SIZE]) [] = .ok [.num .nat 1] := by rfl
example : Spec.eval true env0 20
    (.seq [.PUSH (.map .string .nat) mapAB, .DUP, .PUSH .string (.str [98]), .GET, .SWAP, .PUSH .string (.str [97, 97]), .GET]) []
    = .ok [.none .nat, .some (.num .nat 2)] := by rfl
example : Spec.eval true env0 20
    (.seq [.PUSH (.map .string .nat) mapAB, .PUSH (.option .nat) (.none .nat), .PUSH .string (.str [97]), .GET_AND_UPDATE]) []
    = .ok [.some (.num .nat 1), .map .string .nat [.pair (.str [98]) (.num .nat 2)]] := by rfl
example : Impl.run env0 20
    (.seq [.EMPTY_SET .nat, .PUSH .bool (.bool true), .PUSH .nat (.num .nat 5), .UPDATE, .PUSH .bool (.bool true), .PUSH .nat (.num .nat 2), .UPDATE]) []
    = .ok [.set .nat [.num .nat 2, .num .nat 5]] :=
  run_ok env0 20 _ [] _ (by rfl)
-- an ill-formed (unsorted) set is outside the reference rules, and its literal is not a well-formed literal
example : Spec.eval true env0 20 (.seq [.PUSH (.set .int) (.set .int [.num .int 3, .num .int 1]), .PUSH .int (.num .int 1), .MEM]) [] = .stuck := by rfl
example : Typing.literalsOk (.PUSH (.set .int) (.set .int [.num .int 3, .num .int 1])) = false := by rfl

-- hashing: for EVERY choice of the five hash functions the machine pushes the function's value (here an arbitrary `h`)
example (h : Hashes) (b : List Nat) :
    Impl.run { env0 with hashes := h } 20 (.seq [.PUSH .bytes (.bytes b), .SHA256, .BLAKE2B, .KECCAK]) []
      = .ok [.bytes (h.keccak (h.blake2b (h.sha256 b)))] :=
  run_ok _ 20 _ [] _ (by rfl)
example : Spec.eval true { env0 with totalVotingPower := 7, minBlockTime := 15 } 20
    (.seq [.TOTAL_VOTING_POWER, .CAST .nat, .RENAME, .MIN_BLOCK_TIME]) [] = .ok [.num .nat 15, .num .nat 7] := by rfl

-- conversions.  BYTES gives the shortest big-endian / two's complement encoding (0 ↦ empty, a sign byte only where
-- needed), NAT / INT read it back (leading zero bytes allowed, the empty string is 0)
example : Spec.eval true env0 20 (.seq [.PUSH .int (.num .int (-129)), .BYTES]) [] = .ok [.bytes [255, 127]] := by rfl
example : Spec.eval true env0 20 (.seq [.PUSH .int (.num .int 128), .BYTES, .PUSH .int (.num .int (-128)), .BYTES]) []
    = .ok [.bytes [128], .bytes [0, 128]] := by rfl
example : Spec.eval true env0 20 (.seq [.PUSH .int (.num .int 0), .BYTES, .PUSH .nat (.num .nat 0), .BYTES, .PUSH .nat (.num .nat 256), .BYTES]) []
    = .ok [.bytes [1, 0], .bytes [], .bytes []] := by rfl
example : Spec.eval true env0 20 (.seq [.PUSH .bytes (.bytes [255]), .INT, .PUSH .bytes (.bytes [0, 255]), .INT, .PUSH .bytes (.bytes []), .INT,
      .PUSH .bytes (.bytes [0, 1, 0]), .NAT]) []
    = .ok [.num .nat 256, .num .int 0, .num .int 255, .num .int (-1)] := by rfl
example : Impl.run env0 20 (.seq [.PUSH .int (.num .int (-32769)), .BYTES, .DUP, .INT]) []
    = .ok [.num .int (-32769), .bytes [255, 127, 255]] :=
  run_ok env0 20 _ [] _ (by rfl)
-- NEVER closes a branch that cannot be taken: the program is well-typed (the branch has every type) and runs
example : Typing.typeInstr false (.seq [.PUSH (.or .never .int) (.right .never (.num .int 5)), .IF_LEFT .NEVER (.seq [])]) []
    = some (.ok [.int]) := by rfl
example : Impl.run env0 20 (.seq [.PUSH (.or .never .int) (.right .never (.num .int 5)), .IF_LEFT .NEVER (.seq [])]) []
    = .ok [.num .int 5] :=
  run_ok env0 20 _ [] _ (by rfl)
-- VOTING_POWER / HASH_KEY: for EVERY voting-power table and key-hashing function of the environment
example (vp : List Nat → Int) (h : Hashes) (k : List Nat) (hv : 0 ≤ vp (h.hashKey k)) :
    Impl.run { env0 with votingPower := vp, hashes := h } 20 (.seq [.PUSH .key (.atom .key k), .HASH_KEY, .DUP, .VOTING_POWER]) []
      = .ok [.num .nat (vp (h.hashKey k)), .atom .keyHash (h.hashKey k)] :=
  run_ok _ 20 _ [] _ (by
    show ((Spec.numOk .nat (vp (h.hashKey k))).bind _).bind _ = _
    rw [show Spec.numOk .nat (vp (h.hashKey k)) = .ok (.num .nat (vp (h.hashKey k))) from if_pos hv]
    rfl)

-- contracts and operations (address texts as character codes: `KT1` = [75, 84, 49], `tz1` = [116, 122, 49], `%` = 37,
-- `a` = [97], `b` = [98]).  The address of a handle names its entrypoint, and CONTRACT finds the entrypoint again; an address
-- that names an entrypoint cannot be asked for another one; an implicit account is a `contract unit` only
def envC : Env := { env0 with self := [75, 84, 49] }
example : Spec.eval true envC 20 (.seq [.SELF [97] .nat, .ADDRESS, .DUP, .CONTRACT .nat defaultEp, .SWAP, .CONTRACT .nat [98]]) []
    = .ok [.none (.contract .nat), .some (.contract .nat [75, 84, 49, 37, 97])] := by rfl
example : Spec.eval true envC 20 (.seq [.PUSH .address (.atom .address [116, 122, 49]), .DUP, .CONTRACT .nat defaultEp, .SWAP,
      .CONTRACT .unit defaultEp]) []
    = .ok [.some (.contract .unit [116, 122, 49]), .none (.contract .nat)] := by rfl
-- TRANSFER_TOKENS records source, destination, entrypoint, amount and the parameter; SET_DELEGATE and EMIT likewise — and
-- the machine builds exactly these operations
example : Impl.run envC 20 (.seq [.PUSH .address (.atom .address [75, 84, 50, 37, 97]), .CONTRACT .nat defaultEp,
      .IF_NONE (.seq [.UNIT, .FAILWITH]) (.seq [.PUSH .mutez (.num .mutez 0), .PUSH .nat (.num .nat 7), .TRANSFER_TOKENS])]) []
    = .ok [.opTransfer [75, 84, 49] [75, 84, 50] [97] 0 (.num .nat 7) .nat] :=
  run_ok envC 20 _ [] _ (by rfl)
example : Impl.run envC 20 (.seq [.PUSH .keyHash (.atom .keyHash [116, 122, 49]), .DUP, .IMPLICIT_ACCOUNT, .ADDRESS, .SWAP, .SOME,
      .SET_DELEGATE, .UNIT, .EMIT [120] .unit]) []
    = .ok [.opEmit [75, 84, 49] [120] .unit .unit, .opDelegate [75, 84, 49] (some [116, 122, 49]), .atom .address [116, 122, 49]] :=
  run_ok envC 20 _ [] _ (by rfl)
example : Typing.typeInstr false (.seq [.PUSH .address (.atom .address [75, 84, 50, 37, 97]), .CONTRACT .nat defaultEp,
      .IF_NONE (.seq [.UNIT, .FAILWITH]) (.seq [.PUSH .mutez (.num .mutez 0), .PUSH .nat (.num .nat 7), .TRANSFER_TOKENS]),
      .NIL .operation, .SWAP, .CONS]) [] = some (.ok [.list .operation]) := by rfl

-- PACK = `05` + binary Micheline of the canonical optimized form — a comb of two components is
-- `Pair a b` (`07 07 …`), of four the sequence of its components (`02 <length> …`), a map a sequence of `Elt`s
example : Spec.eval true env0 20 (.seq [.PUSH (.pair .int .nat) (.pair (.num .int 1) (.num .nat 2)), .PACK]) []
    = .ok [.bytes [5, 7, 7, 0, 1, 0, 2]] := by rfl
example : Spec.eval true env0 20 (.seq [.PUSH (.pair .int (.pair .nat (.pair .unit .string)))
      (.pair (.num .int (-1)) (.pair (.num .nat 5) (.pair .unit (.str [97])))), .PACK]) []
    = .ok [.bytes [5, 2, 0, 0, 0, 12, 0, 65, 0, 5, 3, 11, 1, 0, 0, 0, 1, 97]] := by rfl
example : Impl.run env0 20 (.seq [.PUSH (.map .string (.option .bool)) (.map .string (.option .bool) [.pair (.str [97]) (.some (.bool true))]), .PACK]) []
    = .ok [.bytes [5, 2, 0, 0, 0, 12, 7, 4, 1, 0, 0, 0, 1, 97, 5, 9, 3, 10]] :=
  run_ok env0 20 _ [] _ (by rfl)
-- a lambda or an address has a packed form too, but not in the model: not a packable type here
example : Typing.typeInstr false .PACK [.address] = none := by rfl

-- UNPACK reads the optimized form PACK writes, and the other spellings the protocol accepts — a comb as
-- `Pair x y z` (`09 07 <length> … <no annotations>`) or as a sequence —, and answers None on everything else: trailing bytes, a
-- missing `05`, a non-minimal integer (`00 80 00`), an annotated constructor (`04 0b … "%a"`), an unsorted set, a negative `nat`,
-- `Pair 1 2 3` where the right component is a list
def tIIN : Ty := .pair .int (.pair .int .nat)
example : Spec.eval true env0 20 (.seq [.PUSH tIIN (.pair (.num .int 1) (.pair (.num .int (-2)) (.num .nat 3))), .PACK, .UNPACK tIIN]) []
    = .ok [.some (.pair (.num .int 1) (.pair (.num .int (-2)) (.num .nat 3)))] := by rfl
example : Spec.eval true env0 20 (.seq [.PUSH .bytes (.bytes [5, 9, 7, 0, 0, 0, 6, 0, 1, 0, 66, 0, 3, 0, 0, 0, 0]), .UNPACK tIIN,
      .PUSH .bytes (.bytes [5, 2, 0, 0, 0, 6, 0, 1, 0, 66, 0, 3]), .UNPACK tIIN]) []
    = .ok [.some (.pair (.num .int 1) (.pair (.num .int (-2)) (.num .nat 3))), .some (.pair (.num .int 1) (.pair (.num .int (-2)) (.num .nat 3)))] := by rfl
example : Spec.eval true env0 20 (.seq [.PUSH .bytes (.bytes [5, 0, 1, 0]), .UNPACK .int, .PUSH .bytes (.bytes [0, 1]), .UNPACK .int,
      .PUSH .bytes (.bytes [5, 0, 128, 0]), .UNPACK .int, .PUSH .bytes (.bytes [5, 4, 11, 0, 0, 0, 2, 37, 97]), .UNPACK .unit]) []
    = .ok [.none .unit, .none .int, .none .int, .none .int] := by rfl
example : Spec.eval true env0 20 (.seq [.PUSH .bytes (.bytes [5, 2, 0, 0, 0, 4, 0, 2, 0, 1]), .UNPACK (.set .int),
      .PUSH .bytes (.bytes [5, 0, 65]), .UNPACK .nat,
      .PUSH .bytes (.bytes [5, 9, 7, 0, 0, 0, 6, 0, 1, 0, 2, 0, 3, 0, 0, 0, 0]), .UNPACK (.pair .int (.list .int))]) []
    = .ok [.none (.pair .int (.list .int)), .none .nat, .none (.set .int)] := by rfl
-- the machine answers the same, on these and on every other byte string (`exec_refines_spec`)
example : Impl.run env0 20 (.seq [.PUSH .bytes (.bytes [5, 2, 0, 0, 0, 6, 0, 1, 0, 66, 0, 3]), .UNPACK tIIN]) []
    = .ok [.some (.pair (.num .int 1) (.pair (.num .int (-2)) (.num .nat 3)))] :=
  run_ok env0 20 _ [] _ (by rfl)
-- a timestamp in its readable form is read by the environment's reader (a parameter: for EVERY such reader)
example (rt : List Nat → Option Int) : Impl.run { env0 with readTimestamp := rt } 20 (.seq [.PUSH .bytes (.bytes [5, 1, 0, 0, 0, 1, 48]), .UNPACK .timestamp]) []
    = .ok [match rt [48] with | some v => .some (.num .timestamp v) | none => .none .timestamp] :=
  run_ok _ 20 _ [] _ (by
    -- only the reader's answer on the text "0" matters: with it in sight both sides compute
    have : rt = fun l => if l = [48] then rt [48] else rt l := by funext l; split <;> simp_all
    rw [this]
    cases rt [48] <;> rfl)
-- non-vacuity of `unpack_pack`: a comb with a set, a string and a negative number go through PACK and UNPACK unchanged
def vRT : Val := .pair (.set .nat [.num .nat 1, .num .nat 7]) (.pair (.str [104, 105]) (.num .int (-30)))
def tRT : Ty := .pair (.set .nat) (.pair .string .int)
example : Typing.unpackable tRT = true ∧ WellFormed vRT ∧ typeOf vRT = tRT ∧ Interp.strOk vRT = true := ⟨by rfl, ⟨by rfl, by rfl⟩, by rfl, by rfl⟩
example : Impl.run env0 5 (.seq [.PACK, .UNPACK tRT]) [vRT] = .ok [.some vRT] := run_ok env0 5 _ _ _ (by rfl)
example : Impl.run env0 5 (.seq [.PACK, .UNPACK (.pair .int (.pair .int (.pair .int .int)))])
      [.pair (.num .int 1) (.pair (.num .int 2) (.pair (.num .int 3) (.num .int 4)))]
    = .ok [.some (.pair (.num .int 1) (.pair (.num .int 2) (.pair (.num .int 3) (.num .int 4))))] := run_ok env0 5 _ _ _ (by rfl)
-- the hypothesis on strings is needed: a string with a control character is a value of the model's `string`, PACK serializes
-- it, and UNPACK (like the protocol) refuses to read it back
example : Impl.run env0 5 (.seq [.PACK, .UNPACK .string]) [.str [1]] = .ok [.none .string] := run_ok env0 5 _ _ _ (by rfl)
-- UNPACK at a type with composite set elements, at `address`, at a lambda type: not in the model (ill-typed there)
example : Typing.typeInstr false (.UNPACK (.set (.pair .int .int))) [.bytes] = none := by rfl
example : Typing.typeInstr false (.UNPACK .address) [.bytes] = none := by rfl
example : Typing.typeInstr false (.UNPACK (.map .string (.list (.option .mutez)))) [.bytes] = some (.ok [.option (.map .string (.list (.option .mutez)))]) := by rfl

-- CHECK_SIGNATURE pushes what the verification function of the environment answers — for EVERY such function
example (h : Hashes) (k s m : List Nat) :
    Impl.run { env0 with hashes := h } 20 (.seq [.PUSH .bytes (.bytes m), .PUSH .signature (.atom .signature s), .PUSH .key (.atom .key k),
      .CHECK_SIGNATURE, .IF (.seq [.UNIT]) (.seq [.UNIT, .FAILWITH])]) []
      = if h.checkSig k s m then .ok [.unit] else .failed .unit := by
  -- the reference run computes down to the IF on what the verification function answers
  have e : Spec.eval true { env0 with hashes := h } 20 (.seq [.PUSH .bytes (.bytes m), .PUSH .signature (.atom .signature s),
      .PUSH .key (.atom .key k), .CHECK_SIGNATURE, .IF (.seq [.UNIT]) (.seq [.UNIT, .FAILWITH])]) []
      = if h.checkSig k s m then .ok [.unit] else .failed .unit := by
    show (Spec.eval true _ _ (if h.checkSig k s m then _ else _) _).bind _ = _
    cases h.checkSig k s m <;> rfl
  refine (run_eq_guarded _ 20 _ [] ?_ ?_).trans e <;> rw [e] <;> cases h.checkSig k s m <;> nofun
example : Typing.typeInstr false (.seq [.CHECK_SIGNATURE, .NOT]) [.key, .signature, .bytes] = some (.ok [.bool]) := by rfl
example : Typing.typeInstr false .CHECK_SIGNATURE [.signature, .key, .bytes] = none := by rfl

-- a big map created in the run — insertions in any order give the sorted bindings, GET / MEM / GET_AND_UPDATE
-- answer like on a map, a removed key is gone, and the machine computes the same
def progB : Instr :=
  .seq [.EMPTY_BIG_MAP .string .nat,
        .PUSH (.option .nat) (.some (.num .nat 2)), .PUSH .string (.str [98]), .UPDATE,
        .PUSH (.option .nat) (.some (.num .nat 1)), .PUSH .string (.str [97]), .UPDATE,
        .PUSH (.option .nat) (.none .nat), .PUSH .string (.str [98]), .GET_AND_UPDATE,
        .SWAP, .DUP, .PUSH .string (.str [98]), .MEM, .SWAP, .DUP, .PUSH .string (.str [97]), .GET]
example : Spec.eval true env0 30 progB []
    = .ok [.some (.num .nat 1), .bigMap .string .nat [.pair (.str [97]) (.num .nat 1)], .bool false, .some (.num .nat 2)] := by rfl
example : Impl.run env0 30 progB []
    = .ok [.some (.num .nat 1), .bigMap .string .nat [.pair (.str [97]) (.num .nat 1)], .bool false, .some (.num .nat 2)] :=
  run_ok env0 30 _ [] _ (by rfl)
example : Typing.typeInstr false progB [] = some (.ok [.option .nat, .bigMap .string .nat, .bool, .option .nat]) := by rfl
-- a big map is not pushable, not packable, not comparable, cannot hold a big map or an operation, and has no SIZE / ITER;
-- APPLY cannot capture one (the captured value becomes a PUSH)
example : Typing.typeInstr false (.PUSH (.bigMap .int .int) (.bigMap .int .int [])) [] = none := by rfl
example : Typing.typeInstr false .PACK [.bigMap .int .int] = none := by rfl
example : Typing.typeInstr false .COMPARE [.bigMap .int .int, .bigMap .int .int] = none := by rfl
example : Typing.typeInstr false (.EMPTY_BIG_MAP .int (.bigMap .int .int)) [] = none := by rfl
example : Typing.typeInstr false (.EMPTY_BIG_MAP .int .operation) [] = none := by rfl
example : Typing.typeInstr false .SIZE [.bigMap .int .int] = none := by rfl
example : Typing.typeInstr false .APPLY [.bigMap .int .int, .lambda (.pair (.bigMap .int .int) .unit) .unit] = none := by rfl
example : Typing.typeInstr false (.seq [.DUP, .PAIR]) [.bigMap .int .int] = some (.ok [.pair (.bigMap .int .int) (.bigMap .int .int)]) := by rfl

-- non-vacuity of `welltyped_run_eq_reference` / `progress`: a well-typed program with a loop, a lambda call and a sorted
-- set literal, run on a well-typed input stack; the hypotheses hold and the run is inside the guard
def progW : Instr :=
  .seq [.PUSH (.set .int) set13, .SWAP, .DUP, .DIP (.seq [.MEM]), .PUSH .int (.num .int 0), .COMPARE, .LT,
        .LOOP (.seq [.PUSH .bool (.bool false)]), .LAMBDA .bool .bool (.seq [.NOT]), .SWAP, .EXEC]
example : Typing.typeInstr false progW ([Val.num .int 3].map typeOf) = some (.ok [.bool]) := by rfl
example : Typing.literalsOk progW = true := by rfl
example : ∀ v ∈ [Val.num .int 3], WellFormed v := List.forall_mem_singleton.2 ⟨rfl, rfl⟩
example : Spec.eval true env0 30 progW [.num .int 3] = .ok [.bool false] := by rfl
example : Impl.run env0 30 progW [.num .int 3] = .ok [.bool false] := by
  rw [welltyped_run_eq_reference env0 30 progW [.num .int 3] (.ok [.bool]) (by rfl) (List.forall_mem_singleton.2 ⟨rfl, rfl⟩) (by rfl)
    (by rw [show Spec.eval true env0 30 progW [.num .int 3] = .ok [.bool false] from rfl]; intro h; cases h)]
  rfl
-- non-vacuity of the strict statements: MAP over an *empty* list and over a non-empty one with a type-keeping body, a lambda
-- (pushed by LAMBDA, and one given on the input stack) whose body contains a MAP and is called by EXEC: strictly typed,
-- strictly well-typed input, and the machine's run is the reference's — no guard hypothesis anywhere
def progS : Instr :=
  .seq [.NIL .int, .MAP (.seq [.PUSH .int (.num .int 1), .ADD]), .PUSH .int (.num .int 5), .CONS,
        .LAMBDA (.list .int) (.list .int) (.MAP (.seq [.DUP, .MUL])), .SWAP, .EXEC, .EXEC]
def lamS : Val := .lam (.list .int) (.list .int) (.seq [.MAP (.seq [.PUSH .int (.num .int 2), .SWAP, .SUB]), .NIL .int, .SWAP, .DROP])
example : Typing.typeInstr true progS ([lamS].map typeOf) = some (.ok [.list .int]) := by rfl
example : Typing.literalsOk progS = true := by rfl
example : ∀ v ∈ [lamS], StrictWF v := List.forall_mem_singleton.2 ⟨rfl, rfl⟩
example : Spec.eval false env0 30 progS [lamS] = .ok [.list .int []] := by rfl
example : Impl.run env0 30 progS [lamS] = .ok [.list .int []] := by
  rw [strict_run_eq_reference env0 30 progS [lamS] (.ok [.list .int]) (by rfl)
    (List.forall_mem_singleton.2 ⟨rfl, rfl⟩) (by rfl)]
  rfl
example : Spec.eval true env0 30 progS [lamS] ≠ .offguard :=
  strict_guard_never_fires env0 30 progS [lamS] (.ok [.list .int]) (by rfl)
    (List.forall_mem_singleton.2 ⟨rfl, rfl⟩) (by rfl)
-- the program of the open finding is well-typed but NOT strictly typed (its MAP body turns timestamps into ints), and a
-- lambda with such a body is not a strictly well-typed value: the static hypotheses exclude exactly the guard's case
example : Typing.typeInstr false (.seq [.NIL .timestamp, .MAP (.seq [.DROP, .PUSH .int (.num .int 0)])]) [] = some (.ok [.list .int]) := by rfl
example : Typing.typeInstr true (.seq [.NIL .timestamp, .MAP (.seq [.DROP, .PUSH .int (.num .int 0)])]) [] = none := by rfl
example : ¬ StrictWF (.lam (.list .timestamp) (.list .int) (.MAP (.seq [.DROP, .PUSH .int (.num .int 0)]))) := by
  intro h; exact absurd h.1 (by decide)
example : WellFormed (.lam (.list .timestamp) (.list .int) (.MAP (.seq [.DROP, .PUSH .int (.num .int 0)]))) := ⟨by rfl, by rfl⟩
-- a runtime failure is an outcome of a well-typed program, not a stuck state — and the machine has it too
example : Typing.typeInstr false (.seq [.PUSH .mutez (.num .mutez (2 ^ 62)), .DUP, .ADD]) [] = some (.ok [.mutez]) := by rfl
example : Spec.eval false env0 9 (.seq [.PUSH .mutez (.num .mutez (2 ^ 62)), .DUP, .ADD]) [] = .rtfail := by rfl
example : Impl.run env0 9 (.seq [.PUSH .mutez (.num .mutez (2 ^ 62)), .DUP, .ADD]) [] = .rtfail :=
  run_rtfail env0 9 _ [] (by rfl)
example : Spec.eval false env0 9 (.seq [.PUSH .nat (.num .nat 257), .PUSH .nat (.num .nat 1), .LSL]) [] = .rtfail := by rfl
-- stuck is what happens to ill-typed configurations only: ADD on a string, MEM on an unsorted set
example : Spec.eval false env0 9 (.seq [.PUSH .string (.str [97]), .PUSH .int (.num .int 1), .ADD]) [] = .stuck := by rfl
example : Typing.typeInstr false (.seq [.PUSH .string (.str [97]), .PUSH .int (.num .int 1), .ADD]) [] = none := by rfl
-- out of fuel: the machine and the reference exhaust the same bound
example : Spec.eval false env0 3 (.seq [.PUSH .bool (.bool true), .LOOP (.seq [.PUSH .bool (.bool true)])]) [] = .oof := by rfl
example : Impl.run env0 3 (.seq [.PUSH .bool (.bool true), .LOOP (.seq [.PUSH .bool (.bool true)])]) [] = .oof := by rfl

end C01
