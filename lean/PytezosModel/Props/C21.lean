import PytezosModel.Proofs.C21Scalar
import PytezosModel.Proofs.C21Toy
/-! C21 — BLS12-381 operations respect group and field laws.

Full statement (properties.jsonl): for all G1 and G2 points, including the point at infinity, and all Fr scalars,
ADD, NEG and MUL behave as the group and field operations (identity, inverses, associativity, scalar
distributivity); point encodings round-trip; PAIRING_CHECK is true exactly when the product of the pairings is one.

**This is a partial claim, and the statements say so in their hypotheses.**  The curve arithmetic is py_ecc's.  It
enters the model as the abstract interface `Bls.Env` (`CurveOps` for G1 and G2, `TargetOps`, `pairing`), and every
theorem below that speaks about points assumes `CurveLaws` (commutative group, `multiply` = iterated sum, `r • P = 0`,
`is_inf` ⇔ neutral element, `normalize` yields reduced coordinates that rebuild the point) and, for PAIRING_CHECK,
`PairingLaws` (bilinearity).  These are hypotheses (fields of `Prop`-valued structures), **not** Lean axioms, they are
not proved for py_ecc (that needs the Weierstrass group law over a 381-bit prime field), and `Bls.toy_laws1`,
`toy_laws2`, `toy_pairing_laws` show they are satisfiable — the `example`s below instantiate the theorems there.

What *is* proved, for every `Env` satisfying the laws, every point of it (infinity included) and every integer
scalar: the byte codec of pytezos (`from_point` / `to_point` with the constants and slices read from the source:
48-byte big-endian fields, G2 imaginary coefficient first, infinity = 0x40 ‖ 0…, and `to_point` recognising it),
that ADD / NEG / MUL are the images of the group operations under that codec, hence all group laws at the Michelson
level; that Fr literals, ADD / MUL / NEG / INT on Fr are arithmetic of ℤ modulo `r` (proved outright — no hypothesis);
and that PAIRING_CHECK computes "product of pairings = 1".

Programs: `pt1 E P` is `PUSH bls12_381_g1 <encoding of P>`, `pushFrInt z` is `PUSH bls12_381_fr z`, and
`add' E x y` runs `y ; x ; ADD` (so `x` is the top of the stack), `mul' E x y` runs `y ; x ; MUL`, `neg' E x` runs `x ; NEG`. -/
namespace C21
open Core Bls Generated.C21

/-- every anchored construct was recognised and has the repaired shape (re-opened by any change of the byte
layouts, the Fr class, the dispatch tables, the tails of ADD / MUL / NEG / INT or PAIRING_CHECK) -/
theorem source_shape : src = some expectedSrc := src_eq

/-- `BLS12_381_FrType.modulus` is the order of the groups -/
theorem modulus_is_group_order : frModulus = some r := by decide +kernel

/-- `to_point` of both classes decodes exactly the infinity pattern `from_point` writes (the pinned tree has
`decodeInf = none` here: `inf + G ≠ G`) -/
theorem to_point_decodes_infinity :
    (g1.bind fun L => L.decodeInf.map (· == L.infCoords)) = some true ∧
    (g2.bind fun L => L.decodeInf.map (· == L.infCoords)) = some true := by decide +kernel

/-- NEG builds its integer result with the operand's own class (the pinned tree has `some false`: NEG on Fr
returned a negative `int`) -/
theorem neg_keeps_operand_class : negUsesResType = some true := by decide

/-- `PUSH bls12_381_g1 <from_point P>` -/
def pt1 (E : Env) (P : E.K1.G) : R Val := (enc1 E P).map (.pt .g1)
/-- `PUSH bls12_381_g2 <from_point P>` -/
def pt2 (E : Env) (P : E.K2.G) : R Val := (enc2 E P).map (.pt .g2)
/-- `y ; x ; ADD` -/
def add' (E : Env) (x y : R Val) : R Val := x >>= fun a => y >>= fun b => ADD E a b
/-- `y ; x ; MUL` -/
def mul' (E : Env) (x y : R Val) : R Val := x >>= fun a => y >>= fun b => MUL E a b
/-- `x ; NEG` -/
def neg' (E : Env) (x : R Val) : R Val := x >>= NEG E
/-- `x ; INT` -/
def int' (x : R Val) : R Val := x >>= INT

/-- the encodings of a list of `(G1, G2)` pairs, as PAIRING_CHECK receives them -/
def encPairs (E : Env) : List (E.K1.G × E.K2.G) → R (List (Bytes × Bytes))
  | [] => .ok []
  | p :: ps => enc1 E p.1 >>= fun a => enc2 E p.2 >>= fun b => encPairs E ps >>= fun rest => .ok ((a, b) :: rest)

/-- `∏ e(Qᵢ, Pᵢ)` in the order PAIRING_CHECK multiplies -/
def pairingProduct (E : Env) (ps : List (E.K1.G × E.K2.G)) : E.T.GT :=
  ps.foldl (fun prod p => E.T.mul prod (E.pairing p.2 p.1)) E.T.one

/-! ### Fr: literals and instructions are arithmetic of ℤ modulo `r` (no hypothesis) -/

section fr
variable (E : Env)

/-- `PUSH bls12_381_fr z` leaves `z mod r`, which lies in `[0, r)` -/
theorem fr_literal_spec (z : Int) :
    pushFrInt z = .ok (.num .fr (z % (r : Int))) ∧ 0 ≤ z % (r : Int) ∧ z % (r : Int) < (r : Int) := by
  refine ⟨by rw [pushFrInt_eq, sc_cast], Int.emod_nonneg _ (by decide), Int.emod_lt_of_pos _ (by decide)⟩

/-- two literals give the same field element iff they are congruent modulo `r` -/
theorem fr_literal_eq_iff (z w : Int) : pushFrInt z = pushFrInt w ↔ z % (r : Int) = w % (r : Int) := by
  rw [(fr_literal_spec z).1, (fr_literal_spec w).1]
  simp only [Except.ok.injEq, Val.num.injEq, true_and]

theorem fr_add_spec (z w : Int) : add' E (pushFrInt z) (pushFrInt w) = pushFrInt (z + w) := by
  simp only [add', pushFrInt_eq, ok_bind, ADD_eq, impl_add_fr, sc_cast, ← Int.add_emod]

theorem fr_mul_spec (z w : Int) : mul' E (pushFrInt z) (pushFrInt w) = pushFrInt (z * w) := by
  simp only [mul', pushFrInt_eq, ok_bind, MUL_eq, impl_mul_fr E .fr .fr _ _ rfl, sc_cast, ← Int.mul_emod]

theorem fr_neg_spec (z : Int) : neg' E (pushFrInt z) = pushFrInt (-z) := by
  simp only [neg', pushFrInt_eq, ok_bind, NEG_eq, impl_neg_fr, sc_cast, neg_emod_emod']

/-- `INT` gives back the canonical representative -/
theorem fr_int_spec (z : Int) : int' (pushFrInt z) = .ok (.num .int (z % (r : Int))) := by
  simp only [int', pushFrInt_eq, ok_bind, INT_eq, Impl.int, sc_cast]

/-- MUL of an Fr by an `int` (possibly negative) or a `nat`, on either side -/
theorem fr_mul_int_spec (z w : Int) :
    mul' E (pushFrInt z) (.ok (.num .int w)) = pushFrInt (z * w) ∧
    mul' E (.ok (.num .int w)) (pushFrInt z) = pushFrInt (w * z) ∧
    mul' E (pushFrInt z) (.ok (.num .nat w)) = pushFrInt (z * w) ∧
    mul' E (.ok (.num .nat w)) (pushFrInt z) = pushFrInt (w * z) := by
  simp only [mul', pushFrInt_eq, ok_bind, MUL_eq, impl_mul_fr E .fr .int _ _ rfl, impl_mul_fr E .int .fr _ _ rfl,
    impl_mul_fr E .fr .nat _ _ rfl, impl_mul_fr E .nat .fr _ _ rfl, sc_cast, emod_mul_emod', mul_emod_emod', and_self]

/-- ring laws of the Fr instructions: consequences of the three homomorphism theorems and the ring laws of ℤ -/
theorem fr_ring_laws (a b c : Int) :
    add' E (add' E (pushFrInt a) (pushFrInt b)) (pushFrInt c) = add' E (pushFrInt a) (add' E (pushFrInt b) (pushFrInt c)) ∧
    add' E (pushFrInt a) (pushFrInt b) = add' E (pushFrInt b) (pushFrInt a) ∧
    add' E (pushFrInt 0) (pushFrInt a) = pushFrInt a ∧
    add' E (pushFrInt a) (neg' E (pushFrInt a)) = pushFrInt 0 ∧
    mul' E (mul' E (pushFrInt a) (pushFrInt b)) (pushFrInt c) = mul' E (pushFrInt a) (mul' E (pushFrInt b) (pushFrInt c)) ∧
    mul' E (pushFrInt a) (pushFrInt b) = mul' E (pushFrInt b) (pushFrInt a) ∧
    mul' E (pushFrInt 1) (pushFrInt a) = pushFrInt a ∧
    mul' E (add' E (pushFrInt a) (pushFrInt b)) (pushFrInt c)
      = add' E (mul' E (pushFrInt a) (pushFrInt c)) (mul' E (pushFrInt b) (pushFrInt c)) := by
  simp only [fr_add_spec, fr_mul_spec, fr_neg_spec]
  refine ⟨by rw [Int.add_assoc], by rw [Int.add_comm], by rw [Int.zero_add], by rw [Int.add_right_neg],
    by rw [Int.mul_assoc], by rw [Int.mul_comm], by rw [Int.one_mul], by rw [Int.add_mul]⟩

/-- the 32-byte little-endian literal codec round-trips: the optimized form of an Fr value reads back as itself -/
theorem fr_bytes_roundtrip (z : Int) :
    ∃ bs, (pushFrInt z >>= frBytes) = .ok bs ∧ bs.length = 32 ∧ pushFrBytes bs = pushFrInt z := by
  obtain ⟨bs, e, hl, hv⟩ := impl_frToBytes (sc z) (sc_lt z)
  refine ⟨bs, by simp only [pushFrInt_eq, ok_bind, frBytes_eq, e], hl, ?_⟩
  rw [pushFrBytes_eq bs (by omega), hv, (fr_literal_eq_iff _ z).2]
  rw [sc_cast, Int.emod_emod]

/-- byte literals: at most 32 bytes, read little-endian and reduced; longer ones are rejected -/
theorem fr_bytes_literal_spec (bs : Bytes) :
    (bs.length ≤ 32 → pushFrBytes bs = pushFrInt (leToNat bs : Int)) ∧
    (32 < bs.length → pushFrBytes bs = .error .value) :=
  ⟨pushFrBytes_eq bs, pushFrBytes_long bs⟩

end fr

section points
variable (E : Env) (h1 : CurveLaws E.K1 2) (h2 : CurveLaws E.K2 4)

section g1
include h1

/-- `from_point` succeeds on every point and yields 96 bytes -/
theorem enc_total_g1 (P : E.K1.G) : ∃ bs, enc1 E P = .ok bs ∧ bs.length = 96 :=
  ⟨_, enc1_ok E h1 P, (fromPoint_toPoint E.K1 2 h1 L1 L1_good P).2.2⟩

/-- encodings round-trip: `to_point (from_point P) = P` for every point, infinity included -/
theorem dec_enc_g1 (P : E.K1.G) : (enc1 E P >>= dec1 E) = .ok P := by
  rw [enc1_ok E h1, ok_bind, dec1_eq, (fromPoint_toPoint E.K1 2 h1 L1 L1_good P).2.1]

theorem enc_injective_g1 (P Q : E.K1.G) (h : enc1 E P = enc1 E Q) : P = Q := by
  have hp := dec_enc_g1 E h1 P
  have hq := dec_enc_g1 E h1 Q
  rw [h, hq] at hp
  cases hp
  rfl

/-- the point at infinity is the flag byte 0x40 followed by zeros -/
theorem enc_zero_g1 : enc1 E E.K1.zero = .ok (64 :: List.replicate 95 0) := by
  rw [enc1_eq, fromPoint_zero E.K1 2 h1 L1 _ L1_inf (by decide +kernel)]
  rfl

theorem add_spec_g1 (P Q : E.K1.G) : add' E (pt1 E P) (pt1 E Q) = pt1 E (E.K1.add P Q) := by
  -- `simp` takes the three conjuncts of `fromPoint_toPoint` as rewrite rules: `to_point` gives `P`, `Q` back, and
  -- `from_point` of the sum is its `pt1`
  simp only [add', pt1, enc1_ok E h1, map_ok, ok_bind, ADD_eq, add_pt expectedSrc E (.pt .g1 _) (.pt .g1 _) .g1 rfl rfl,
    withPoint, fromPoint1, expectedSrc_L1, fromPoint_toPoint E.K1 2 h1 L1 L1_good, ofOpt]

theorem neg_spec_g1 (P : E.K1.G) : neg' E (pt1 E P) = pt1 E (E.K1.neg P) := by
  simp only [neg', pt1, enc1_ok E h1, map_ok, ok_bind, NEG_eq, neg_pt expectedSrc E (.pt .g1 _) .g1 rfl rfl,
    withPoint, fromPoint1, expectedSrc_L1, fromPoint_toPoint E.K1 2 h1 L1 L1_good, ofOpt]

/-- MUL by the Fr literal `z` (any integer, reduced by `PUSH`) is multiplication by its residue -/
theorem mul_spec_g1 (P : E.K1.G) (z : Int) : mul' E (pt1 E P) (pushFrInt z) = pt1 E (E.K1.mul P (sc z)) := by
  simp only [mul', pt1, enc1_ok E h1, map_ok, ok_bind, MUL_eq, pushFrInt_eq,
    mul_pt expectedSrc E (.pt .g1 _) (.num .fr _) .g1 _ rfl rfl rfl,
    withPoint, fromPoint1, expectedSrc_L1, fromPoint_toPoint E.K1 2 h1 L1 L1_good, ofOpt]

/-- … and for a natural literal of any size (`r`, `r + 1`, `2^256 − 1`, …) that is `k • P`, by the order law -/
theorem mul_spec_nat_g1 (P : E.K1.G) (k : Nat) : mul' E (pt1 E P) (pushFrInt k) = pt1 E (E.K1.mul P k) := by
  rw [mul_spec_g1 E h1, sc_nat, mul_mod' h1]

theorem add_identity_g1 (P : E.K1.G) :
    add' E (pt1 E E.K1.zero) (pt1 E P) = pt1 E P ∧ add' E (pt1 E P) (pt1 E E.K1.zero) = pt1 E P := by
  rw [add_spec_g1 E h1, add_spec_g1 E h1, h1.zero_add, add_zero' h1]
  exact ⟨rfl, rfl⟩

theorem add_inverse_g1 (P : E.K1.G) : add' E (pt1 E P) (neg' E (pt1 E P)) = pt1 E E.K1.zero := by
  rw [neg_spec_g1 E h1, add_spec_g1 E h1, add_neg' h1]

theorem add_comm_g1 (P Q : E.K1.G) : add' E (pt1 E P) (pt1 E Q) = add' E (pt1 E Q) (pt1 E P) := by
  rw [add_spec_g1 E h1, add_spec_g1 E h1, h1.add_comm]

theorem add_assoc_g1 (P Q S : E.K1.G) :
    add' E (add' E (pt1 E P) (pt1 E Q)) (pt1 E S) = add' E (pt1 E P) (add' E (pt1 E Q) (pt1 E S)) := by
  simp only [add_spec_g1 E h1, h1.add_assoc]

theorem neg_infinity_g1 : neg' E (pt1 E E.K1.zero) = pt1 E E.K1.zero := by
  rw [neg_spec_g1 E h1, neg_zero' h1]

theorem mul_infinity_g1 (z : Int) : mul' E (pt1 E E.K1.zero) (pushFrInt z) = pt1 E E.K1.zero := by
  rw [mul_spec_g1 E h1, mul_zero_pt h1]

theorem mul_one_zero_g1 (P : E.K1.G) :
    mul' E (pt1 E P) (pushFrInt 1) = pt1 E P ∧ mul' E (pt1 E P) (pushFrInt 0) = pt1 E E.K1.zero := by
  have e1 := mul_spec_nat_g1 E h1 P 1
  have e0 := mul_spec_nat_g1 E h1 P 0
  rw [mul_one' h1] at e1
  rw [h1.mul_zero] at e0
  exact ⟨e1, e0⟩

/-- `MUL P (−1) = NEG P` (the literal `−1` is pushed as `r − 1`) -/
theorem mul_neg_one_g1 (P : E.K1.G) : mul' E (pt1 E P) (pushFrInt (-1)) = neg' E (pt1 E P) := by
  rw [mul_spec_g1 E h1, neg_spec_g1 E h1, sc_neg_one, mul_neg_one h1]

theorem mul_distrib_point_g1 (P Q : E.K1.G) (z : Int) :
    mul' E (add' E (pt1 E P) (pt1 E Q)) (pushFrInt z)
      = add' E (mul' E (pt1 E P) (pushFrInt z)) (mul' E (pt1 E Q) (pushFrInt z)) := by
  simp only [add_spec_g1 E h1, mul_spec_g1 E h1, mul_add_pt h1]

/-- scalar distributivity over Fr addition: `(z + w) • P = z • P + w • P` with the sum taken by `ADD` on Fr -/
theorem mul_distrib_scalar_g1 (P : E.K1.G) (z w : Int) :
    mul' E (pt1 E P) (add' E (pushFrInt z) (pushFrInt w))
      = add' E (mul' E (pt1 E P) (pushFrInt z)) (mul' E (pt1 E P) (pushFrInt w)) := by
  simp only [fr_add_spec, mul_spec_g1 E h1, add_spec_g1 E h1, sc_add, mul_mod' h1, mul_add' h1]

/-- compatibility with Fr multiplication: `w • (z • P) = (z · w) • P` with the product taken by `MUL` on Fr -/
theorem mul_compat_g1 (P : E.K1.G) (z w : Int) :
    mul' E (mul' E (pt1 E P) (pushFrInt z)) (pushFrInt w)
      = mul' E (pt1 E P) (mul' E (pushFrInt z) (pushFrInt w)) := by
  simp only [fr_mul_spec, mul_spec_g1 E h1, sc_mul, mul_mod' h1, mul_mul' h1]

end g1

section g2
include h2

/-- `from_point` succeeds on every point and yields 192 bytes -/
theorem enc_total_g2 (P : E.K2.G) : ∃ bs, enc2 E P = .ok bs ∧ bs.length = 192 :=
  ⟨_, enc2_ok E h2 P, (fromPoint_toPoint E.K2 4 h2 L2 L2_good P).2.2⟩

theorem dec_enc_g2 (P : E.K2.G) : (enc2 E P >>= dec2 E) = .ok P := by
  rw [enc2_ok E h2, ok_bind, dec2_eq, (fromPoint_toPoint E.K2 4 h2 L2 L2_good P).2.1]

theorem enc_injective_g2 (P Q : E.K2.G) (h : enc2 E P = enc2 E Q) : P = Q := by
  have hp := dec_enc_g2 E h2 P
  have hq := dec_enc_g2 E h2 Q
  rw [h, hq] at hp
  cases hp
  rfl

theorem enc_zero_g2 : enc2 E E.K2.zero = .ok (64 :: List.replicate 191 0) := by
  rw [enc2_eq, fromPoint_zero E.K2 4 h2 L2 _ L2_inf (.inl rfl)]
  rfl

theorem add_spec_g2 (P Q : E.K2.G) : add' E (pt2 E P) (pt2 E Q) = pt2 E (E.K2.add P Q) := by
  simp only [add', pt2, enc2_ok E h2, map_ok, ok_bind, ADD_eq, add_pt expectedSrc E (.pt .g2 _) (.pt .g2 _) .g2 rfl rfl,
    withPoint, fromPoint2, expectedSrc_L2, fromPoint_toPoint E.K2 4 h2 L2 L2_good, ofOpt]

theorem neg_spec_g2 (P : E.K2.G) : neg' E (pt2 E P) = pt2 E (E.K2.neg P) := by
  simp only [neg', pt2, enc2_ok E h2, map_ok, ok_bind, NEG_eq, neg_pt expectedSrc E (.pt .g2 _) .g2 rfl rfl,
    withPoint, fromPoint2, expectedSrc_L2, fromPoint_toPoint E.K2 4 h2 L2 L2_good, ofOpt]

theorem mul_spec_g2 (P : E.K2.G) (z : Int) : mul' E (pt2 E P) (pushFrInt z) = pt2 E (E.K2.mul P (sc z)) := by
  simp only [mul', pt2, enc2_ok E h2, map_ok, ok_bind, MUL_eq, pushFrInt_eq,
    mul_pt expectedSrc E (.pt .g2 _) (.num .fr _) .g2 _ rfl rfl rfl,
    withPoint, fromPoint2, expectedSrc_L2, fromPoint_toPoint E.K2 4 h2 L2 L2_good, ofOpt]

theorem mul_spec_nat_g2 (P : E.K2.G) (k : Nat) : mul' E (pt2 E P) (pushFrInt k) = pt2 E (E.K2.mul P k) := by
  rw [mul_spec_g2 E h2, sc_nat, mul_mod' h2]

theorem add_identity_g2 (P : E.K2.G) :
    add' E (pt2 E E.K2.zero) (pt2 E P) = pt2 E P ∧ add' E (pt2 E P) (pt2 E E.K2.zero) = pt2 E P := by
  rw [add_spec_g2 E h2, add_spec_g2 E h2, h2.zero_add, add_zero' h2]
  exact ⟨rfl, rfl⟩

theorem add_inverse_g2 (P : E.K2.G) : add' E (pt2 E P) (neg' E (pt2 E P)) = pt2 E E.K2.zero := by
  rw [neg_spec_g2 E h2, add_spec_g2 E h2, add_neg' h2]

theorem add_comm_g2 (P Q : E.K2.G) : add' E (pt2 E P) (pt2 E Q) = add' E (pt2 E Q) (pt2 E P) := by
  rw [add_spec_g2 E h2, add_spec_g2 E h2, h2.add_comm]

theorem add_assoc_g2 (P Q S : E.K2.G) :
    add' E (add' E (pt2 E P) (pt2 E Q)) (pt2 E S) = add' E (pt2 E P) (add' E (pt2 E Q) (pt2 E S)) := by
  simp only [add_spec_g2 E h2, h2.add_assoc]

theorem neg_infinity_g2 : neg' E (pt2 E E.K2.zero) = pt2 E E.K2.zero := by
  rw [neg_spec_g2 E h2, neg_zero' h2]

theorem mul_infinity_g2 (z : Int) : mul' E (pt2 E E.K2.zero) (pushFrInt z) = pt2 E E.K2.zero := by
  rw [mul_spec_g2 E h2, mul_zero_pt h2]

theorem mul_one_zero_g2 (P : E.K2.G) :
    mul' E (pt2 E P) (pushFrInt 1) = pt2 E P ∧ mul' E (pt2 E P) (pushFrInt 0) = pt2 E E.K2.zero := by
  have e1 := mul_spec_nat_g2 E h2 P 1
  have e0 := mul_spec_nat_g2 E h2 P 0
  rw [mul_one' h2] at e1
  rw [h2.mul_zero] at e0
  exact ⟨e1, e0⟩

theorem mul_neg_one_g2 (P : E.K2.G) : mul' E (pt2 E P) (pushFrInt (-1)) = neg' E (pt2 E P) := by
  rw [mul_spec_g2 E h2, neg_spec_g2 E h2, sc_neg_one, mul_neg_one h2]

theorem mul_distrib_point_g2 (P Q : E.K2.G) (z : Int) :
    mul' E (add' E (pt2 E P) (pt2 E Q)) (pushFrInt z)
      = add' E (mul' E (pt2 E P) (pushFrInt z)) (mul' E (pt2 E Q) (pushFrInt z)) := by
  simp only [add_spec_g2 E h2, mul_spec_g2 E h2, mul_add_pt h2]

theorem mul_distrib_scalar_g2 (P : E.K2.G) (z w : Int) :
    mul' E (pt2 E P) (add' E (pushFrInt z) (pushFrInt w))
      = add' E (mul' E (pt2 E P) (pushFrInt z)) (mul' E (pt2 E P) (pushFrInt w)) := by
  simp only [fr_add_spec, mul_spec_g2 E h2, add_spec_g2 E h2, sc_add, mul_mod' h2, mul_add' h2]

theorem mul_compat_g2 (P : E.K2.G) (z w : Int) :
    mul' E (mul' E (pt2 E P) (pushFrInt z)) (pushFrInt w)
      = mul' E (pt2 E P) (mul' E (pushFrInt z) (pushFrInt w)) := by
  simp only [fr_mul_spec, mul_spec_g2 E h2, sc_mul, mul_mod' h2, mul_mul' h2]

end g2

end points

section pairing
variable (E : Env) (h1 : CurveLaws E.K1 2) (h2 : CurveLaws E.K2 4) (hE : PairingLaws E)

include h1 h2 in
theorem encPairs_encodes (ps : List (E.K1.G × E.K2.G)) :
    encPairs E ps = .ok (ps.map fun p => (encode E.K1 L1 p.1, encode E.K2 L2 p.2)) := by
  induction ps with
  | nil => rfl
  | cons p ps ih => simp only [encPairs, enc1_ok E h1, enc2_ok E h2, ok_bind, ih, List.map_cons]

include h1 h2 in
/-- PAIRING_CHECK on the encodings of any list of pairs (any length, infinity allowed) tests whether the product
of the pairings is one -/
theorem pairing_check_spec (ps : List (E.K1.G × E.K2.G)) :
    (encPairs E ps >>= PAIRING_CHECK E) = .ok (.bool (E.T.isOne (pairingProduct E ps))) := by
  simp only [encPairs_encodes E h1 h2, ok_bind, PAIRING_CHECK_eq, Impl.pairingCheck, List.foldl_map, expectedSrc_L1,
    expectedSrc_L2, fromPoint_toPoint E.K1 2 h1 L1 L1_good, fromPoint_toPoint E.K2 4 h2 L2 L2_good, pairingProduct]

include h1 h2 hE in
/-- … so it is `True` exactly when the product is one -/
theorem pairing_check_true_iff (ps : List (E.K1.G × E.K2.G)) :
    (encPairs E ps >>= PAIRING_CHECK E) = .ok (.bool true) ↔ pairingProduct E ps = E.T.one := by
  rw [pairing_check_spec E h1 h2, ← hE.isOne_iff]
  simp only [Except.ok.injEq, Val.bool.injEq]

include hE in
theorem pairing_check_nil : PAIRING_CHECK E [] = .ok (.bool true) := by
  have : E.T.isOne E.T.one = true := (hE.isOne_iff _).2 rfl
  simp only [PAIRING_CHECK_eq, Impl.pairingCheck, List.foldl_nil, this]

include h1 h2 hE in
/-- `e(aP, bQ) · e(−(ab)P, Q) = 1`: the check the harness replays on the real code -/
theorem pairing_check_bilinear (P : E.K1.G) (Q : E.K2.G) (a b : Nat) :
    (encPairs E [(E.K1.mul P a, E.K2.mul Q b), (E.K1.neg (E.K1.mul P (a * b)), Q)] >>= PAIRING_CHECK E)
      = .ok (.bool true) := by
  rw [pairing_check_true_iff E h1 h2 hE]
  simp only [pairingProduct, List.foldl_cons, List.foldl_nil, hE.one_mul]
  rw [pair_mul_swap hE h1 h2, ← mul_mul' h1, pair_neg_right hE h1]

end pairing

/-! ### non-vacuity: the theorems instantiated in `toyEnv` (integers modulo `r`), with concrete points and scalars -/

example : add' toyEnv (pt1 toyEnv toyZero) (pt1 toyEnv (toyOfNat 5)) = pt1 toyEnv (toyOfNat 5) :=
  (add_identity_g1 toyEnv toy_laws1 (toyOfNat 5)).1
example : (enc1 toyEnv (toyOfNat 7) >>= dec1 toyEnv) = .ok (toyOfNat 7) := dec_enc_g1 toyEnv toy_laws1 _
example : (enc2 toyEnv toyZero >>= dec2 toyEnv) = .ok toyZero := dec_enc_g2 toyEnv toy_laws2 _
example : enc1 toyEnv (toyOfNat 3) = .ok (List.replicate 47 0 ++ [3] ++ List.replicate 47 0 ++ [3]) := by decide +kernel
example : enc2 toyEnv toyZero = .ok (64 :: List.replicate 191 0) := enc_zero_g2 toyEnv toy_laws2
example : mul' toyEnv (pt2 toyEnv (toyOfNat 2)) (pushFrInt ((r : Int) + 1)) = pt2 toyEnv (toyOfNat 2) := by
  have h := mul_spec_g2 toyEnv toy_laws2 (toyOfNat 2) ((r : Int) + 1)
  rw [show sc ((r : Int) + 1) = 1 by decide +kernel] at h
  exact h.trans (congrArg (pt2 toyEnv) (mul_one' toy_laws2 _))
example : mul' toyEnv (pt2 toyEnv (toyOfNat 2)) (pushFrInt ((r + 1 : Nat) : Int)) = pt2 toyEnv (toyEnv.K2.mul (toyOfNat 2) (r + 1)) :=
  mul_spec_nat_g2 toyEnv toy_laws2 (toyOfNat 2) (r + 1)
example : neg' toyEnv (pt1 toyEnv toyZero) = pt1 toyEnv toyZero := neg_infinity_g1 toyEnv toy_laws1
example : add' toyEnv (pushFrInt (-5)) (pushFrInt 7) = pushFrInt 2 := fr_add_spec toyEnv (-5) 7
example : pushFrInt (-5) = .ok (.num .fr ((r : Int) - 5)) := by decide +kernel
example : neg' toyEnv (pushFrInt 5) = .ok (.num .fr ((r : Int) - 5)) := by decide +kernel
example : (encPairs toyEnv [(toyOfNat 6, toyOfNat 5), (toyEnv.K1.neg (toyOfNat 30), toyOfNat 1)] >>= PAIRING_CHECK toyEnv)
    = .ok (.bool true) :=
  (pairing_check_true_iff toyEnv toy_laws1 toy_laws2 toy_pairing_laws _).2
    (Fin.ext (by decide +kernel))
example : (encPairs toyEnv [(toyOfNat 6, toyOfNat 5)] >>= PAIRING_CHECK toyEnv) = .ok (.bool false) := by decide +kernel

end C21
