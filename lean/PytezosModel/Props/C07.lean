import PytezosModel.Proofs.KeyCheck
import PytezosModel.Proofs.KeyToy
/-! C07 — signing and verification are correct for every key kind.

Full statement (properties.jsonl): for every Ed25519, Secp256k1, P256 and BLS12-381 key and every message,
signing succeeds in both curve-specific and generic form, the signature verifies under that key, and an
independent implementation of the scheme accepts it over the Blake2b-256 digest of the message (BLS signs the
message itself).  Verification rejects any altered message, altered signature or different key, and
CHECK_SIGNATURE returns the same verdict.

What is proved here is the **wrapper logic** of `Key.sign` / `Key.verify` / `scrub_input` / CHECK_SIGNATURE
(`Impl.Key`, instantiated with the dispatch tables, prefix rule and signature kinds the translator reads from
the source on every run), for *all* keys, messages (bytes or str) and curves, over abstract primitives:

* `P : Prims` with `L : Laws P` — each signature scheme satisfies `verify pk m (sign sk m) = accept` for key
  pairs produced by key derivation, raw signatures are 64 (BLS: 96) bytes;
* `C : Codec` with `CodecLaws C sigRows` — Base58Check round trip / length / prefix for the signature kinds
  (property C09 for the mirror of `base58_encode` / `base58_decode`).

Not provable here and therefore **partial** (sampled by the harness against independent implementations):
that pysodium / coincurve / fastecdsa / py_ecc satisfy `Laws`, and that they reject altered inputs
(unforgeability / non-malleability are cryptographic assumptions).  `verify_true_iff` reduces "altered message /
signature / key is rejected" to exactly that statement about the primitive. -/
namespace C07
open Impl.Key

/-- **sign then verify**, all curves, bytes or str messages, curve-specific and generic form: signing succeeds,
the result is `sig…` or `<curve>sig…` (curve-specific when `generic = false`), and `Key.verify` returns True
on it for the same message. -/
theorem sign_verify (P : Prims) (C : Codec) (L : Laws P) (CL : CodecLaws C sigRows)
    (k : Key) (hk : ValidKey P k) (msg : PyIn) (m : Bytes) (hm : scrub msg = .ok m) (generic : Bool) :
    ∃ s pfx, sign P C k msg generic = .ok s ∧ verify P C k (.str s) msg = .ok true ∧
      pfx <+: s ∧ (pfx = sigTag ∨ pfx = k.curve.tag ++ sigTag) ∧ (generic = false → pfx = k.curve.tag ++ sigTag) := by
  obtain ⟨s, pfx, _, h⟩ := sign_verify_core P C L CL k hk msg m hm generic
  exact ⟨s, pfx, h.signs, h.verifies, h.starts, h.form, h.specific⟩

/-- … and the primitive was given Blake2b-256 of the message (the message itself for BLS): the text decodes to
exactly the raw signature the curve's primitive makes for that payload under the key's secret — this is what an
independent implementation of the scheme is then asked to accept (sampled by the harness). -/
theorem sign_payload (P : Prims) (C : Codec) (L : Laws P) (CL : CodecLaws C sigRows)
    (k : Key) (hk : ValidKey P k) (msg : PyIn) (m : Bytes) (hm : scrub msg = .ok m) (generic : Bool) :
    ∃ s raw sk, sign P C k msg generic = .ok s ∧ C.decode s = some raw ∧ raw.length = sigLen k.curve ∧
      k.sec = some sk ∧ P.sign k.curve sk (if k.curve = .bl then m else P.blake2b 32 m) = some raw := by
  obtain ⟨s, _, raw, h⟩ := sign_verify_core P C L CL k hk msg m hm generic
  obtain ⟨sk, hsec, hsign⟩ := h.primitive
  exact ⟨s, raw, sk, h.signs, h.decodes, h.length, hsec, hsign⟩

/-- **what acceptance means**: `Key.verify` returns True exactly when both inputs scrub, the signature text is
generic (`sig…`) or carries the key's own curve tag, it Base58-decodes, and the *primitive of the key's own
curve* accepts the decoded signature over Blake2b-256 of the message (the message itself for BLS) under the
key's public point.  Hence an altered message, signature or key is rejected whenever the primitive rejects it. -/
theorem verify_true_iff (P : Prims) (C : Codec) (k : Key) (sig msg : PyIn) :
    verify P C k sig msg = .ok true ↔
      ∃ es em raw, scrub sig = .ok es ∧ scrub msg = .ok em ∧ k.pub ≠ [] ∧
        (es.take 3 = sigTag ∨ es.take 2 = k.curve.tag) ∧ C.decode es = some raw ∧
        P.verify k.curve k.pub (if k.curve = .bl then em else P.blake2b 32 em) raw = .accept := by
  constructor
  · intro h
    rcases verify_cases P C k sig msg with ⟨s, hv⟩ | ⟨es, em, raw, hs, hm, hpub, hpre, hdec, ⟨hacc, _⟩ | ⟨_, hv⟩⟩
    · rw [hv] at h; cases h
    · exact ⟨es, em, raw, hs, hm, hpub, hpre, hdec, hacc⟩
    · rw [hv] at h; cases h
  · rintro ⟨es, em, raw, hs, hm, hpub, hpre, hdec, hacc⟩
    exact verify_accepts P C k sig msg es em raw hs hm hpub hpre hdec hacc

/-- `Key.verify` never returns False: it returns True or raises -/
theorem verify_ok_is_true (P : Prims) (C : Codec) (k : Key) (sig msg : PyIn) (b : Bool)
    (h : verify P C k sig msg = .ok b) : b = true := by
  rcases verify_cases P C k sig msg with ⟨s, hv⟩ | ⟨_, _, _, _, _, _, _, _, ⟨_, hv⟩ | ⟨_, hv⟩⟩ <;> rw [hv] at h <;>
    cases h
  rfl

/-- **soundness w.r.t. the primitive**: if the primitive does not accept `(digest of) message, decoded
signature` under the key's point, `Key.verify` raises. -/
theorem verify_rejects (P : Prims) (C : Codec) (k : Key) (sig msg : PyIn) (es em raw : Bytes)
    (hs : scrub sig = .ok es) (hm : scrub msg = .ok em) (hdec : C.decode es = some raw)
    (hrej : P.verify k.curve k.pub (if k.curve = .bl then em else P.blake2b 32 em) raw ≠ .accept) :
    ∃ e, verify P C k sig msg = .error e := by
  rcases verify_cases P C k sig msg with ⟨s, hv⟩ | ⟨es', em', raw', hs', hm', _, _, hdec', ⟨hacc, _⟩ | ⟨_, hv⟩⟩
  · exact ⟨_, hv⟩
  · rw [hs] at hs'; rw [hm] at hm'; cases hs'; cases hm'
    rw [hdec] at hdec'; cases hdec'
    exact absurd hacc hrej
  · exact ⟨_, hv⟩

/-- a curve-specific signature made by a key of another curve is refused before any decoding, with
'Signature and public key curves mismatch.' -/
theorem curve_mismatch_rejected (P : Prims) (C : Codec) (L : Laws P) (CL : CodecLaws C sigRows)
    (k k' : Key) (hk' : ValidKey P k') (hne : k.curve ≠ k'.curve) (hpub : k.pub ≠ [])
    (msg msg' : PyIn) (m m' : Bytes) (hm : scrub msg = .ok m) (hm' : scrub msg' = .ok m') :
    ∃ s, sign P C k' msg' false = .ok s ∧ verify P C k (.str s) msg = .error (.valueError .curveMismatch) := by
  obtain ⟨s, pfx, _, h⟩ := sign_verify_core P C L CL k' hk' msg' m' hm' false
  have hpre := h.starts
  rw [h.specific rfl] at hpre
  refine ⟨s, h.signs, ?_⟩
  simp [verify, h.scrubs, hm, List.isEmpty_eq_false_iff.mpr hpub, precheck_fails k.curve k'.curve hne s hpre]

/-- **CHECK_SIGNATURE returns the verdict of `Key.verify`**: for a key text that imports, and a public point the
primitive can parse, the instruction pushes a boolean, and it is True exactly when `Key.verify` returns True
(False exactly when it raises).  Holds because every exception of `Key.verify` is a ValueError — on a tree where
the P256 branch lets `EcdsaError` escape, `catches_true` does not evaluate and this obligation is open. -/
theorem check_signature_eq_verify (P : Prims) (C : Codec) (pk sig : Str) (msg : Bytes) (k : Key)
    (hk : fromEncodedKey P C (.str pk) none = .ok k)
    (hparse : ∀ payload raw, P.verify k.curve k.pub payload raw ≠ .keyError) :
    ∃ b, checkSignature P C pk sig msg = .ok b ∧
      (b = true ↔ verify P C k (.str sig) (.bytes msg) = .ok true) ∧
      (b = false ↔ ∃ e, verify P C k (.str sig) (.bytes msg) = .error e) := by
  have hrec : Generated.C07.checkSignatureRecognised = true := by decide
  unfold checkSignature
  simp only [hrec, Bool.not_true, Bool.false_eq_true, if_false, hk]
  rcases verify_cases P C k (.str sig) (.bytes msg) with ⟨s, hv⟩ | ⟨_, _, _, _, _, _, _, _, ⟨_, hv⟩ | ⟨hke, _⟩⟩
  · rw [hv]; exact ⟨false, rfl, by simp, by simp⟩
  · rw [hv]; exact ⟨true, rfl, by simp, by simp⟩
  · exact absurd hke (hparse _ _)

/-- a toy instance of the primitives satisfies `Laws`, and the mirror of Base58Check (C09's `b58enc` with a
4-byte checksum) restricted to the signature kinds satisfies `CodecLaws` -/
theorem hypotheses_satisfiable : Laws Toy.prims ∧ CodecLaws Toy.codec sigRows ∧ ValidKey Toy.prims Toy.keyBl :=
  ⟨Toy.laws, Toy.codec_laws_sig, Toy.keyBl_valid⟩

-- generic signing with the toy BLS key of the str message `0xab` succeeds and verifies
example : ∃ s, sign Toy.prims Toy.codec Toy.keyBl (.str [48, 120, 97, 98]) true = .ok s ∧
    verify Toy.prims Toy.codec Toy.keyBl (.str s) (.str [48, 120, 97, 98]) = .ok true := by
  obtain ⟨s, _, h1, h2, _⟩ := sign_verify Toy.prims Toy.codec Toy.laws Toy.codec_laws_sig Toy.keyBl
    Toy.keyBl_valid (.str [48, 120, 97, 98]) [171] rfl true
  exact ⟨s, h1, h2⟩

-- a P256 signature is refused by an Ed25519 key with the curve-mismatch error
example : ∃ s, sign Toy.prims Toy.codec Toy.keyP2 (.bytes [1, 2]) false = .ok s ∧
    verify Toy.prims Toy.codec Toy.keyEd (.str s) (.bytes [1, 2]) = .error (.valueError .curveMismatch) :=
  curve_mismatch_rejected Toy.prims Toy.codec Toy.laws Toy.codec_laws_sig Toy.keyEd Toy.keyP2 Toy.keyP2_valid
    (by decide) (by decide) (.bytes [1, 2]) (.bytes [1, 2]) [1, 2] [1, 2] rfl rfl

end C07
