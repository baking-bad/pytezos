import PytezosModel.Proofs.C25
/-! C25 — injected operations carry the account's next counters.

State machine `Impl.Counters` (mirror of `get_counter` / `get_counter_offset` / `reset` and of
`OperationGroup.fill / autofill / sign / inject`, shape switches read from the source on every run) over a simulated
node `⟨c, p⟩` = ⟨counter of the account on chain, number of its contents pending in the mempool⟩.

`observe sh s es` lists, for a history `es` started in `s`, every payload that reached the injection RPC:
`sent` = the counters it carried, `expected` = `c+p+1 … c+p+k` at that moment, `fresh` = the group's counters were
computed (fill of the unfilled group, or a successful autofill) after the last accepted injection / baked block
(`Grp.stamp = State.epoch`; DESIGN §5 C25: a group filled before another injection cannot know about it, so this is
the strongest satisfiable reading; a `fill()` of an already filled group computes nothing and does not refresh).

FULL STATEMENT (what the property demands, for ALL histories):

    theorem inject_counters (c p : Nat) (es : List Event) (sh) (h : shape = some sh) :
        ∀ o ∈ observe sh (init c p) es, o.fresh = true → o.sent = o.expected

It is FALSE for the pinned code (`inject_counters_fails_…` below, replayed on the real code by the harness, recorded
in known_findings.jsonl): `fill()` continues from the counter cached by an earlier `fill()/autofill()` of the same
context, and `fill()` ignores the account's operations pending in the mempool.  What is proved instead:

* `inject_counters_partial` — all histories (induction, no length bound), all initial node states, in which every
  `fill()` of the unfilled group happens with an empty cache and nothing of the account pending (`clean`, decidable);
  `autofill`, `sign`, `inject ok|refused`, `bake`, re-fills and new groups are unrestricted;
* `inject_counters_autofill_only` — corollary: histories that never `fill()` the unfilled group directly (they use
  `autofill`) satisfy the full statement;
* `inject_counters_of_repaired_fill` — for a `fill` that would start from an empty cache and add the mempool offset
  (`Shape` flags both true) `clean` always holds, i.e. the full statement would follow. -/
namespace C25
open Impl.Counters

theorem observe_ok (sh : Shape) : ∀ (es : List Event) (s : State), Inv s → clean sh s es = true →
    ∀ o ∈ observe sh s es, o.fresh = true → o.sent = o.expected := by
  intro es
  induction es with
  | nil => intro s _ _ o ho; simp [observe] at ho
  | cons e es ih =>
    intro s hinv hclean o ho hf
    rw [clean_cons] at hclean
    simp only [Bool.and_eq_true] at hclean
    have ⟨hinv', hobs⟩ := step_ok sh s e hinv hclean.1
    simp only [observe] at ho
    split at ho
    · rename_i o' ho'
      simp only [List.mem_cons] at ho
      rcases ho with rfl | ho
      · exact hobs o ho' hf
      · exact ih _ hinv' hclean.2 o ho hf
    · exact ih _ hinv' hclean.2 o ho hf

theorem inv_init (c p : Nat) : Inv (init c p) := by
  intro g hg; simp [init] at hg

/-- **partial**: every fresh group that reaches the node carries `c+p+1 … c+p+k`, for every history whose direct
`fill()`s of the unfilled group start from an empty cache with nothing of the account pending -/
theorem inject_counters_partial (sh : Shape) (_h : shape = some sh) (c p : Nat) (es : List Event)
    (hclean : clean sh (init c p) es = true) :
    ∀ o ∈ observe sh (init c p) es, o.fresh = true → o.sent = o.expected :=
  observe_ok sh es (init c p) (inv_init c p) hclean

/-- no direct `fill()` of the unfilled group -/
def noDirectFill : List Event → Bool
  | [] => true
  | .fill .tmpl :: _ => false
  | _ :: es => noDirectFill es

theorem clean_of_noDirectFill (sh : Shape) : ∀ (es : List Event) (s : State), noDirectFill es = true → clean sh s es = true := by
  intro es
  fun_induction noDirectFill es with
  | case1 => intro s _; rfl
  | case2 => intro s h; cases h
  | case3 e es hne ih =>
    intro s h
    rw [clean_cons, ih _ h, supported]
    · rfl
    · exact hne

/-- histories that obtain their counters through `autofill` only satisfy the full statement -/
theorem inject_counters_autofill_only (sh : Shape) (_h : shape = some sh) (c p : Nat) (es : List Event)
    (hes : noDirectFill es = true) :
    ∀ o ∈ observe sh (init c p) es, o.fresh = true → o.sent = o.expected :=
  observe_ok sh es (init c p) (inv_init c p) (clean_of_noDirectFill sh es _ hes)

/-- with a `fill` that starts from an empty cache and adds the mempool offset every history is clean -/
theorem inject_counters_of_repaired_fill (sh : Shape) (h1 : sh.fillResetsCache = true) (h2 : sh.fillUsesMempool = true)
    (c p : Nat) (es : List Event) :
    ∀ o ∈ observe sh (init c p) es, o.fresh = true → o.sent = o.expected := by
  have hc : ∀ (es : List Event) (s : State), clean sh s es = true := by
    intro es
    induction es with
    | nil => intro s; rfl
    | cons e es ih =>
      intro s
      rw [clean_cons, ih]
      fun_cases supported sh s e
      · simp [fillSupported, h1, h2]
      · rfl
  exact observe_ok sh es (init c p) (inv_init c p) (hc es _)

/-! counter-histories for the full statement on the pinned shape (node counter 100) -/

/-- `fill()` twice on the same unfilled group, then sign and inject: the group is fresh and carries 102, not 101 -/
theorem inject_counters_fails_fill_twice :
    shape.map (fun sh => observe sh (init 100 0) [.new 1, .fill .tmpl, .fill .tmpl, .sign, .inject true])
      = some [{ fresh := true, sent := [102], expected := [101] }] := by decide

/-- one own operation pending: `fill()` hands out 101 where the node wants 102 -/
theorem inject_counters_fails_fill_with_pending :
    shape.map (fun sh => observe sh (init 100 1) [.new 1, .fill .tmpl, .sign, .inject true])
      = some [{ fresh := true, sent := [101], expected := [102] }] := by decide

/-- both counter-histories are outside `clean` -/
theorem counter_histories_not_clean :
    shape.map (fun sh => (clean sh (init 100 0) [.new 1, .fill .tmpl, .fill .tmpl, .sign, .inject true],
                          clean sh (init 100 1) [.new 1, .fill .tmpl, .sign, .inject true])) = some (false, false) := by decide

/-! non-vacuity: clean histories that do reach the node, including a refused injection, a bake and a batch -/
example : shape.map (fun sh => (clean sh (init 100 1) [.new 2, .autofill .tmpl, .sign, .inject false, .inject true, .bake,
      .new 1, .fill .tmpl, .sign, .inject true],
    observe sh (init 100 1) [.new 2, .autofill .tmpl, .sign, .inject false, .inject true, .bake,
      .new 1, .fill .tmpl, .sign, .inject true]))
    = some (true, [⟨true, [102, 103], [102, 103]⟩, ⟨true, [102, 103], [102, 103]⟩, ⟨true, [104], [104]⟩]) := by decide

end C25
