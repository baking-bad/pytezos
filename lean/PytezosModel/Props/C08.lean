import PytezosModel.Proofs.KeyImport
import PytezosModel.Proofs.Mnemonic
import PytezosModel.Proofs.KeyToy
/-! C08 — key import, export and address derivation are consistent.

Full statement (properties.jsonl): for every secret key of each curve, the derived public key matches an
independent implementation, and the public key hash is the base58 tz1/tz2/tz3/tz4 encoding of the Blake2b-160
digest of the public key.  Exporting the secret key, plain or encrypted with any passphrase, and importing it
again yields the same key.  A mnemonic is accepted exactly when its BIP-39 checksum is valid, and derivation
from the same mnemonic, email and passphrase is deterministic.

Proved here, for **all** keys / passphrases / salts / word sequences, about the mirror `Impl.Key` instantiated
with the constants and tables the translator reads from the source on every run:
`pkh_formula`, `hash_key_eq_pkh`, `export_import_*`, `public_key_roundtrip`, `prefix_dispatch_total`,
`mnemonic_accept_iff`.  Primitives are parameters with the contracts `Laws` (secretbox `open (seal m) = m`, box
length, digest lengths, ed25519 seed ↔ secret key) and `CodecLaws` (Base58Check, C09).
**Partial**: that a derived public key equals what an independent implementation derives, PBKDF2, secretbox and
SHA-256 themselves are *not* provable here; the harness samples them against `cryptography`, an own
XSalsa20-Poly1305 and hashlib.  Determinism of derivation is definitional: `fromMnemonic` and
`fromSecretExponent` are functions of their arguments (`derivation_deterministic` only records that); the
harness additionally derives every sampled key twice. -/
namespace C08
open Impl.Key

/-- **address formula**: the public key hash is the Base58 `tz1/tz2/tz3/tz4` encoding (by curve) of the 20-byte
Blake2b digest of the public point -/
theorem pkh_formula (P : Prims) (C : Codec) (k : Key) :
    publicKeyHash P C k = orErr (C.encode (P.blake2b 20 k.pub) (Spec.tz k.curve)) (.valueError .codec) :=
  publicKeyHash_eq P C k

/-- … it succeeds, is 36 characters starting with `tzN`, and decodes back to the digest -/
theorem pkh_wellformed (P : Prims) (C : Codec) (L : Laws P) (CL : CodecLaws C pkhRows) (k : Key) :
    ∃ s, publicKeyHash P C k = .ok s ∧ s.length = 36 ∧ Spec.tz k.curve <+: s ∧
      C.decode s = some (P.blake2b 20 k.pub) := by
  obtain ⟨r, hr, hh, hd, he⟩ := pkhRow k.curve
  obtain ⟨hl, hb⟩ := L.blake_len 20 k.pub
  obtain ⟨s, henc, hdec, hlen, hpre, _⟩ := CL.enc_dec r hr _ (by rw [hl, hd]) hb
  rw [hh] at henc hpre
  exact ⟨s, by rw [pkh_formula, henc]; rfl, by rw [hlen, he], hpre, hdec⟩

/-- HASH_KEY on a key text gives the public key hash of the key it imports to -/
theorem hash_key_eq_pkh (P : Prims) (C : Codec) (a : Str) (k : Key)
    (hk : fromEncodedKey P C (.str a) none = .ok k) : hashKey P C a = publicKeyHash P C k := by
  simp [hashKey, pkh_rec.2.1, hk]

/-- HASH_KEY of the exported public key of a key is that key's hash -/
theorem hash_key_of_public_key (P : Prims) (C : Codec) (L : Laws P) (CL : CodecLaws C keyRows)
    (k : Key) (sk : Bytes) (hkp : KeyPair P k.curve k.pub sk) :
    ∃ a, publicKey C k = .ok a ∧ hashKey P C a = publicKeyHash P C k := by
  obtain ⟨a, h1, h2⟩ := public_key_roundtrip P C L CL k sk hkp
  refine ⟨a, h1, ?_⟩
  rw [hash_key_eq_pkh P C a _ (h2 none), pkh_formula, pkh_formula]

/-- **export / import, unencrypted** (no passphrase or an empty one): the `xxsk` text imports to the same key,
whatever passphrase is offered on import -/
theorem export_import_plain (P : Prims) (C : Codec) (L : Laws P) (CL : CodecLaws C keyRows)
    (k : Key) (hk : WFKey P k) (pass : Option Bytes) (hp : pass.getD [] = []) (salt : Bytes) :
    ∃ s, secretKey P C k pass true salt = .ok s ∧ ∀ pass', fromEncodedKey P C (.str s) pass' = .ok k :=
  Impl.Key.export_import_plain P C L CL k hk pass hp salt

/-- **export / import, encrypted with any non-empty passphrase** and any 8-byte salt (what `randombytes(8)`
returns): the `xxesk` text imports to the same key with that passphrase -/
theorem export_import_encrypted (P : Prims) (C : Codec) (L : Laws P) (CL : CodecLaws C keyRows)
    (k : Key) (hk : WFKey P k) (pw : Bytes) (hpw : pw ≠ []) (salt : Bytes) (hsl : salt.length = 8)
    (hsb : IsBytes salt) :
    ∃ s, secretKey P C k (some pw) true salt = .ok s ∧ fromEncodedKey P C (.str s) (some pw) = .ok k :=
  Impl.Key.export_import_encrypted P C L CL k hk pw hpw salt hsl hsb

/-- **export / import with `ed25519_seed=False`** (64-byte ed25519 secret key) -/
theorem export_import_raw (P : Prims) (C : Codec) (L : Laws P) (CL : CodecLaws C keyRows)
    (k : Key) (hk : WFKey P k) (salt : Bytes) :
    ∃ s, secretKey P C k none false salt = .ok s ∧ ∀ pass', fromEncodedKey P C (.str s) pass' = .ok k :=
  Impl.Key.export_import_raw P C L CL k hk salt

/-- the exported public key imports to the same public point and curve -/
theorem public_key_roundtrip (P : Prims) (C : Codec) (L : Laws P) (CL : CodecLaws C keyRows)
    (k : Key) (sk : Bytes) (hkp : KeyPair P k.curve k.pub sk) :
    ∃ s, publicKey C k = .ok s ∧ ∀ pass, fromEncodedKey P C (.str s) pass = .ok ⟨k.pub, none, k.curve⟩ :=
  Impl.Key.public_key_roundtrip P C L CL k sk hkp

/-- keys built by `from_secret_exponent` from 32 bytes are the keys the theorems above speak about -/
theorem from_secret_exponent_wf (P : Prims) (c : Curve) (se : Bytes) (h32 : se.length = 32)
    (hb : IsBytes se) (k : Key) (h : fromSecretExponent P c se = .ok k) : WFKey P k ∧ k.curve = c :=
  fromSecretExponent_wf P c se h32 hb k h

/-- **prefix dispatch is total and right**: every key kind of the regenerated table (`xx(e)sk/pk`) is a kind of
the Tezos registry, and any text with that prefix and the kind's length is classified by `from_encoded_key`
with the registry's curve, encryption flag and secrecy; conversely every registry kind is in the table. -/
theorem prefix_dispatch_total :
    (∀ r ∈ keyRows, ∀ s : Str, r.human <+: s → s.length = r.encLen →
      ∃ spec, Spec.keyKind r.human = some spec ∧ classify s = .ok spec) ∧
    (∀ p ∈ Spec.keyKinds, ∃ r ∈ keyRows, r.human = p.1) :=
  ⟨fun r hr s hp hl => classify_row r hr s hp hl, by decide⟩

/-- **mnemonic validation = BIP-39 checksum**: for word sequences given by their word-list indices (`none` = not
in the list), `validate_mnemonic` returns exactly when all words are in the list, the count is 12/15/18/21/24
and the last `count/3` bits equal the first `count/3` bits of SHA-256 of the entropy bytes. -/
theorem mnemonic_accept_iff (P : Prims) (L : Laws P) (ws : List (Option Nat))
    (hlt : ∀ i, some i ∈ ws → i < 2048) :
    validateMnemonic P ws = .ok () ↔ ∃ idx, ws = idx.map some ∧ Spec.bip39Valid P.sha256 idx :=
  validateMnemonic_iff P L.sha_len ws hlt

/-- guard of the partial theorem below: the curve's derivation primitive accepts the first 32 seed bytes -/
def derivable (P : Prims) (c : Curve) (s32 : Bytes) : Bool :=
  match c with
  | .ed => (P.edSeedKeypair s32).isSome
  | c => (P.pub c s32).isSome

/- Full statement wanted at the level of `Key.from_mnemonic` ("a mnemonic is accepted exactly when its BIP-39
checksum is valid"):
    theorem from_mnemonic_accepts : Spec.bip39Valid P.sha256 idx → ∃ k, fromMnemonic P (idx.map some) … c = .ok k
It does NOT hold on this tree for BLS12-381: `seed[:32]` is handed to `G2.SkToPk` as a little-endian scalar and
py_ecc refuses scalars that are not below the group order — about half of all mnemonics (open finding
`mnemonic-derivation-raises:BL:seed-not-below-group-order`, replayed by the harness on the real code).  Proved:
the statement under the explicit guard `derivable`, the converse for invalid checksums, and a counter-example
inside the model (`from_mnemonic_counterexample`). -/
theorem from_mnemonic_accepts_partial (P : Prims) (L : Laws P) (idx : List Nat) (hlt : ∀ i ∈ idx, i < 2048)
    (hv : Spec.bip39Valid P.sha256 idx) (text pass email : Str) (validate : Bool) (c : Curve)
    (hg : derivable P c ((P.toSeed text (email ++ pass)).take 32) = true) :
    ∃ k, fromMnemonic P (idx.map some) text pass email validate c = .ok k ∧ k.curve = c := by
  have hrec : Generated.C08.fromMnemonicRecognised = true := by decide
  have hval := (validateMnemonic_indices P L.sha_len idx hlt).mpr hv
  have hvv : (if validate = true then validateMnemonic P (idx.map some) else Except.ok ()) = .ok () := by
    cases validate <;> simp [hval]
  unfold fromMnemonic
  simp only [hrec, Bool.not_true, Bool.false_eq_true, if_false, hvv]
  cases c
  · simp only [derivable] at hg
    cases hkp : P.edSeedKeypair ((P.toSeed text (email ++ pass)).take 32) with
    | none => simp [hkp] at hg
    | some pksk =>
      obtain ⟨pk, sk⟩ := pksk
      obtain ⟨_, _, h64, _, hpk, _⟩ := L.ed_keypair _ pk sk hkp
      exact ⟨⟨pk, some sk, .ed⟩, by simp [fromSecretExponent, fse_rec, h64, hpk], rfl⟩
  all_goals
    obtain ⟨pk, hp⟩ := Option.isSome_iff_exists.mp hg
    exact ⟨⟨pk, some ((P.toSeed text (email ++ pass)).take 32), _⟩, by simp [fromSecretExponent, fse_rec, hp], rfl⟩

/-- with validation on, a word sequence that is not BIP-39 valid is refused before any derivation -/
theorem from_mnemonic_rejects_invalid (P : Prims) (L : Laws P) (ws : List (Option Nat))
    (hlt : ∀ i, some i ∈ ws → i < 2048) (hinv : ¬ ∃ idx, ws = idx.map some ∧ Spec.bip39Valid P.sha256 idx)
    (text pass email : Str) (c : Curve) :
    ∃ e, fromMnemonic P ws text pass email true c = .error e := by
  have hrec : Generated.C08.fromMnemonicRecognised = true := by decide
  cases hval : validateMnemonic P ws with
  | ok u => cases u; exact absurd ((mnemonic_accept_iff P L ws hlt).mp hval) hinv
  | error e => exact ⟨e, by simp [fromMnemonic, hrec, hval]⟩

/-- the toy primitives with a BLS derivation that, like py_ecc, refuses a little-endian scalar whose top byte
is 0x74 or more (the group order starts with 0x73ed…) -/
def Toy.primsStrict : Prims :=
  { Toy.prims with pub := fun c sk => if c = .bl && decide (116 ≤ sk.getLastD 0) then none else Toy.prims.pub c sk }

/-- counter-example inside the model: `abandon` x 12 is BIP-39 valid for the toy SHA, yet `from_mnemonic` with
curve BLS fails in the derivation primitive when the seed's scalar is out of range (here: passphrase byte 0xff
gives the all-0xff seed), while the same mnemonic derives an ed25519 key -/
theorem from_mnemonic_counterexample :
    (validateMnemonic Toy.primsStrict (List.replicate 12 (some 0))).toBool = true ∧
    (fromMnemonic Toy.primsStrict (List.replicate 12 (some 0)) [] [255] [] true .bl).toBool = false ∧
    (fromMnemonic Toy.primsStrict (List.replicate 12 (some 0)) [] [255] [] true .ed).toBool = true := by
  decide +kernel

/-- derivation is a function of (words, text, passphrase, email, curve): same inputs, same key -/
theorem derivation_deterministic (P : Prims) (ws ws' : List (Option Nat)) (text text' pass pass' email email' : Str)
    (v : Bool) (c : Curve) (h1 : ws = ws') (h2 : text = text') (h3 : pass = pass') (h4 : email = email') :
    fromMnemonic P ws text pass email v c = fromMnemonic P ws' text' pass' email' v c := by
  subst h1 h2 h3 h4; rfl

theorem hypotheses_satisfiable :
    Laws Toy.prims ∧ CodecLaws Toy.codec keyRows ∧ CodecLaws Toy.codec pkhRows ∧ WFKey Toy.prims Toy.keyBl ∧
      WFKey Toy.prims Toy.keyEd :=
  ⟨Toy.laws, Toy.codec_laws_key, Toy.codec_laws_pkh,
    ⟨List.range 32, rfl, rfl, fun _ => ⟨by decide, Toy.isBytes_of_all _ (by decide)⟩⟩,
    ⟨_, rfl, ⟨List.range 32, by decide +kernel⟩, fun h => absurd rfl h⟩⟩

-- an encrypted export of the toy ed25519 key with passphrase "pw" and salt 1..8 imports back
example : ∃ s, secretKey Toy.prims Toy.codec Toy.keyEd (some [112, 119]) true [1, 2, 3, 4, 5, 6, 7, 8] = .ok s ∧
    fromEncodedKey Toy.prims Toy.codec (.str s) (some [112, 119]) = .ok Toy.keyEd :=
  export_import_encrypted Toy.prims Toy.codec Toy.laws Toy.codec_laws_key Toy.keyEd hypotheses_satisfiable.2.2.2.2
    [112, 119] (by decide) [1, 2, 3, 4, 5, 6, 7, 8] rfl (Toy.isBytes_of_all _ (by decide))

-- `BLesk…` of 88 characters is an encrypted BLS secret key; `edpk…` of 54 a plain ed25519 public key
example : classify ([66, 76, 101, 115, 107] ++ List.replicate 83 49) = .ok (.bl, true, true) := rfl
example : classify ([101, 100, 112, 107] ++ List.replicate 50 49) = .ok (.ed, false, false) := rfl
-- thirteen words: rejected for their number; a word outside the list: rejected
example : validateMnemonic Toy.prims (List.replicate 13 (some 0)) = .error (.valueError .mnemonicLength) := rfl
example : validateMnemonic Toy.prims (none :: List.replicate 11 (some 0)) = .error (.valueError .mnemonicWord) := rfl
-- with the toy SHA (32 copies of the byte sum): 12 x word 0 has checksum bits 0000 = its last 4 bits: accepted;
-- changing the last word to index 1 breaks the checksum; 23 x word 2047 + word 2016 (= 111 ‖ 11100000) is accepted
example : (validateMnemonic Toy.prims (List.replicate 12 (some 0))).toBool = true := by decide +kernel
example : (validateMnemonic Toy.prims (List.replicate 11 (some 0) ++ [some 1])).toBool = false := by decide +kernel
example : (validateMnemonic Toy.prims (List.replicate 23 (some 2047) ++ [some 2016])).toBool = true := by
  decide +kernel

end C08
