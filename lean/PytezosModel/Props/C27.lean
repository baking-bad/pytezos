import PytezosModel.Proofs.C27
/-! C27 — node errors map to the most specific registered error class.

An identifier is a non-empty list of dot-free components (`IsId`); `Spec.Errors.fullId cs` is its text.  Every string is
the text of exactly one identifier (`ids_are_component_lists`, `components_unique`), so quantifying over identifiers
is quantifying over all strings `error['id']` can be — any number of components, registered or not.

`Spec.Errors.variants cs` lists the keys an identifier matches, most specific first: the full identifier, the
identifier without its `proto.<protocol>.` prefix, its final component, its category (the first component after the
prefix).  "The most specific registered class that matches" is made precise as `Spec.Errors.MostSpecific reg cs c`:
`c` is registered under the key of least rank in that order among the registered ones.

`Impl.Errors.classify ids` is the mirror of `RpcError.from_errors` (shape of `_gen_error_variants`, its literals
and the registry read from the source); theorems are about it, for every error list and every identifier. -/
namespace C27
open Impl.Errors Proofs.C27

/-- a well-formed identifier: at least one component, no component contains a dot -/
def IsId (cs : List Str) : Prop := cs ≠ [] ∧ ∀ c ∈ cs, Spec.Errors.dot ∉ c

/-- every string is the text of an identifier (its components are what `split('.')` yields) … -/
theorem ids_are_component_lists (s : Str) :
    IsId (split Spec.Errors.dot s) ∧ Spec.Errors.fullId (split Spec.Errors.dot s) = s :=
  ⟨⟨split_ne_nil _ s, split_sepfree _ s⟩, join_split _ s⟩

/-- … of exactly one -/
theorem components_unique (cs : List Str) (h : IsId cs) : split Spec.Errors.dot (Spec.Errors.fullId cs) = cs :=
  split_join _ cs h.1 h.2

/-- `_gen_error_variants` yields exactly the specified keys in the specified order, for every identifier -/
theorem variants_spec (cs : List Str) (h : IsId cs) :
    variants (Spec.Errors.fullId cs) = some (Spec.Errors.variants cs) := by
  simp only [variants, variantsFn_eq, Option.map_some, Variants.apply, Spec.Errors.fullId]
  rw [variantsRepaired_spec cs h.1 h.2]

/-- the same for an arbitrary string -/
theorem variants_spec_string (s : Str) : variants s = some (Spec.Errors.variants (split Spec.Errors.dot s)) := by
  have h := ids_are_component_lists s
  have := variants_spec _ h.1
  rwa [h.2] at this

/-- the four ranks, spelled out: full id, id without protocol prefix, final component, category — always present -/
theorem variants_ranks (cs : List Str) (h : IsId cs) :
    ∃ fin cat, Spec.Errors.finalComponent cs = some fin ∧ Spec.Errors.category cs = some cat ∧
      Spec.Errors.variants cs = [Spec.Errors.fullId cs, Spec.Errors.withoutProto cs, fin, cat] := by
  have hs : Spec.Errors.stripProto cs ≠ [] := by
    fun_cases Spec.Errors.stripProto cs
    · exact List.cons_ne_nil _ _
    · exact List.cons_ne_nil _ _
    · exact h.1
  cases hsp : Spec.Errors.stripProto cs with
  | nil => exact absurd hsp hs
  | cons x xs =>
    refine ⟨(x :: xs).getLast (by simp), x, ?_, ?_, ?_⟩
    · simp [Spec.Errors.finalComponent, hsp, List.getLast?_eq_some_getLast]
    · simp [Spec.Errors.category, hsp]
    · simp [Spec.Errors.variants, Spec.Errors.finalComponent, Spec.Errors.category, hsp, List.getLast?_eq_some_getLast]

/-- the model is total: the shape of `_gen_error_variants`, `from_errors` and the registry were recognised -/
theorem classify_defined (ids : List Str) : ∃ r, classify ids = some r := by
  obtain ⟨reg, hreg⟩ : ∃ reg, Generated.C27.registry = some reg := ⟨_, rfl⟩
  exact ⟨_, classify_eq reg hreg ids⟩

/-- an empty error list gives the generic "unspecified" error -/
theorem empty_unspecified : classify [] = some .unspecified := rfl

/-- `from_errors` looks only at the LAST error and returns the class of the first registered key of its variants,
the generic class when there is none -/
theorem fromErrors_spec (reg : List (Str × Generated.C27.Cls)) (hreg : Generated.C27.registry = some reg)
    (earlier : List Str) (cs : List Str) (h : IsId cs) :
    classify (earlier ++ [Spec.Errors.fullId cs]) =
      some (match firstRegistered reg (Spec.Errors.variants cs) with
            | some c => .handler c earlier.length
            | none => .generic earlier.length) := by
  rw [classify_eq reg hreg]
  simp only [fromErrors, List.getLast?_append, List.getLast?_singleton, Option.some_or, Variants.apply,
    List.length_append, List.length_singleton, Nat.add_sub_cancel, Spec.Errors.fullId]
  rw [variantsRepaired_spec cs h.1 h.2]
  cases firstRegistered reg (Spec.Errors.variants cs) <;> rfl

/-- the raised class is the most specific registered class matching the last error's identifier -/
theorem raised_is_most_specific (reg : List (Str × Generated.C27.Cls)) (hreg : Generated.C27.registry = some reg)
    (earlier : List Str) (cs : List Str) (h : IsId cs) (c : Generated.C27.Cls) :
    classify (earlier ++ [Spec.Errors.fullId cs]) = some (.handler c earlier.length) ↔
      Spec.Errors.MostSpecific reg cs c := by
  rw [fromErrors_spec reg hreg earlier cs h]
  unfold Spec.Errors.MostSpecific Spec.Errors.keyAt
  rw [← firstRegistered_some reg c (Spec.Errors.variants cs)]
  cases firstRegistered reg (Spec.Errors.variants cs) <;> simp

/-- the generic `RpcError` is raised exactly when no key of the identifier is registered -/
theorem generic_when_none (reg : List (Str × Generated.C27.Cls)) (hreg : Generated.C27.registry = some reg)
    (earlier : List Str) (cs : List Str) (h : IsId cs) :
    classify (earlier ++ [Spec.Errors.fullId cs]) = some (.generic earlier.length) ↔
      Spec.Errors.NoneRegistered reg cs := by
  rw [fromErrors_spec reg hreg earlier cs h]
  unfold Spec.Errors.NoneRegistered
  rw [← firstRegistered_none reg (Spec.Errors.variants cs)]
  cases firstRegistered reg (Spec.Errors.variants cs) <;> simp

/-- nothing else can come out: a handler class or the generic class, built from the last error -/
theorem raised_from_last (reg : List (Str × Generated.C27.Cls)) (hreg : Generated.C27.registry = some reg)
    (earlier : List Str) (cs : List Str) (h : IsId cs) :
    (∃ c, classify (earlier ++ [Spec.Errors.fullId cs]) = some (.handler c earlier.length)) ∨
      classify (earlier ++ [Spec.Errors.fullId cs]) = some (.generic earlier.length) := by
  rw [fromErrors_spec reg hreg earlier cs h]
  cases firstRegistered reg (Spec.Errors.variants cs) with
  | some c => exact Or.inl ⟨c, rfl⟩
  | none => exact Or.inr rfl

/-! non-vacuity: concrete identifiers against the registry of the tree -/
section examples
private def proto : Str := [112, 114, 111, 116, 111]
private def alpha : Str := [97, 108, 112, 104, 97]
private def michelson_v1 : Str := [109, 105, 99, 104, 101, 108, 115, 111, 110, 95, 118, 49]
private def script_rejected : Str := [115, 99, 114, 105, 112, 116, 95, 114, 101, 106, 101, 99, 116, 101, 100]
private def runtime_error : Str := [114, 117, 110, 116, 105, 109, 101, 95, 101, 114, 114, 111, 114]
private def bad_return : Str := [98, 97, 100, 95, 114, 101, 116, 117, 114, 110]
private def tez : Str := [116, 101, 122]
private def contract : Str := [99, 111, 110, 116, 114, 97, 99, 116]
open Spec.Errors (fullId)

example : IsId [proto, alpha, michelson_v1, script_rejected] := by unfold IsId; decide
-- FAILWITH: the final component is registered and more specific than the category
example : classify [fullId [proto, alpha, tez, runtime_error], fullId [proto, alpha, michelson_v1, script_rejected]] =
    some (.handler .MichelsonScriptRejected 1) := by decide
-- id without protocol prefix beats final component and category
example : classify [fullId [proto, alpha, michelson_v1, bad_return]] = some (.handler .MichelsonBadReturn 0) := by decide
-- only the category is registered
example : classify [fullId [proto, alpha, michelson_v1, runtime_error]] = some (.handler .MichelsonError 0) := by decide
example : classify [fullId [tez, runtime_error]] = some (.handler .TezArithmeticError 0) := by decide
-- a protocol named like a category is not a category
example : classify [fullId [proto, tez, contract]] = some (.generic 0) := by decide
-- five components: the category is still the first one after the prefix
example : classify [fullId [proto, alpha, michelson_v1, contract, runtime_error]] = some (.handler .MichelsonError 0) := by decide
example : classify [fullId [proto, alpha, contract, runtime_error]] = some (.generic 0) := by decide
end examples

end C27
