import PytezosModel.Proofs.C03Impl
import PytezosModel.Proofs.C14Coll
import PytezosModel.Proofs.C03Bridge
/-!
# C03 — COMPARE and ordered collections follow the Tezos total order

`Impl.Order.compare` is the mirror of `compare()` (instructions/compare.py) over the mirrored `__eq__` / `__lt__` of every
comparable runtime type (shapes and tables re-extracted from the source on every run: `Generated.C03`);
`Spec.Order.cmp` is the structural Tezos order.  All statements quantify over ALL comparable types `τ` and ALL values
`HasTy · τ` (structural induction, no depth bound).
-/
namespace C03
open Order Impl.Order Spec.Order Coll

/-- COMPARE returns -1 / 0 / 1 exactly as the Tezos order says (and never raises) — every comparable type, every two values -/
theorem compare_eq_spec {a b : CVal} {τ : CTy} (ha : HasTy a τ) (hb : HasTy b τ) :
    Impl.Order.compare a b = some (toInt (cmp a b)) := by
  unfold Impl.Order.compare
  rw [shapesOk_true, eq_spec ha hb, lt_spec ha hb]
  cases cmp a b <;> rfl

/-! The relation COMPARE computes is a total order (laws of `Impl.Order.compare` itself). -/
theorem compare_refl {a : CVal} {τ : CTy} (ha : HasTy a τ) : Impl.Order.compare a a = some 0 := by
  rw [compare_eq_spec ha ha, (spec_lawful τ).refl a ha]; rfl

theorem compare_antisymm {a b : CVal} {τ : CTy} (ha : HasTy a τ) (hb : HasTy b τ)
    (h : Impl.Order.compare a b = some 0) : a = b := by
  rw [compare_eq_spec ha hb] at h
  exact (spec_lawful τ).eq_imp a b ha hb (toInt_inj (o' := .eq) (Option.some.inj h))

/-- swapping the operands negates the result -/
theorem compare_swap {a b : CVal} {τ : CTy} (ha : HasTy a τ) (hb : HasTy b τ) :
    Impl.Order.compare b a = (Impl.Order.compare a b).map (fun r => -r) := by
  rw [compare_eq_spec ha hb, compare_eq_spec hb ha, (spec_lawful τ).swap a b ha hb]
  cases cmp a b <;> rfl

theorem compare_trans {a b c : CVal} {τ : CTy} (ha : HasTy a τ) (hb : HasTy b τ) (hc : HasTy c τ)
    (hab : Impl.Order.compare a b = some (-1)) (hbc : Impl.Order.compare b c = some (-1)) :
    Impl.Order.compare a c = some (-1) := by
  rw [compare_eq_spec ha hb] at hab
  rw [compare_eq_spec hb hc] at hbc
  rw [compare_eq_spec ha hc]
  have h1 : cmp a b = .lt := toInt_inj (Option.some.inj hab)
  have h2 : cmp b c = .lt := toInt_inj (Option.some.inj hbc)
  rw [(spec_lawful τ).trans a b c ha hb hc h1 h2]; rfl

theorem compare_total {a b : CVal} {τ : CTy} (ha : HasTy a τ) (hb : HasTy b τ) :
    a = b ∨ Impl.Order.compare a b = some (-1) ∨ Impl.Order.compare b a = some (-1) := by
  rw [compare_eq_spec ha hb, compare_eq_spec hb ha, (spec_lawful τ).swap a b ha hb]
  cases h : cmp a b
  · exact .inr (.inl rfl)
  · exact .inl ((spec_lawful τ).eq_imp a b ha hb h)
  · exact .inr (.inr rfl)

/-- `__lt__` never raises on two values of one type, and is the strict part of the order -/
theorem lt_defined {τ : CTy} (a b : TVal τ) : Impl.Order.lt a.1 b.1 = some (TVal.lt a b) := by
  unfold TVal.lt
  rw [lt_spec a.2 b.2]
  cases (cmp a.1 b.1).isLT <;> rfl

theorem tval_lt_iff {τ : CTy} (a b : TVal τ) : TVal.lt a b = true ↔ cmp a.1 b.1 = .lt := by
  unfold TVal.lt
  rw [lt_spec a.2 b.2]
  cases cmp a.1 b.1 <;> simp [Ordering.isLT]

theorem tval_eq_iff {τ : CTy} (a b : TVal τ) : TVal.eq a b = true ↔ a = b := TVal.eq_iff a b

/-- `__eq__` / `__lt__` of the values of any comparable type form a strict total order
(this is the hypothesis C14 is stated under) -/
theorem tval_strictTotal (τ : CTy) : StrictTotal (TVal.eq (τ := τ)) TVal.lt where
  eq_iff := tval_eq_iff
  irrefl := by
    intro a
    cases h : TVal.lt a a with
    | false => rfl
    | true => rw [tval_lt_iff, (spec_lawful τ).refl _ a.2] at h; cases h
  trans := by
    intro a b c hab hbc
    rw [tval_lt_iff] at *
    exact (spec_lawful τ).trans _ _ _ a.2 b.2 c.2 hab hbc
  total := by
    intro a b
    simp only [tval_lt_iff, (spec_lawful τ).swap a.1 b.1 a.2 b.2]
    cases h : cmp a.1 b.1
    · exact .inr (.inl rfl)
    · exact .inl (Subtype.ext ((spec_lawful τ).eq_imp _ _ a.2 b.2 h))
    · exact .inr (.inr rfl)

/-- the list sorted by the specification order (insertion sort on `Spec.Order.cmp`) -/
def specSort {τ : CTy} (xs : List (TVal τ)) : List (TVal τ) :=
  Impl.Coll.sortBy (fun a b => cmp a.1 b.1 == .lt) id xs

/-- ANY permutation of `xs` in which no later element is `__lt__` an earlier one — which is all CPython's `sorted`
promises — is THE list sorted by the specification order.  (Hence `sorted()` in `add` / `update` / `check_constraints`
yields Spec order whatever algorithm it uses.) -/
theorem sorted_unique {τ : CTy} (xs ys : List (TVal τ)) (hperm : ys.Perm xs)
    (hsorted : ys.Pairwise (fun a b => Impl.Order.lt b.1 a.1 = some false)) : ys = specSort xs := by
  have hlt : (fun a b : TVal τ => cmp a.1 b.1 == .lt) = TVal.lt :=
    funext fun a => funext fun b => Bool.eq_iff_iff.2 (beq_iff_eq.trans (tval_lt_iff a b).symm)
  have hT := tval_strictTotal τ
  have h1 : SortedBy TVal.lt id ys := hsorted.imp fun h => Option.some.inj ((lt_defined _ _).symm.trans h)
  have h2 : SortedBy TVal.lt id (specSort xs) := by
    unfold specSort; rw [hlt]; exact sortBy_sorted hT id xs
  exact sorted_perm_unique hT id (hperm.trans (sortBy_perm id xs).symm) h1 h2 fun _ _ e => e

/-- a set / map literal is accepted by `check_constraints` iff its keys are strictly ascending in the Tezos order
(so duplicates and unsorted literals are rejected, by the same relation COMPARE uses) -/
theorem checkConstraints_iff_strictSorted {τ : CTy} (ks : List (TVal τ)) :
    Impl.Coll.checkConstraints TVal.eq TVal.lt ks = .ok () ↔ ks.Pairwise (fun a b => cmp a.1 b.1 = .lt) := by
  rw [checkConstraints_ok_iff (tval_strictTotal τ)]
  unfold StrictSorted
  constructor <;> intro h <;> refine h.imp ?_ <;> intro a b hab
  · exact (tval_lt_iff a b).1 hab
  · exact (tval_lt_iff a b).2 hab

/-- … and the duplicate check fires exactly on duplicates -/
theorem checkConstraints_duplicate_iff {τ : CTy} (ks : List (TVal τ)) :
    Impl.Coll.checkConstraints TVal.eq TVal.lt ks = .error .duplicate ↔ ¬ ks.Nodup :=
  checkConstraints_dup_iff (tval_strictTotal τ) ks

/-- every value of a comparable type can be hashed (so `len(set(keys))` in `check_constraints` does not raise) -/
theorem hashable_all (v : CVal) : hashable v = true := by
  induction v with
  | unit => decide
  | some v ih => simpa [hashable] using ih
  | left v ih => simpa [hashable] using ih
  | right v ih => simpa [hashable] using ih
  | pair a b iha ihb => simp [hashable, iha, ihb]
  | _ => rfl

/-- pytezos accepts every type of the modelled universe as comparable (set / map key type) -/
theorem cty_is_comparable (τ : CTy) : isComparableC τ = some true := by
  have hb : Generated.C03.nonComparable = some (Generated.C03.nonComparable.getD []) := by decide
  unfold isComparableC
  rw [hb]
  simp only [Option.map_some, Option.some.injEq]
  induction τ with
  | num t => cases t <;> decide
  | option t ih => simp only [toPrim, isComparable, isComparable.isComparableL, ih, Bool.and_true]; decide
  | or l r ihl ihr => simp only [toPrim, isComparable, isComparable.isComparableL, ihl, ihr, Bool.and_true]; decide
  | pair l r ihl ihr => simp only [toPrim, isComparable, isComparable.isComparableL, ihl, ihr, Bool.and_true]; decide
  | _ => decide

/-- **text ↔ structure bridge.**  pytezos keeps key_hash / address values as base58check text and compares the text;
the model compares (kind tag, payload).  For kinds `k₁ k₂` (tz1 tz2 tz3 tz4 KT1 sr1), payloads and checksums that are
byte strings of equal lengths, and texts of the same number of characters (all these kinds encode to 36 characters: C09),
`textLt` / `textEq` of the model ARE Python's `<` / `==` on the texts `b58enc (binary prefix ‖ payload ‖ checksum)`
(the checksum is a function of prefix ‖ payload: `hck`). -/
theorem text_bridge (k₁ k₂ : Nat) (p₁ p₂ ck₁ ck₂ : List Nat) (h₁ : k₁ < 6) (h₂ : k₂ < 6)
    (hp₁ : ∀ x ∈ p₁, x < 256) (hp₂ : ∀ x ∈ p₂, x < 256) (hc₁ : ∀ x ∈ ck₁, x < 256) (hc₂ : ∀ x ∈ ck₂, x < 256)
    (hl : p₁.length = p₂.length) (hcl : ck₁.length = ck₂.length) (hck : k₁ = k₂ → p₁ = p₂ → ck₁ = ck₂)
    (htl : (Base58.b58enc (binPrefix k₁ ++ p₁ ++ ck₁)).length = (Base58.b58enc (binPrefix k₂ ++ p₂ ++ ck₂)).length) :
    textLt (pfx k₁) p₁ (pfx k₂) p₂
      = (lexCmp (Base58.b58enc (binPrefix k₁ ++ p₁ ++ ck₁)) (Base58.b58enc (binPrefix k₂ ++ p₂ ++ ck₂))).isLT
    ∧ textEq (pfx k₁) p₁ (pfx k₂) p₂
      = (lexCmp (Base58.b58enc (binPrefix k₁ ++ p₁ ++ ck₁)) (Base58.b58enc (binPrefix k₂ ++ p₂ ++ ck₂)) == .eq) :=
  textLt_is_string_lt k₁ k₂ p₁ p₂ ck₁ ck₂ h₁ h₂ hp₁ hp₂ hc₁ hc₂ hl hcl hck htl

/-- the bridge for one kind with an arbitrary non-empty binary prefix without leading zero byte (chain ids `Net…`, and
the reason `StringType.__lt__` is right for them): two texts with different payloads are ordered as the payload bytes -/
theorem text_bridge_one_kind (pfx' p p' ck ck' : List Nat)
    (hb : ∀ x ∈ pfx' ++ p ++ ck, x < 256) (hb' : ∀ x ∈ pfx' ++ p' ++ ck', x < 256)
    (h0 : pfx'.head? ≠ some 0) (hne0 : pfx' ≠ []) (hl : p.length = p'.length) (hcl : ck.length = ck'.length)
    (htl : (Base58.b58enc (pfx' ++ p ++ ck)).length = (Base58.b58enc (pfx' ++ p' ++ ck')).length) (hne : p ≠ p') :
    lexCmp (Base58.b58enc (pfx' ++ p ++ ck)) (Base58.b58enc (pfx' ++ p' ++ ck')) = lexCmp p p' :=
  b58_text_order_same_kind pfx' p p' ck ck' hb hb' h0 hne0 hl hcl htl hne

/-! ### non-vacuity -/
-- the bridge hypotheses are satisfiable: two real tz1 / KT1 byte strings (prefix ‖ 20 bytes ‖ 4 bytes) of equal text length
example : (Base58.b58enc (binPrefix 0 ++ List.replicate 20 7 ++ [1, 2, 3, 4])).length
    = (Base58.b58enc (binPrefix 4 ++ List.replicate 20 200 ++ [9, 9, 9, 9])).length := by decide +kernel
-- the pinned counter-example: COMPARE (Pair 1 5) (Pair 2 3) is -1 (first components decide)
example : Impl.Order.compare (.pair (.num .int 1) (.num .int 5)) (.pair (.num .int 2) (.num .int 3)) = some (-1) := by decide
example : HasTy (.pair (.num .int 1) (.num .int 5)) (.pair (.num .int) (.num .int)) := .pair (.num _ _ rfl) (.num _ _ rfl)
-- a smart rollup address is greater than an originated one, which is greater than an implicit one
example : Impl.Order.compare (.address 5 (List.replicate 20 0) []) (.address 4 (List.replicate 20 255) []) = some 1 := by decide
example : Impl.Order.compare (.address 4 (List.replicate 20 0) []) (.address 3 (List.replicate 20 255) []) = some 1 := by decide
-- `KT1…` (= `%default`) is greater than `KT1…%abc`
example : Impl.Order.compare (.address 4 (List.replicate 20 0) []) (.address 4 (List.replicate 20 0) [97, 98, 99]) = some 1 := by decide
-- a BLS key compares (greater than a p256 key)
example : Impl.Order.compare (.key 3 (List.replicate 48 0)) (.key 2 (List.replicate 33 255)) = some 1 := by decide
-- Some Unit vs None
example : Impl.Order.compare (.some .unit) .none = some 1 := by decide
-- a three-element literal
example : Impl.Coll.checkConstraints Impl.Order.eq (fun a b => Impl.Order.lt a b == some true)
    [.pair (.num .int 1) (.num .int 5), .pair (.num .int 2) (.num .int 3), .pair (.num .int 2) (.num .int 4)] = .ok () := by rfl
example : Impl.Coll.checkConstraints Impl.Order.eq (fun a b => Impl.Order.lt a b == some true)
    [.pair (.num .int 2) (.num .int 3), .pair (.num .int 1) (.num .int 5)] = .error .unsorted := by rfl

end C03
