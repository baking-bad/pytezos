import PytezosModel.Proofs.AddrForge
import PytezosModel.Proofs.HashSha256Nat
/-! C10 — addresses, keys, key hashes, signatures and chain ids survive the optimized binary form.

`Impl.AddrForge.*` mirror `forge_address / unforge_address / forge_contract / unforge_contract /
forge_public_key / unforge_public_key / unforge_chain_id / unforge_signature / forge_base58` of
`src/pytezos/michelson/forge.py`, on top of the Base58Check mirror of C09.  The dispatch tables (if/elif
chains, dict literals) and the shapes of `unforge_address`, `forge_contract`, `unforge_signature` are
regenerated from the source.  Values are the Base58 strings the functions exchange; a value of kind `p`
with payload `h` is *the* string `base58_encode(h, p)` (`base58Encode cks h p = .ok s`).  `cks` is the
checksum function, only assumed to return four bytes (the last section instantiates it with the executable
double SHA-256 the driver runs).  All theorems quantify over every entry of the
regenerated tables, every payload and every entrypoint name; the finite evaluations are closed facts about
the tables (that the prefix ↔ tag maps are mutually inverse is part of `entryOk` / `keyOk` / `readTablesOk`). -/
namespace C10
open Impl.Encoding Impl.AddrForge

theorem source_recognised : (Generated.C10.forgeAddressRecognised && Generated.C10.unforgeAddressRecognised
    && Generated.C10.forgeContractRecognised && Generated.C10.unforgeContractRecognised
    && Generated.C10.publicKeyRecognised && Generated.C10.chainIdRecognised
    && Generated.C10.signatureRecognised && Generated.C10.forgeBase58Recognised) = true := forge_recognised

/-- `unforge_address` recognises the 21-byte key-hash form by its length; `forge_contract` splits at the
first `%` only -/
theorem repaired_shapes : (Generated.C10.unforgeLengthFirst && Generated.C10.splitFirstOnly) = true := by decide

/-- every entry of the `forge_address` chain: its base58 row (20-byte payload, numeral-range obligation,
binary prefix as long as the textual one), the textual-prefix rule, and the entry's image under the tables of
`unforge_address` (prefix → tag → prefix is the identity) -/
theorem address_entries_ok : ∀ e ∈ Generated.C10.forgeAddressChain, entryOk e = true := by decide +kernel

/-- tag → prefix → tag is the identity: every entry of `tz_prefixes` and of the originated chain comes from an
entry of the `forge_address` chain; all address rows carry 20-byte payloads -/
theorem read_tables_ok : readTablesOk = true := by decide +kernel

/-- the two public-key maps are mutually inverse and every public-key row is in order -/
theorem key_entries_ok : ∀ e ∈ Generated.C10.keyTagOfPrefix, keyOk e = true := by decide +kernel
theorem key_maps_inverse :
    Generated.C10.keyPrefixOfTag.all (fun x => Generated.C10.keyTagOfPrefix.contains (x.2, x.1)) = true := by
  decide

theorem chain_id_ok : chainIdOk = true := by decide +kernel
/-- 64-byte and 96-byte signatures both have a prefix and a row -/
theorem signature_lengths_ok : sigLenOk 64 = true ∧ sigLenOk 96 = true := by decide +kernel
/-- every kind `is_sig` accepts has a row in order with a 64- or 96-byte payload -/
theorem signature_rows_ok : ∀ r ∈ table, r.human ∈ (validatorPrefixes "is_sig").getD [] →
    rowOk r = true ∧ (r.dataLen = 64 ∨ r.dataLen = 96) := by decide +kernel
/-- `is_sig` is among the validators the translator found, so `signature_rows_ok` (with its `getD []`) is not vacuous -/
theorem signature_kinds_nonempty : ((validatorPrefixes "is_sig").getD []).length = 5 := by decide

section
variable (cks : List Nat → List Nat) (hck : CksOk cks)

include hck in
/-- **addresses** (tz1–tz4, KT1, txr1, sr1 — every entry of the chain) and **all** 20-byte hashes:
the 22-byte form is read back as the same address -/
theorem address_roundtrip (e : Entry) (he : e ∈ Generated.C10.forgeAddressChain) (h : List Nat)
    (hl : h.length = 20) (hb : IsBytes h) :
    ∃ s, base58Encode cks h e.1 = .ok s ∧
      forgeAddress cks s false = .ok (e.2.1 ++ h ++ e.2.2) ∧
      unforgeAddress cks (e.2.1 ++ h ++ e.2.2) = .ok s := by
  have hok := address_entries_ok e he
  obtain ⟨s, hs, hf⟩ := forgeAddress_entry cks hck e hok h hl hb false
  have hu := (unforgeAddress_entry cks (Bool.and_eq_true_iff.1 repaired_shapes).1 e hok h hl s hs).1
  exact ⟨s, hs, by simpa using hf, hu⟩

include hck in
/-- **key hashes**: the 21-byte `tz_only` form (tag byte + digest) of every implicit-account kind is read
back as the same key hash, for all digests — including those starting with 00..03 or ending with 00 -/
theorem keyhash_roundtrip (e : Entry) (he : e ∈ Generated.C10.forgeAddressChain) (h2 : e.2.1.length = 2)
    (h : List Nat) (hl : h.length = 20) (hb : IsBytes h) :
    ∃ s, base58Encode cks h e.1 = .ok s ∧
      forgeAddress cks s true = .ok ((e.2.1 ++ h ++ e.2.2).drop 1) ∧
      unforgeAddress cks ((e.2.1 ++ h ++ e.2.2).drop 1) = .ok s ∧
      ((e.2.1 ++ h ++ e.2.2).drop 1).length = 21 := by
  have hok := address_entries_ok e he
  obtain ⟨s, hs, hf⟩ := forgeAddress_entry cks hck e hok h hl hb true
  have hu := (unforgeAddress_entry cks (Bool.and_eq_true_iff.1 repaired_shapes).1 e hok h hl s hs).2 h2
  refine ⟨s, hs, by simpa using hf, hu, ?_⟩
  have := entryOk_length e hok h hl
  rw [List.length_drop, this]

/-- **no kind confusion**: whatever `unforge_address` accepts is the forged form — 22-byte, or 21-byte for an
implicit account — of exactly the address it returns; in particular the kind it reports is the kind whose tag
the bytes carry -/
theorem no_kind_confusion (data s : List Nat) (h : unforgeAddress cks data = .ok s) :
    ∃ e ∈ Generated.C10.forgeAddressChain, ∃ hash, hash.length = 20 ∧ base58Encode cks hash e.1 = .ok s ∧
      (data = e.2.1 ++ hash ++ e.2.2 ∨ (e.2.1.length = 2 ∧ data = (e.2.1 ++ hash ++ e.2.2).drop 1)) :=
  unforgeAddress_sound cks (Bool.and_eq_true_iff.1 repaired_shapes).1 read_tables_ok data s h

include hck in
/-- … and forging that address again gives the bytes back -/
theorem unforge_then_forge (data s : List Nat) (hb : IsBytes data) (h : unforgeAddress cks data = .ok s) :
    forgeAddress cks s false = .ok data ∨ forgeAddress cks s true = .ok data := by
  obtain ⟨e, he, hash, hl, hs, hd⟩ := no_kind_confusion cks data s h
  have hdrop : e.2.1.length = 2 → (e.2.1 ++ hash ++ e.2.2).drop 1 = e.2.1.drop 1 ++ hash ++ e.2.2 := by
    intro h2
    rw [List.append_assoc, List.drop_append_of_le_length (by omega), ← List.append_assoc]
  have hhb : IsBytes hash := by
    intro b hbm
    rcases hd with hd | ⟨h2, hd⟩
    · apply hb; rw [hd]; simp [hbm]
    · apply hb; rw [hd, hdrop h2]; simp [hbm]
  have hf : ∀ tzOnly, forgeAddress cks s tzOnly =
      .ok (if tzOnly then (e.2.1 ++ hash ++ e.2.2).drop 1 else e.2.1 ++ hash ++ e.2.2) := by
    intro tzOnly
    obtain ⟨s', hs', hf⟩ := forgeAddress_entry cks hck e (address_entries_ok e he) hash hl hhb tzOnly
    rw [hs] at hs'
    cases hs'
    exact hf
  rcases hd with hd | ⟨_, hd⟩
  · exact Or.inl (hd ▸ hf false)
  · exact Or.inr (hd ▸ hf true)

include hck in
/-- **contracts**: address of any kind + any entrypoint name (ASCII, `%` allowed inside): forging and
reading back gives the same value, with the entrypoints `default` and `` normalised away -/
theorem contract_roundtrip (e : Entry) (he : e ∈ Generated.C10.forgeAddressChain) (h : List Nat)
    (hl : h.length = 20) (hb : IsBytes h) (ep : Option (List Nat)) (hascii : ∀ n, ep = some n → ∀ c ∈ n, c < 128) :
    ∃ s data, base58Encode cks h e.1 = .ok s ∧ forgeContract cks (withEp s ep) = .ok data ∧
      data = e.2.1 ++ h ++ e.2.2 ++ epBytes ep ∧
      unforgeContract cks data = .ok (if epBytes ep = [] then s else withEp s ep) := by
  obtain ⟨s, hs, hf, hu⟩ := address_roundtrip cks hck e he h hl hb
  have hp := percent_not_in_encoded cks h e.1 s hs
  refine ⟨s, _, hs, forgeContract_of cks (Bool.and_eq_true_iff.1 repaired_shapes).2 s _ hp hf ep, rfl, ?_⟩
  have hlen := entryOk_length e (address_entries_ok e he) h hl
  have hasc : ∀ c ∈ epBytes ep, c < 128 := by
    intro c hc
    cases ep with
    | none => simp [epBytes] at hc
    | some n =>
      simp only [epBytes] at hc
      split at hc
      · simp at hc
      · exact hascii n rfl c hc
  rw [unforgeContract_of cks _ s _ hlen hu hasc]
  cases ep with
  | none => simp [epBytes]
  | some n =>
    simp only [epBytes, withEp]
    split <;> simp_all

include hck in
/-- **public keys**: every kind of the chain (edpk 32, sppk / p2pk 33, BLpk 48 bytes) and every key -/
theorem public_key_roundtrip (e : List Nat × Nat) (he : e ∈ Generated.C10.keyTagOfPrefix) (r : Row)
    (hr : r ∈ table) (hh : r.human = e.1) (k : List Nat) (hl : k.length = r.dataLen) (hk : IsBytes k) :
    ∃ s, base58Encode cks k e.1 = .ok s ∧ forgePublicKey cks s = .ok (e.2 :: k) ∧
      unforgePublicKey cks (e.2 :: k) = .ok s :=
  publicKey_entry cks hck e (key_entries_ok e he) r hr hh k hl hk

/-- reading a public key: the tag byte selects the kind `forge_public_key` would have written it for -/
theorem public_key_no_confusion (data s : List Nat) (h : unforgePublicKey cks data = .ok s) :
    ∃ e ∈ Generated.C10.keyTagOfPrefix, ∃ k, data = e.2 :: k ∧ base58Encode cks k e.1 = .ok s :=
  unforgePublicKey_sound cks key_maps_inverse data s h

include hck in
/-- **chain ids**: all 4-byte values -/
theorem chain_id_roundtrip (d : List Nat) (hd : IsBytes d) (hl : d.length = 4) :
    ∃ s, unforgeChainId cks d = .ok s ∧ forgeBase58 cks s = .ok d :=
  chainId_bytes cks hck chain_id_ok d hd hl

include hck in
/-- **signatures**, bytes → value → bytes: all 64-byte and all 96-byte signatures -/
theorem signature_roundtrip (d : List Nat) (hd : IsBytes d) (hl : d.length = 64 ∨ d.length = 96) :
    ∃ s, unforgeSignature cks d = .ok s ∧ forgeBase58 cks s = .ok d := by
  apply signature_bytes cks hck d hd
  rcases hl with h | h <;> rw [h]
  · exact signature_lengths_ok.1
  · exact signature_lengths_ok.2

include hck in
/-- **signatures**, value → bytes → value: a signature of any kind `is_sig` accepts (edsig, spsig, p2sig,
BLsig, sig) is forged to its raw bytes, and reading those bytes gives a signature string with the *same
bytes* (the curve-specific prefix is not recoverable from 64 bytes: the generic `sig`, or `BLsig` for 96) -/
theorem signature_value_roundtrip (r : Row) (hr : r ∈ table)
    (hk : r.human ∈ (validatorPrefixes "is_sig").getD []) (d : List Nat) (hl : d.length = r.dataLen)
    (hd : IsBytes d) :
    forgeBase58 cks (encOf cks r d) = .ok d ∧
      ∃ s', unforgeSignature cks d = .ok s' ∧ forgeBase58 cks s' = .ok d := by
  obtain ⟨hrow, hlen⟩ := signature_rows_ok r hr hk
  exact ⟨forgeBase58_enc cks hck r hr hrow d hl hd, signature_roundtrip cks hck d hd (by rw [hl]; exact hlen)⟩

end

def exCks (v : List Nat) : List Nat := [v.length % 256, 7, 8, 9]

theorem exCks_ok : CksOk exCks := CksOk.of_length_mod 7 8 9 (by omega) (by omega) (by omega)

example : Generated.C10.forgeAddressChain.length = 7 ∧ Generated.C10.keyTagOfPrefix.length = 4 := by decide
-- a tz1 key hash whose digest starts with 00 and ends with 00, in the 21-byte form
example : (unforgeAddress exCks (0 :: 0 :: List.replicate 18 5 ++ [0])).toOption =
    (base58Encode exCks (0 :: List.replicate 18 5 ++ [0]) [116, 122, 49]).toOption := by decide +kernel
example : ((unforgeAddress exCks (0 :: 0 :: List.replicate 18 5 ++ [0])).toOption.map (·.take 3)) =
    some [116, 122, 49] := by decide +kernel
-- a tz2 key hash whose digest ends with 00 is not read as KT1
example : ((unforgeAddress exCks (1 :: List.replicate 19 5 ++ [0])).toOption.map (·.take 3)) =
    some [116, 122, 50] := by decide +kernel
-- KT1 with entrypoint "a%b": 22 + 3 bytes
example : ((base58Encode exCks (List.replicate 20 9) [75, 84, 49]).toOption.bind fun s =>
    (forgeContract exCks (s ++ [37, 97, 37, 98])).toOption.map (·.length)) = some 25 := by decide +kernel
-- a 96-byte signature reads as BLsig
example : ((unforgeSignature exCks (List.replicate 96 1)).toOption.map (·.take 5)) =
    some [66, 76, 115, 105, 103] := by decide +kernel

/-! ### the real checksum (executable double SHA-256, what the driver runs)

The round trips instantiated with `RealHash.cks`: they hold for the very strings pytezos exchanges.  The known-answer
examples are the address / bytes pairs of tests/unit_tests/test_michelson/test_micheline.py (`test_get_key_hash`,
`test_regr_local_remote_diff`), evaluated by the kernel with the Lean SHA-256. -/

theorem sha256d4_ok : CksOk RealHash.cks := ⟨RealHash.cks_length, RealHash.cks_bytes⟩

theorem address_roundtrip_sha256 (e : Entry) (he : e ∈ Generated.C10.forgeAddressChain) (h : List Nat)
    (hl : h.length = 20) (hb : IsBytes h) :
    ∃ s, base58Encode RealHash.cks h e.1 = .ok s ∧
      forgeAddress RealHash.cks s false = .ok (e.2.1 ++ h ++ e.2.2) ∧
      unforgeAddress RealHash.cks (e.2.1 ++ h ++ e.2.2) = .ok s :=
  address_roundtrip RealHash.cks sha256d4_ok e he h hl hb

theorem keyhash_roundtrip_sha256 (e : Entry) (he : e ∈ Generated.C10.forgeAddressChain) (h2 : e.2.1.length = 2)
    (h : List Nat) (hl : h.length = 20) (hb : IsBytes h) :
    ∃ s, base58Encode RealHash.cks h e.1 = .ok s ∧
      forgeAddress RealHash.cks s true = .ok ((e.2.1 ++ h ++ e.2.2).drop 1) ∧
      unforgeAddress RealHash.cks ((e.2.1 ++ h ++ e.2.2).drop 1) = .ok s ∧
      ((e.2.1 ++ h ++ e.2.2).drop 1).length = 21 :=
  keyhash_roundtrip RealHash.cks sha256d4_ok e he h2 h hl hb

theorem unforge_then_forge_sha256 (data s : List Nat) (hb : IsBytes data) (h : unforgeAddress RealHash.cks data = .ok s) :
    forgeAddress RealHash.cks s false = .ok data ∨ forgeAddress RealHash.cks s true = .ok data :=
  unforge_then_forge RealHash.cks sha256d4_ok data s hb h

theorem public_key_roundtrip_sha256 (e : List Nat × Nat) (he : e ∈ Generated.C10.keyTagOfPrefix) (r : Row)
    (hr : r ∈ table) (hh : r.human = e.1) (k : List Nat) (hl : k.length = r.dataLen) (hk : IsBytes k) :
    ∃ s, base58Encode RealHash.cks k e.1 = .ok s ∧ forgePublicKey RealHash.cks s = .ok (e.2 :: k) ∧
      unforgePublicKey RealHash.cks (e.2 :: k) = .ok s :=
  public_key_roundtrip RealHash.cks sha256d4_ok e he r hr hh k hl hk

theorem chain_id_roundtrip_sha256 (d : List Nat) (hd : IsBytes d) (hl : d.length = 4) :
    ∃ s, unforgeChainId RealHash.cks d = .ok s ∧ forgeBase58 RealHash.cks s = .ok d :=
  chain_id_roundtrip RealHash.cks sha256d4_ok d hd hl

theorem signature_roundtrip_sha256 (d : List Nat) (hd : IsBytes d) (hl : d.length = 64 ∨ d.length = 96) :
    ∃ s, unforgeSignature RealHash.cks d = .ok s ∧ forgeBase58 RealHash.cks s = .ok d :=
  signature_roundtrip RealHash.cks sha256d4_ok d hd hl

-- `tz1MsmYzmqxHs9trE1qQugZxxcLPqAXdQaX9` ↔ 0000 18896fcfc6690baefa9aedc6d759f9bf05727e8c (test_get_key_hash)
example : (forgeAddress RealHash.cks [116, 122, 49, 77, 115, 109, 89, 122, 109, 113, 120, 72, 115, 57, 116, 114, 69, 49, 113, 81, 117, 103, 90, 120, 120, 99, 76,
    80, 113, 65, 88, 100, 81, 97, 88, 57] false).toOption =
    some [0, 0, 24, 137, 111, 207, 198, 105, 11, 174, 250, 154, 237, 198, 215, 89, 249, 191, 5, 114, 126, 140] := by
  rw [RealHash.cks_eq_nat]
  decide +kernel
example : (unforgeAddress RealHash.cks [0, 0, 24, 137, 111, 207, 198, 105, 11, 174, 250, 154, 237, 198, 215, 89, 249, 191, 5, 114, 126, 140]).toOption =
    some [116, 122, 49, 77, 115, 109, 89, 122, 109, 113, 120, 72, 115, 57, 116, 114, 69, 49, 113, 81, 117, 103, 90, 120, 120, 99, 76,
    80, 113, 65, 88, 100, 81, 97, 88, 57] := by
  rw [RealHash.cks_eq_nat]
  decide +kernel
-- … and its 21-byte key-hash form (digest starting with 0x18)
example : (unforgeAddress RealHash.cks [0, 24, 137, 111, 207, 198, 105, 11, 174, 250, 154, 237, 198, 215, 89, 249, 191, 5, 114, 126, 140]).toOption =
    some [116, 122, 49, 77, 115, 109, 89, 122, 109, 113, 120, 72, 115, 57, 116, 114, 69, 49, 113, 81, 117, 103, 90, 120, 120, 99, 76,
    80, 113, 65, 88, 100, 81, 97, 88, 57] := by
  rw [RealHash.cks_eq_nat]
  decide +kernel
-- destination and source of the operation in `test_regr_local_remote_diff`, as they appear in the forged bytes
example : (forgeAddress RealHash.cks [75, 84, 49, 86, 89, 85, 120, 104, 76, 111, 83, 118, 111, 117, 111, 122, 67, 97, 68, 71, 76, 49, 88, 99, 115, 119, 110, 97,
    103, 78, 102, 119, 114, 51, 121, 105] false).toOption =
    some [1, 229, 235, 242, 220, 199, 220, 201, 209, 60, 44, 69, 205, 118, 130, 61, 214, 4, 116, 12, 127, 0] := by
  rw [RealHash.cks_eq_nat]
  decide +kernel
example : (forgeAddress RealHash.cks [116, 122, 49, 103, 114, 83, 81, 68, 66, 121, 82, 112, 110, 86, 115, 55, 115, 80, 116, 97, 112, 114, 78, 90, 82, 112, 53,
    51, 49, 90, 75, 122, 54, 74, 109, 109] true).toOption =
    some [0, 232, 179, 108, 128, 239, 181, 30, 200, 90, 20, 86, 36, 38, 4, 154, 161, 130, 163, 206, 56] := by
  rw [RealHash.cks_eq_nat]
  decide +kernel
-- the mainnet chain id: 7a06a770 reads as `NetXdQprcVkpaWU`
example : (unforgeChainId RealHash.cks [0x7a, 0x06, 0xa7, 0x70]).toOption =
    some [78, 101, 116, 88, 100, 81, 112, 114, 99, 86, 107, 112, 97, 87, 85] := by
  rw [RealHash.cks_eq_nat]
  decide +kernel

end C10
