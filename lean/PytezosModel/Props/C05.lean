import PytezosModel.Micheline.Lower
import PytezosModel.Proofs.MichelineRT
import PytezosModel.Proofs.MichelineStrict
import PytezosModel.Proofs.Annots
import PytezosModel.Proofs.PrimTable
/-! C05 — Micheline binary encoding round-trips and decodes strictly.

The mirror (`Impl.Forge.forge` / `unforge`, `Core.forgeInt` / `unforgeInt`, the tables of `Impl.Lower`) is
instantiated with what the translator reads from the source *now*: `Impl.Lower.known` (the `prim_int`
table built from `prim_tags`), `Impl.Lower.strict` (does `unforge_int` reject trailing zeros).

Full statement (properties.jsonl): every expression of protocol primitives, integers of any size, strings,
bytes, sequences, annotated applications encodes to bytes that decode back to the same expression; different
(normalised) expressions encode differently; decoding rejects unknown tags, truncated / inconsistent length
prefixes, trailing bytes and non-minimal integers.  Normalisation of integer spelling and of `annots: []`
happens when JSON is read into the AST (`Mich`/`BMich` have one spelling), so it is exercised by the
correspondence, not stated here.  UTF-8 (str ↔ bytes) is outside the theorems. -/
namespace C05
open Core Impl.Forge Impl.Lower

/-- the source currently has the strict integer reader and a recognised `prim_int` construction -/
theorem source_is_strict : Generated.C05.unforgeIntStrict = some true ∧ Generated.C05.primIntExcluded = some [238] := by
  decide

/-- round trip, all expressions of any size and integers of any magnitude -/
theorem unforge_forge (e : BMich) (hw : BMich.WF known e = true) (bs : Bytes) (h : forge e = some bs) :
    unforge known strict bs = some e :=
  Impl.Forge.unforge_forge known strict e hw bs h

/-- different expressions never forge to the same bytes -/
theorem forge_injective (e₁ e₂ : BMich) (h₁ : BMich.WF known e₁ = true) (h₂ : BMich.WF known e₂ = true)
    (bs : Bytes) (f₁ : forge e₁ = some bs) (f₂ : forge e₂ = some bs) : e₁ = e₂ :=
  Impl.Forge.forge_injective known e₁ e₂ h₁ h₂ bs f₁ f₂

/-- strict decoding: the decoder accepts only what the length-delimited strict reference decoder accepts
(which rejects node tags > 10, unknown primitive tags, short buffers, over/under-running length prefixes,
trailing bytes and integers with a trailing zero group), and returns the same expression -/
theorem unforge_strict (bs : Bytes) (e : BMich) (h : unforge known strict bs = some e) :
    Spec.Micheline.decode known bs = some e :=
  unforge_refines_spec known bs e (strict_eq ▸ h)

/-- integers: zarith round trip for every `Int` … -/
theorem int_roundtrip (z : Int) (rest : Bytes) : unforgeInt strict (forgeInt z ++ rest) = some (z, rest) :=
  unforgeInt_forgeInt strict z rest

/-- … and minimality: an accepted integer encoding is the canonical one (or negative zero `0x40`, the one
redundant code of the sign-magnitude format, which Tezos also reads as 0) -/
theorem int_canonical (bs : Bytes) (hwf : Bytes.WF bs) (z : Int) (rest : Bytes)
    (h : unforgeInt strict bs = some (z, rest)) : bs = forgeInt z ++ rest ∨ (z = 0 ∧ bs = 64 :: rest) :=
  unforgeInt_strict_canonical bs hwf z rest (strict_eq ▸ h)

/-- the primitive tables are mutually inverse on the protocol primitives (every row of the regenerated
`prim_tags` whose tag is not the 0xee placeholder) -/
theorem prim_tables_inverse :
    ∀ row ∈ tagTable, row.2 ≠ 238 → primTag row.1 = some row.2 ∧ primOfTag row.2 = some row.1 :=
  fun _ h ht => ⟨primTag_of_mem h, primOfTag_of_mem h ht⟩

/-- exactly the tags 0x00–0x9e are decodable primitives -/
theorem known_tags : ∀ t, t < 256 → (known t = true ↔ t ≤ 158) :=
  fun t _ => known_iff t

/-- annotations: joining with spaces and splitting again is the identity on non-empty lists of space-free annotations -/
theorem annots_roundtrip (as : List Bytes) (hne : as ≠ []) (h : ∀ a ∈ as, 32 ∉ a) : splitSp (joinSp as) = as :=
  splitSp_joinSp as hne h

-- non-vacuity: a concrete annotated application with a big negative integer, a sequence and ≥ 3 arguments
example : (forge (.prim 7 [.int (-1234567890123456789012345), .seq [.str [97], .bytes []], .prim 11 [] none, .int 0] (some [37, 97]))).isSome = true
    ∧ BMich.WF known (.prim 7 [.int (-1234567890123456789012345), .seq [.str [97], .bytes []], .prim 11 [] none, .int 0] (some [37, 97])) = true := by
  decide +kernel
example : (unforgeInt strict [129, 0]).isNone = true := by
  decide +kernel

end C05
