import PytezosModel.Proofs.C20Main
import PytezosModel.Proofs.C20TyMain
/-! C20 — tickets are never forged, duplicated, zeroed or merged incorrectly.

Full statement (properties.jsonl): in every execution the total ticket amount per (ticketer, contents) changes only
through TICKET, no ticket of amount zero is ever produced (TICKET with amount 0, SPLIT_TICKET with a zero part or with
parts not summing to the amount return None), JOIN_TICKETS succeeds exactly when ticketer and contents match, and
tickets are never duplicated.

The mini-interpreter `Impl.Tickets.run` mirrors how pytezos executes TICKET / READ_TICKET / SPLIT_TICKET / JOIN_TICKETS /
PAIR / UNPAIR / CAR / CDR / SOME / NONE / IF_NONE / LEFT / RIGHT / IF_LEFT / CONS / NIL / ITER / MAP / DUP / DUP n / SWAP /
DIG / DUG / DROP / DIP / DIP n / PUSH (incl. set and map literals) / EMPTY_MAP / EMPTY_BIG_MAP / EMPTY_SET / GET /
GET_AND_UPDATE / UPDATE (maps, big_maps, sets) / MEM / LAMBDA / EXEC / APPLY / FAILWITH and sequences, including every
dynamic check (`is_duplicable` on the runtime class, the `dup` argument of `get`, `is_pushable`, `is_comparable`,
`assert_type_equal`); `cfg` is the shape of the code under test as read by the translator on this run.

The theorems quantify over EVERY program of that instruction set — well typed or not —, every fuel and every start
state whose values are `consistent` (containers hold what their class says; e.g. the empty stack).

FULL conservation statement (not provable, because false for the real code):
  `run cfg fuel prog s = .ok s' → ∀ k, s'.sum k + mintedSum k s.minted ≤ s.sum k + mintedSum k s'.minted`.
pytezos does not check the type of the value UPDATE / GET_AND_UPDATE store into a map, so an ILL-TYPED program can hide
a ticket in a `map nat nat` and DUP it (`conservation_needs_typed_stores` below proves this about the mirror, by
evaluation).  The Michelson type checker rejects such programs.  Proved instead: `conservation_partial`, under the
decidable run-time guard `s'.typedStores = true` (a ghost flag computed by the interpreter: every executed UPDATE /
GET_AND_UPDATE stored a value of the map's declared value type).  Nothing else is assumed about typing: the dynamic
duplicability / pushability checks are what carries the proof.

`conservation` (below) replaces the ghost guard by a STATIC hypothesis: the program passes the type checker of
`Michelson/TicketsTyping.lean` (`wellTyped`: the Michelson typing rules of the fragment) against the classes of a well
typed start stack.  Type preservation (`Proofs/C20Ty*.lean`, induction on the evaluation) shows that such a run never
stores a value that has not the map's declared value type, so the flag is still true at the end and the dynamic-check
proof applies; no ghost field occurs in the statement.  The checker accepts MAP only with a body that gives back the
element type it received: pytezos returns the source collection unchanged when it is empty (open finding of C01 / C02),
so after a type-changing MAP the class of the result is not the static type (`typed_map_rule_is_restricted`).  The
checker does not cover LAMBDA / EXEC / APPLY (it rejects them: typing a lambda VALUE needs the checker inside the value
typing); programs with lambdas are covered by `conservation_partial`. -/
namespace C20
open Impl.Tickets

/-- what the translator read from the source: "ticket" makes a type non-duplicable / non-pushable / non-comparable,
split rejects a zero part, split and join keep the ticket's class, `BigMapType.get` honours `dup`, DUP / DUP n check the
duplicability of a big_map operand, and the mirrored bodies (incl. `BigMapType.update` as repaired for C15) are the
recognised ones -/
theorem source_shape :
    Generated.C20.nonDuplicablePrims = some ["ticket"]
      ∧ (Generated.C20.nonPushablePrims.getD []).contains "ticket" = true
      ∧ (Generated.C20.nonComparablePrims.getD []).contains "ticket" = true
      ∧ Generated.C20.splitRejectsZero = some true ∧ Generated.C20.splitKeepsClass = some true
      ∧ Generated.C20.joinKeepsClass = some true ∧ Generated.C20.bigMapGetHonoursDup = some true
      ∧ Generated.C20.dupChecksBigMap = some true ∧ Generated.C20.duplicateAsserts = true
      ∧ Generated.C20.mapBodiesRecognised = true ∧ Generated.C20.bigMapUpdateRecognised = true
      ∧ Generated.C20.ticketInstrsRecognised = true := by decide

theorem cfg_ok : CfgOk cfg := ⟨by decide, by decide, by decide, by decide⟩

theorem run_good (fuel : Nat) (prog : List Instr) (s s' : State) (h : run cfg fuel prog s = .ok s') : Good s s' := by
  exact execSeq_good cfg_ok fuel prog s s' (guard_ok' h).2

/-- CONSERVATION: tickets only come from TICKET (the `minted` log); everything else can at most destroy them.
Every program, every fuel, every consistent start state; guard: no ill-typed store happened. -/
theorem conservation_partial (fuel : Nat) (prog : List Instr) (s s' : State) (hc : LC s.items)
    (h : run cfg fuel prog s = .ok s') (ht : s'.typedStores = true) :
    ∀ k, s'.sum k + mintedSum k s.minted ≤ s.sum k + mintedSum k s'.minted :=
  ((run_good fuel prog s s' h).inv ht hc).2.1

/-- the mint log only grows, and only TICKET writes to it (by definition of the mirror) -/
theorem minted_grows (fuel : Nat) (prog : List Instr) (s s' : State) (h : run cfg fuel prog s = .ok s') :
    ∃ new, s'.minted = new ++ s.minted :=
  (run_good fuel prog s s' h).minted_ext

/-- NO ZERO TICKET is ever produced -/
theorem no_zero_ticket (fuel : Nat) (prog : List Instr) (s s' : State) (hc : LC s.items) (hz : LN s.items)
    (h : run cfg fuel prog s = .ok s') (ht : s'.typedStores = true) : LN s'.items :=
  ((run_good fuel prog s s' h).inv ht hc).2.2 hz

/-- consistency of the stack is itself preserved (so the theorems compose over successive runs) -/
theorem consistency_preserved (fuel : Nat) (prog : List Instr) (s s' : State) (hc : LC s.items)
    (h : run cfg fuel prog s = .ok s') (ht : s'.typedStores = true) : LC s'.items :=
  ((run_good fuel prog s s' h).inv ht hc).1

/-- the guard is monotone: once an ill-typed store happened the flag stays false -/
theorem typed_stores_monotone (fuel : Nat) (prog : List Instr) (s s' : State) (h : run cfg fuel prog s = .ok s')
    (ht : s'.typedStores = true) : s.typedStores = true :=
  (run_good fuel prog s s' h).typed_mono ht

theorem cfg_ok2 : CfgOk2 cfg := ⟨by decide, by decide⟩

/-- TYPE PRESERVATION of the mirror for checked programs: a successful run ends with the stack types the checker computed
(in particular the checker did not predict "always fails"), every value deeply well typed, nothing protected, and no
ill-typed store happened -/
theorem type_preservation (fuel : Nat) (prog : List Instr) (items : List Val) (self : String) (s' : State)
    (hw : wellTyped cfg prog items = true) (h : run cfg fuel prog (State.start items self) = .ok s') :
    ∃ Γ', tySeq cfg prog (items.map Val.typeOf) = some (some Γ') ∧ s'.items.map Val.typeOf = Γ'
      ∧ (∀ v ∈ s'.items, v.wt = true) ∧ s'.prot = 0 ∧ s'.typedStores = true := by
  obtain ⟨_, Γ', hr, ⟨t1, _, t3⟩, a1, a2⟩ := run_typed cfg_ok2 hw h
  exact ⟨Γ', hr, a2, a1, t3, t1⟩

/-- CONSERVATION, statically guarded: for EVERY program accepted by the type checker, every fuel, every well typed start
stack and every self address — tickets only come from TICKET (the mint log of the run); everything else can at most
destroy them.  No ghost flag: well-typedness implies that every store has the declared value type. -/
theorem conservation (fuel : Nat) (prog : List Instr) (items : List Val) (self : String) (s' : State)
    (hw : wellTyped cfg prog items = true) (h : run cfg fuel prog (State.start items self) = .ok s') :
    ∀ k, s'.sum k ≤ ticketSumList k items + mintedSum k s'.minted := by
  obtain ⟨hc, _, _, ⟨ht, _⟩, _⟩ := run_typed cfg_ok2 hw h
  intro k
  have := conservation_partial fuel prog (State.start items self) s' hc h ht k
  simpa [State.start, State.sum, mintedSum] using this

/-- NO ZERO TICKET, statically guarded -/
theorem no_zero_ticket_typed (fuel : Nat) (prog : List Instr) (items : List Val) (self : String) (s' : State)
    (hw : wellTyped cfg prog items = true) (hz : LN items) (h : run cfg fuel prog (State.start items self) = .ok s') :
    LN s'.items := by
  obtain ⟨hc, _, _, ⟨ht, _⟩, _⟩ := run_typed cfg_ok2 hw h
  exact no_zero_ticket fuel prog (State.start items self) s' hc hz h ht

/-- TICKET with amount 0 gives None (and mints nothing) -/
theorem ticket_zero_none (f : Nat) (s s1 s' : State) (item : Val)
    (hp : s.pop2 = .ok (item, .atom (.nat 0), s1)) (h : exec cfg (f + 1) .ticket s = .ok s') :
    s' = s1.push (.none (.ticket item.typeOf)) := by
  have h := bind_eq hp h
  obtain ⟨_, h⟩ := guard_ok h
  cases hc : item.toCmp <;> rw [hc] at h <;> cases h
  rfl

/-- TICKET with a positive amount gives `Some` of exactly that ticket, issued by `self`, and logs it -/
theorem ticket_positive (f n : Nat) (hn : 0 < n) (s s1 s' : State) (item : Val) (ct : Cmp)
    (hp : s.pop2 = .ok (item, .atom (.nat n), s1)) (hct : item.toCmp = some ct)
    (h : exec cfg (f + 1) .ticket s = .ok s') :
    s' = { (s1.push (.some (.ticket (.ticket item.typeOf) s1.self ct n))) with minted := (s1.self, ct, n) :: s1.minted } := by
  have h := bind_eq hp h
  obtain ⟨_, h⟩ := guard_ok h
  rw [hct] at h
  dsimp only at h
  rw [if_pos hn] at h
  exact (Except.ok.inj h).symm

/-- SPLIT: `Some` exactly when the parts add up and none is zero; the parts are the ticket with those amounts -/
theorem split_spec (cls : Ty) (tk : String) (ct : Cmp) (A a b : Nat) :
    (split cfg cls tk ct A a b = some (.ticket cls tk ct a, .ticket cls tk ct b) ↔ a + b = A ∧ 0 < a ∧ 0 < b)
      ∧ (split cfg cls tk ct A a b = none ↔ ¬ (a + b = A ∧ 0 < a ∧ 0 < b)) := by
  rw [split_eq, cfg_ok2.splitKeeps]
  simp only [cfg_ok.split_zero, forall_const, if_true]
  by_cases h : a + b = A ∧ 0 < a ∧ 0 < b <;> simp [h]

/-- JOIN: `Some` exactly when ticketer and contents coincide; the result carries the sum of the amounts -/
theorem join_spec (cls : Ty) (tk1 tk2 : String) (c1 c2 : Cmp) (a1 a2 : Nat) :
    (join cfg cls tk1 c1 a1 tk2 c2 a2 = some (.ticket cls tk1 c1 (a1 + a2)) ↔ tk1 = tk2 ∧ c1 = c2)
      ∧ (join cfg cls tk1 c1 a1 tk2 c2 a2 = none ↔ ¬ (tk1 = tk2 ∧ c1 = c2)) := by
  rw [join_eq, cfg_ok2.joinKeeps]
  by_cases h : tk1 = tk2 ∧ c1 = c2 <;> simp [h]

/-- JOIN_TICKETS on two tickets of one (proper) ticket type never fails: it pushes `Some` of the merged ticket or `None` -/
theorem join_tickets_total (f : Nat) (s s1 : State) (t : Ty) (tk1 tk2 : String) (c1 c2 : Cmp) (a1 a2 : Nat)
    (hp : s.pop1 = .ok (.pair (.ticket (.ticket t) tk1 c1 a1) (.ticket (.ticket t) tk2 c2 a2), s1)) :
    exec cfg (f + 1) .joinTickets s
      = .ok (s1.push (if tk1 = tk2 ∧ c1 = c2 then .some (.ticket (.ticket t) tk1 c1 (a1 + a2)) else .none (.ticket t))) := by
  refine (bind_val hp).trans ?_
  simp only [bne_self_eq_false, Bool.false_eq_true, if_false, join_eq, cfg_ok2.joinKeeps]
  by_cases h : tk1 = tk2 ∧ c1 = c2 <;> simp [h, Val.typeOf, pure, Except.pure]

/-- NEVER DUPLICATED: DUP only succeeds on a value that holds no ticket -/
theorem dup_refuses_tickets (f : Nat) (s s' : State) (top : Val) (hc : LC s.items) (hpk : s.peek = .ok top)
    (h : exec cfg (f + 1) .dup s = .ok s') : ∀ k, ticketSum k top = 0 := by
  have h := bind_eq hpk h
  obtain ⟨r, hd, _⟩ := bind_ok h
  obtain ⟨rest, hrest⟩ := peek_perm hpk
  exact (duplicate_spec cfg_ok hd).2 ((LC_cons.mp ((LC_perm hrest).mp hc)).1)

/-- … and so does DUP n -/
theorem dupN_refuses_tickets (f n : Nat) (s s1 s' : State) (top : Val) (hc : LC s.items)
    (hp : s.protect (n - 1) = .ok s1) (hpk : s1.peek = .ok top)
    (h : exec cfg (f + 1) (.dupN n) s = .ok s') : ∀ k, ticketSum k top = 0 := by
  obtain ⟨_, h⟩ := guard_ok h
  have h := bind_eq hp h
  have h := bind_eq hpk h
  obtain ⟨r, hd, _⟩ := bind_ok h
  obtain ⟨rest, hrest⟩ := peek_perm hpk
  rw [(protect_sameCore hp).1] at hrest
  exact (duplicate_spec cfg_ok hd).2 ((LC_cons.mp ((LC_perm hrest).mp hc)).1)

/-- … and GET (on a map and on a big_map alike) only reads maps whose value type is duplicable -/
theorem get_refuses_tickets (f : Nat) (s s1 s' : State) (key : Val) (big : Bool) (kt vt : Ty) (keys : List Atom)
    (vals : List Val) (removed : List Atom) (hp : s.pop2 = .ok (key, .map big kt vt keys vals removed, s1))
    (h : exec cfg (f + 1) .get s = .ok s') : vt.all cfg.nonDup = true := by
  have hb : cfg.bigGetDup = true := by decide
  have h := bind_eq hp h
  obtain ⟨r, hg, _⟩ := bind_ok h
  obtain ⟨_, hg⟩ := guard_ok hg
  obtain ⟨hcond, _⟩ := guard_ok hg
  simpa [hb] using hcond

private def init : State := { items := [], prot := 0, self := "KT1" }
private def mint (n : Nat) (c : String) : List Instr :=
  [.push .nat (.atom (.nat n)), .push .string (.atom (.str c)), .ticket, .ifNone [.failwith] []]
private def outTickets (r : M State) : Option (Bool × List (String × Cmp × Nat)) :=
  match r with
  | .ok s => some (s.typedStores, ticketsList s.items)
  | _ => none

-- a ticket of 5 split into 2 + 3, the parts stored in a list, joined back by ITER: one ticket of 5 again
example : outTickets (run cfg 200 (mint 5 "a" ++
      [.push (.pair .nat .nat) (.pair (.atom (.nat 2)) (.atom (.nat 3))), .swap, .splitTicket, .ifNone [.failwith] [], .unpair,
       .nil (.ticket .string), .swap, .cons, .iter [.pair, .joinTickets, .ifNone [.failwith] []]]) init)
    = some (true, [("KT1", .atom (.str "a"), 5)]) := by decide +kernel
-- a zero part, DUP of a ticket, DUP of a big_map of tickets, GET on a big_map of tickets: refused
example : outTickets (run cfg 200 (mint 5 "a" ++
      [.push (.pair .nat .nat) (.pair (.atom (.nat 0)) (.atom (.nat 5))), .swap, .splitTicket, .ifNone [] [.failwith]]) init)
    = some (true, []) := by decide +kernel
example : outTickets (run cfg 200 (mint 5 "a" ++ [.dup]) init) = none := by decide +kernel
example : outTickets (run cfg 200 (mint 5 "a" ++
      [.some, .emptyBigMap .nat (.ticket .string), .swap, .push .nat (.atom (.nat 1)), .update, .dup]) init) = none := by decide +kernel
example : outTickets (run cfg 200 (mint 5 "a" ++
      [.some, .emptyBigMap .nat (.ticket .string), .swap, .push .nat (.atom (.nat 1)), .update, .push .nat (.atom (.nat 1)), .get]) init)
    = none := by decide +kernel
-- GET_AND_UPDATE moves the ticket out of the big_map
example : outTickets (run cfg 200 (mint 5 "a" ++
      [.some, .emptyBigMap .nat (.ticket .string), .swap, .push .nat (.atom (.nat 1)), .update,
       .none (.ticket .string), .push .nat (.atom (.nat 1)), .getAndUpdate]) init)
    = some (true, [("KT1", .atom (.str "a"), 5)]) := by decide +kernel

-- or-types: a ticket on the right of an `or` comes back through IF_LEFT; DUP of the sum is refused
example : outTickets (run cfg 200 (mint 5 "a" ++ [.right .nat, .ifLeft [.failwith] []]) init)
    = some (true, [("KT1", .atom (.str "a"), 5)]) := by decide +kernel
example : outTickets (run cfg 200 (mint 5 "a" ++ [.right .nat, .dup]) init) = none := by decide +kernel
example : outTickets (run cfg 200 [.push .nat (.atom (.nat 1)), .left (.ticket .string), .dup] init) = none := by decide +kernel
-- option (pair nat (ticket string)): the ticket sits at the second type-argument position; DUP refused, CDR gives it back
example : outTickets (run cfg 200 (mint 5 "a" ++ [.push .nat (.atom (.nat 7)), .pair, .some, .dup]) init) = none := by decide +kernel
example : outTickets (run cfg 200 (mint 5 "a" ++ [.push .nat (.atom (.nat 7)), .pair, .some, .ifNone [.failwith] [], .cdr]) init)
    = some (true, [("KT1", .atom (.str "a"), 5)]) := by decide +kernel
-- lambdas: identity on a ticket; a lambda that tries to copy its argument fails; a lambda may mint; code is duplicable
example : outTickets (run cfg 200 (mint 5 "a" ++ [.lambda (.ticket .string) (.ticket .string) [], .dup, .drop, .swap, .exec]) init)
    = some (true, [("KT1", .atom (.str "a"), 5)]) := by decide +kernel
example : outTickets (run cfg 200 (mint 5 "a" ++
      [.lambda (.ticket .string) (.pair (.ticket .string) (.ticket .string)) [.dup, .pair], .swap, .exec]) init) = none := by
  decide +kernel
example : outTickets (run cfg 200
      [.lambda .nat (.option (.ticket .string)) [.push .string (.atom (.str "a")), .ticket], .push .nat (.atom (.nat 4)), .exec] init)
    = some (true, [("KT1", .atom (.str "a"), 4)]) := by decide +kernel
-- APPLY on a ticket captures it into code for good: the applied lambda can be copied, but running it is refused (PUSH of a
-- ticket type), so the 5 never come back — let alone twice
example : outTickets (run cfg 200 (mint 5 "a" ++
      [.lambda (.pair (.ticket .string) .nat) (.ticket .string) [.car], .swap, .apply, .dup]) init) = some (true, []) := by decide +kernel
example : outTickets (run cfg 200 (mint 5 "a" ++
      [.lambda (.pair (.ticket .string) .nat) (.ticket .string) [.car], .swap, .apply, .push .nat (.atom (.nat 1)), .exec]) init) = none := by
  decide +kernel
-- sets and map literals live next to tickets: a pair (map literal, ticket) is not duplicable, the literal alone is; a map
-- literal with unsorted keys is refused
example : outTickets (run cfg 200 (mint 5 "a" ++
      [.push (.map .nat .string) (.map false .nat .string [.nat 1] [.atom (.str "x")] []), .dup, .drop, .pair, .dup]) init) = none := by
  decide +kernel
example : outTickets (run cfg 200
      [.push (.map .nat .string) (.map false .nat .string [.nat 2, .nat 1] [.atom (.str "x"), .atom (.str "y")] [])] init) = none := by
  decide +kernel
example : outTickets (run cfg 200 (mint 5 "a" ++
      [.emptySet .nat, .push .bool (.atom (.bool true)), .push .nat (.atom (.nat 3)), .update, .dup, .push .nat (.atom (.nat 3)), .mem]) init)
    = some (true, [("KT1", .atom (.str "a"), 5)]) := by decide +kernel

/-- why the guard is there: this ILL-TYPED program (a ticket stored into a `map nat nat`) runs to the end in the mirror —
as it does in pytezos — with TWO tickets of 5 although 5 were minted; the ghost flag is false at the end -/
theorem conservation_needs_typed_stores :
    outTickets (run cfg 200 (mint 5 "a" ++
      [.some, .emptyMap .nat .nat, .swap, .push .nat (.atom (.nat 1)), .update, .dup]) init)
    = some (false, [("KT1", .atom (.str "a"), 5), ("KT1", .atom (.str "a"), 5)]) := by decide +kernel

private def fail : List Instr := [.push .string (.atom (.str "none")), .failwith]
/-- `mint` with a well typed failing branch (FAILWITH needs an operand) -/
private def mintT (n : Nat) (c : String) : List Instr :=
  [.push .nat (.atom (.nat n)), .push .string (.atom (.str c)), .ticket, .ifNone fail []]

-- the split / store-in-a-list / join-back program is accepted by the checker (so `conservation` applies to it) …
example : wellTyped cfg (mintT 5 "a" ++
      [.push (.pair .nat .nat) (.pair (.atom (.nat 2)) (.atom (.nat 3))), .swap, .splitTicket, .ifNone fail [], .unpair,
       .nil (.ticket .string), .swap, .cons, .iter [.pair, .joinTickets, .ifNone fail []]]) [] = true := by decide +kernel
-- … with the final stack type `[ticket string]`
example : tySeq cfg (mintT 5 "a" ++
      [.push (.pair .nat .nat) (.pair (.atom (.nat 2)) (.atom (.nat 3))), .swap, .splitTicket, .ifNone fail [], .unpair,
       .nil (.ticket .string), .swap, .cons, .iter [.pair, .joinTickets, .ifNone fail []]]) []
    = some (some [.ticket .string]) := by decide +kernel
-- tickets moved through a big_map with GET_AND_UPDATE, and a MAP over a list of tickets: accepted
example : wellTyped cfg (mintT 5 "a" ++
      [.some, .emptyBigMap .nat (.ticket .string), .swap, .push .nat (.atom (.nat 1)), .update,
       .none (.ticket .string), .push .nat (.atom (.nat 1)), .getAndUpdate]) [] = true := by decide +kernel
example : wellTyped cfg (mintT 5 "a" ++ [.nil (.ticket .string), .swap, .cons, .map [.readTicket, .drop]]) [] = true := by
  decide +kernel
-- a start stack that already holds a ticket
example : wellTyped cfg [.readTicket, .drop] [.ticket (.ticket .string) "KT1" (.atom (.str "a")) 7] = true := by decide +kernel
-- or-types, sets and literals are covered by the checker
example : wellTyped cfg (mintT 5 "a" ++ [.right .nat, .ifLeft fail [], .readTicket, .drop,
      .emptySet .nat, .push .bool (.atom (.bool true)), .push .nat (.atom (.nat 3)), .update, .push .nat (.atom (.nat 3)), .mem]) [] = true := by
  decide +kernel
example : wellTyped cfg (mintT 5 "a" ++ [.right .nat, .dup]) [] = false := by decide +kernel
-- rejected statically: DUP of a ticket, and the ill-typed store of `conservation_needs_typed_stores`
example : wellTyped cfg (mintT 5 "a" ++ [.dup]) [] = false := by decide +kernel
example : wellTyped cfg (mintT 5 "a" ++
      [.some, .emptyMap .nat .nat, .swap, .push .nat (.atom (.nat 1)), .update, .dup]) [] = false := by decide +kernel

/-- why the checker restricts MAP to bodies that give back the element type: this program is well typed for Michelson
(`MAP { SOME }` turns the `list nat` into a `list (option nat)`, which is then stored in a `map nat (list (option nat))`),
but pytezos — and the mirror — return the EMPTY source list unchanged, of class `list nat`; the store is ill typed by
class and the ghost flag is false at the end.  The checker rejects the program. -/
theorem typed_map_rule_is_restricted :
    outTickets (run cfg 200
      [.nil .nat, .map [.some], .some, .emptyMap .nat (.list (.option .nat)), .swap, .push .nat (.atom (.nat 1)), .update] init)
      = some (false, [])
    ∧ wellTyped cfg
      [.nil .nat, .map [.some], .some, .emptyMap .nat (.list (.option .nat)), .swap, .push .nat (.atom (.nat 1)), .update] [] = false := by
  constructor <;> decide +kernel

end C20
