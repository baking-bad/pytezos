import PytezosModel.Proofs.C15
import PytezosModel.Proofs.C15Keys
import PytezosModel.Props.C03
import PytezosModel.Michelson.BigMapKeyHash
import PytezosModel.Proofs.HashText
import PytezosModel.Proofs.HashBlake2bNat
/-! C15 — big map operations and lazy diffs agree with a layered dictionary model.

`Impl.BigMap.*` mirrors `BigMapType.get / update`, `MapType.contains`, GET / MEM / UPDATE / GET_AND_UPDATE on a
big_map and the big_map part of `ExecutionContext`; the shape of `update` is read from the source by the translator
(`Generated.C15`, combined in `Impl.BigMap.config`).  `Spec.BigMap.*` is the reference: a dictionary `K → Option V`
layered over the on-chain contents `chain`.  The first part is generic: keys are any type with decidable equality and a
comparison that is a strict total order (hypothesis `StrictTotal`); values are abstract (any type: nothing in the mirrored
code looks at a value except `is None`).  The second part (`typed_*`) discharges the hypothesis for the keys of EVERY
comparable Michelson type `τ` — `Order.TVal τ` with the mirrors of the pytezos `__eq__` / `__lt__` methods, through
`C03.tval_strictTotal` — so that those theorems carry no hypothesis on the order at all; `nat` keys (Lean `Nat` with
`Nat.blt`) remain as a second, direct instance (`nat_*`).
All history theorems are by induction over the operation list — no bound on the length. -/
namespace C15
open Impl.BigMap Spec.BigMap Proofs.C15 Generated.C15
variable {K V : Type} [DecidableEq K] {lt : K → K → Bool}

/-- the source under test has the repaired shape: `update` iterates the stored items only and inserts a key that is
known from the context only; `__iter__`, `get`, `contains`, `aggregate_lazy_diff`, `attach_context`, the context
functions and the four instructions have the transcribed bodies -/
theorem config_eq : config = some shOK := by decide

/-- GET: the value `BigMapType.get` returns is the one of the layered dictionary -/
theorem get_eq_layered {b : BM K V} (hI : Inv lt b) (chain : K → Option V) (k : K) :
    Impl.BigMap.get chain b k = layered (overlay b) chain k := get_eq_dict hI.disjoint chain k

/-- MEM -/
theorem mem_eq_layered {b : BM K V} (hI : Inv lt b) (chain : K → Option V) (k : K) :
    contains chain b k = (layered (overlay b) chain k).isSome := by
  simp only [contains, get_eq_layered hI]

/-- UPDATE / GET_AND_UPDATE: the returned previous value is the dictionary's, the invariant is preserved and the new
map stands for the dictionary with the key set (`Some v`: insert, `None`: erase) -/
theorem update_refines (hs : StrictTotal lt) {b : BM K V} (hI : Inv lt b) (chain : K → Option V) (k : K) (v : Option V) :
    ∃ b', update lt chain b k v = some (layered (overlay b) chain k, b') ∧ Inv lt b' ∧
      layered (overlay b') chain = (layered (overlay b) chain).set k v := by
  obtain ⟨h1, h2, h3⟩ := updateSh_ok hs hI chain k v
  refine ⟨(updateSh shOK lt chain b k v).2, ?_, h2, h3⟩
  simp only [update, config_eq, Option.map_some]
  rw [show layered (overlay b) chain k = dict chain b k from rfl, ← h1]

theorem step_inv (hs : StrictTotal lt) {b : BM K V} (hI : Inv lt b) (chain : K → Option V) (op : Op K V) :
    Inv lt (stepSh shOK lt chain b op).2 := (stepSh_ok hs hI chain op).2.2

theorem step_refines (hs : StrictTotal lt) {b : BM K V} (hI : Inv lt b) (chain : K → Option V) (op : Op K V) :
    (stepSh shOK lt chain b op).1 = (step (dict chain b) op).1 ∧
    dict chain (stepSh shOK lt chain b op).2 = (step (dict chain b) op).2 :=
  ⟨(stepSh_ok hs hI chain op).1, (stepSh_ok hs hI chain op).2.1⟩

theorem runSh_refines (hs : StrictTotal lt) (chain : K → Option V) (ops : List (Op K V)) {b : BM K V} (hI : Inv lt b) :
    (runSh shOK lt chain b ops).1 = (Spec.BigMap.run (dict chain b) ops).1 ∧
    dict chain (runSh shOK lt chain b ops).2 = (Spec.BigMap.run (dict chain b) ops).2 ∧
    Inv lt (runSh shOK lt chain b ops).2 := by
  induction ops generalizing b with
  | nil => exact ⟨rfl, rfl, hI⟩
  | cons op ops ih =>
    obtain ⟨h1, h2, h3⟩ := stepSh_ok hs hI chain op
    obtain ⟨i1, i2, i3⟩ := ih h3
    simp only [runSh, Spec.BigMap.run]
    rw [h2] at i1 i2
    exact ⟨by rw [h1, i1], i2, i3⟩

/-- the property, first half: for EVERY history of GET / MEM / UPDATE / GET_AND_UPDATE from a state satisfying the
invariant (in particular a fresh map or one backed by on-chain entries, see `fresh_inv`), every observation equals
that of the dictionary layered over the on-chain contents, the final state stands for the final dictionary and the
invariant holds in every reachable state -/
theorem history_obs_eq (hs : StrictTotal lt) (chain : K → Option V) (ops : List (Op K V)) {b : BM K V} (hI : Inv lt b) :
    ∃ obs b', Impl.BigMap.run lt chain b ops = some (obs, b') ∧
      obs = (Spec.BigMap.run (layered (overlay b) chain) ops).1 ∧
      layered (overlay b') chain = (Spec.BigMap.run (layered (overlay b) chain) ops).2 ∧ Inv lt b' := by
  obtain ⟨h1, h2, h3⟩ := runSh_refines hs chain ops hI
  exact ⟨_, _, by simp only [Impl.BigMap.run, config_eq, Option.map_some], h1, h2, h3⟩

/-- a map without local changes (an empty literal, or an id of an on-chain map) satisfies the invariant (it stands for the
on-chain contents: `fresh_dict`) -/
theorem fresh_inv (p : Option Int) : Inv lt (⟨[], [], p⟩ : BM K V) :=
  ⟨List.Pairwise.nil, by simp, by simp, List.nodup_nil⟩

/-- a literal `{ Elt k v ; … }` accepted by `check_constraints` (no duplicate keys, keys equal to their sorted copy)
satisfies the invariant: the history theorems apply to fresh maps with initial elements -/
theorem literal_inv (hs : StrictTotal lt) (items : List (K × V)) (b : BM K V) (h : fromLiteral lt items = some b) :
    Inv lt b := fromLiteral_inv hs items b h

theorem fresh_dict (chain : K → Option V) (p : Option Int) : layered (overlay (⟨[], [], p⟩ : BM K V)) chain = chain := by
  funext k
  simp [layered, overlay]

/-- the updates of the emitted diff entry, applied in order to the on-chain contents, give the dictionary the map
stands for -/
theorem diff_applies (hs : StrictTotal lt) {b : BM K V} (hI : Inv lt b) (chain : K → Option V) :
    applyUpdates chain (diffUpdates b) = layered (overlay b) chain := by
  funext k
  have hd : (selfIter b).Pairwise (fun a c => a.1 ≠ c.1) := by
    refine List.pairwise_append.2 ⟨keys_ne_of_sorted hs hI.sorted, ?_, ?_⟩
    · exact (List.pairwise_map).2 hI.nodup
    · intro a ha c hc
      obtain ⟨r, hr, rfl⟩ := List.mem_map.1 hc
      exact hI.disjoint r hr a ha
  rw [diffUpdates, applyUpdates_eq _ _ hd]
  have := findLocal_eq_overlay hI.disjoint k
  simp only [layered, ← this]
  rfl

/-- the property, second half: the diff emitted after ANY history, applied to the on-chain contents, gives exactly
the final dictionary of the reference run -/
theorem history_diff (hs : StrictTotal lt) (chain : K → Option V) (ops : List (Op K V)) (p : Option Int) :
    ∃ obs b', Impl.BigMap.run lt chain (⟨[], [], p⟩ : BM K V) ops = some (obs, b') ∧
      applyUpdates chain (diffUpdates b') = (Spec.BigMap.run chain ops).2 := by
  obtain ⟨obs, b', h, _, h2, h3⟩ := history_obs_eq hs chain ops (fresh_inv (lt := lt) (V := V) p)
  refine ⟨obs, b', h, ?_⟩
  rw [diff_applies hs h3, h2, fresh_dict]

theorem history_diff_from (hs : StrictTotal lt) (chain : K → Option V) (ops : List (Op K V)) {b : BM K V} (hI : Inv lt b) :
    ∃ obs b', Impl.BigMap.run lt chain b ops = some (obs, b') ∧
      applyUpdates chain (diffUpdates b') = (Spec.BigMap.run (layered (overlay b) chain) ops).2 := by
  obtain ⟨obs, b', h, _, h2, h3⟩ := history_obs_eq hs chain ops hI
  exact ⟨obs, b', h, by rw [diff_applies hs h3, h2]⟩

/-- what `get` consults for a map with id `p`: the mirror of `get_big_map_value` over the on-chain family
(`getBigMapValue_eq`) -/
def ctxChain (chains : Int → Dict K V) (c : Ctx) (p : Int) : Dict K V := fun k =>
  match c.lookup p with
  | none => none
  | some (src, _) => if src < 0 then none else chains src k

theorem getBigMapValue_eq (chains : Int → Dict K V) (c : Ctx) (p : Int) (k : K) :
    getBigMapValue (some chains) c p k = .ok (ctxChain chains c p k) := by
  simp only [getBigMapValue, ctxChain]
  cases c.lookup p with
  | none => rfl
  | some e =>
    obtain ⟨src, cp⟩ := e
    by_cases h : src < 0 <;> simp [h]

/-- id allocation: `update` keeps the registered source id and the context; `alloc` and `copy` take the next free id -/
theorem diff_ids (c : Ctx) (p : Int) :
    ((getBigMapDiff c p).1.2.2 = .update → (getBigMapDiff c p).1.1 = some (getBigMapDiff c p).1.2.1 ∧ (getBigMapDiff c p).2 = c) ∧
    ((getBigMapDiff c p).1.2.2 ≠ .update → (getBigMapDiff c p).1.2.1 = (c.allocIdx : Int) ∧
      (getBigMapDiff c p).2.allocIdx = c.allocIdx + 1) := by
  simp only [getBigMapDiff]
  cases c.lookup p with
  | none => simp
  | some e =>
    obtain ⟨src, cp⟩ := e
    cases cp <;> simp

/-- the emitted entry (id, action, updates), applied to the family of on-chain maps with the source id that
`get_big_map_diff` reports, leaves at the destination id exactly the dictionary the map stood for; the returned map
is empty at that id.  (`chains` is empty on negative = temporary ids.) -/
theorem entry_applies {H : Type} (hs : StrictTotal lt) (keyHash : K → H) (chains : Int → Dict K V)
    (hneg : ∀ p, p < 0 → chains p = fun _ => none) (c : Ctx) {b : BM K V} (hI : Inv lt b) (p : Int) (hp : b.ptr = some p) :
    ∃ e c', aggregateLazyDiff keyHash c b = some (e, ⟨[], [], some e.id⟩, c') ∧
      applyEntry chains (getBigMapDiff c p).1.1 e e.id = layered (overlay b) (ctxChain chains c p) ∧
      ∀ i, i ≠ e.id → applyEntry chains (getBigMapDiff c p).1.1 e i = chains i := by
  refine ⟨_, _, by simp only [aggregateLazyDiff, hp]; rfl, ?_, ?_⟩
  · simp only [applyEntry, if_true, List.map_map, Function.comp_def, List.map_id', ← diff_applies hs hI]
    congr 1
    funext k
    simp only [getBigMapDiff, ctxChain]
    cases c.lookup p with
    | none => rfl
    | some e =>
      obtain ⟨src, cp⟩ := e
      cases cp <;> by_cases h : src < 0 <;> simp [h, hneg src]
  · intro i hi
    simp only [applyEntry, hi, if_false]

/-- every update of the entry carries the hash of its own key -/
theorem diff_key_hash {H : Type} (keyHash : K → H) (c : Ctx) (b : BM K V) (e : DiffEntry K V H) (b' : BM K V) (c' : Ctx)
    (h : aggregateLazyDiff keyHash c b = some (e, b', c')) : ∀ u ∈ e.updates, u.2.1 = keyHash u.1 := by
  cases hp : b.ptr with
  | none => simp [aggregateLazyDiff, hp] at h
  | some p =>
    simp only [aggregateLazyDiff, hp, Option.some.injEq, Prod.mk.injEq] at h
    intro u hu
    rw [← h.1] at hu
    obtain ⟨x, _, rfl⟩ := List.mem_map.1 hu
    rfl

/-- the expression hash is the base58 `expr` form of a 32-byte Blake2b digest (recomputed independently by the check) -/
theorem key_hash_format : keyHashPrefix = some "expr" ∧ keyHashDigestSize = some 32 := by decide

/-- DUP of a big map gives a value with the same id and the same local layer: it stands for the same dictionary and
satisfies the invariant, so every theorem above applies to each of the two copies separately as they diverge -/
theorem duplicate_same {b : BM K V} (hI : Inv lt b) (chain : K → Option V) :
    ∃ b', duplicate b = some b' ∧ b'.ptr = b.ptr ∧ Inv lt b' ∧ layered (overlay b') chain = layered (overlay b) chain := by
  refine ⟨⟨b.items, b.removed, b.ptr⟩, ?_, rfl, ⟨hI.sorted, hI.noNone, hI.disjoint, hI.nodup⟩, rfl⟩
  have : duplicateShape = some () := by decide
  simp only [duplicate, this, Option.map_some]

/-- `merge_lazy_diff` takes exactly the updates with a value for stored items -/
theorem merge_shape_ok : mergeShape = some .isNotNone := mergeShape_eq

/-- reading the emitted updates back with `merge_lazy_diff` gives the local layer that was emitted — whatever the values
are (`falsy`: which values have a falsy Micheline form plays no role) -/
theorem merge_reads_emitted {b : BM K V} (hI : Inv lt b) (falsy : V → Bool) (p : Int) :
    mergeLazyDiff falsy p (diffUpdates b) = some ⟨b.items, b.removed, some p⟩ := mergeLazyDiff_emitted hI.noNone falsy p

/-- pinned shape (truthiness test): an update whose value is falsy — an empty map, set or list — is read back as a removal -/
theorem truthy_merge_counterexample :
    mergeWith .truthy (fun v : Nat => v == 0) 5 [((1 : Nat), some 0), (2, some 7), (3, none)] = ⟨[(2, some 7)], [1, 3], some 5⟩ ∧
    mergeWith .isNotNone (fun v : Nat => v == 0) 5 [((1 : Nat), some 0), (2, some 7), (3, none)]
      = ⟨[(1, some 0), (2, some 7)], [3], some 5⟩ := by decide

/-! ### keys of every comparable Michelson type (no hypothesis on the order)

`TVal τ` = the runtime values of the comparable type `τ` (C03: unit, bool, int, nat, mutez, timestamp, string, bytes,
key_hash, address, key, signature, chain_id, option, or, pair — nested without bound).  `==` on such keys is computed by the
mirror of `__eq__` (`Proofs.C15Keys.tvalDecEq`), `<` is the mirror of `__lt__`. -/
section typed
open Order Proofs.C15Keys
variable {τ : CTy} {V : Type}

/-- the key equality the model uses IS the mirrored `__eq__` of the key's class -/
theorem key_eq_is_runtime_eq (a b : TVal τ) : (a == b) = Impl.Order.eq a.1 b.1 := tval_beq a b

/-- the key comparison the model uses IS the mirrored `__lt__` of the key's class, which never raises on two keys of one type -/
theorem key_lt_is_runtime_lt (a b : TVal τ) : Impl.Order.lt a.1 b.1 = some (TVal.lt a b) := C03.lt_defined a b

/-- `__lt__` of every comparable type is a strict total order on its values (C03), in the form used above -/
theorem key_order_strictTotal (τ : CTy) : StrictTotal (TVal.lt (τ := τ)) := .of_coll (C03.tval_strictTotal τ)

theorem typed_update_refines {b : BM (TVal τ) V} (hI : Inv TVal.lt b) (chain : TVal τ → Option V) (k : TVal τ) (v : Option V) :
    ∃ b', update TVal.lt chain b k v = some (layered (overlay b) chain k, b') ∧ Inv TVal.lt b' ∧
      layered (overlay b') chain = (layered (overlay b) chain).set k v :=
  update_refines (key_order_strictTotal τ) hI chain k v

theorem typed_step_inv {b : BM (TVal τ) V} (hI : Inv TVal.lt b) (chain : TVal τ → Option V) (op : Op (TVal τ) V) :
    Inv TVal.lt (stepSh shOK TVal.lt chain b op).2 := step_inv (key_order_strictTotal τ) hI chain op

/-- the property, first half, for keys of EVERY comparable Michelson type and values of any type: every history of
GET / MEM / UPDATE / GET_AND_UPDATE observes what the dictionary layered over the on-chain contents observes -/
theorem typed_history_obs_eq (chain : TVal τ → Option V) (ops : List (Op (TVal τ) V)) {b : BM (TVal τ) V} (hI : Inv TVal.lt b) :
    ∃ obs b', Impl.BigMap.run TVal.lt chain b ops = some (obs, b') ∧
      obs = (Spec.BigMap.run (layered (overlay b) chain) ops).1 ∧
      layered (overlay b') chain = (Spec.BigMap.run (layered (overlay b) chain) ops).2 ∧ Inv TVal.lt b' :=
  history_obs_eq (key_order_strictTotal τ) chain ops hI

theorem typed_literal_inv (items : List (TVal τ × V)) (b : BM (TVal τ) V) (h : fromLiteral TVal.lt items = some b) :
    Inv TVal.lt b := literal_inv (key_order_strictTotal τ) items b h

theorem typed_diff_applies {b : BM (TVal τ) V} (hI : Inv TVal.lt b) (chain : TVal τ → Option V) :
    applyUpdates chain (diffUpdates b) = layered (overlay b) chain := diff_applies (key_order_strictTotal τ) hI chain

/-- the property, second half, for keys of EVERY comparable Michelson type: the diff emitted after any history, applied to
the on-chain contents, gives exactly the final dictionary -/
theorem typed_history_diff (chain : TVal τ → Option V) (ops : List (Op (TVal τ) V)) (p : Option Int) :
    ∃ obs b', Impl.BigMap.run TVal.lt chain (⟨[], [], p⟩ : BM (TVal τ) V) ops = some (obs, b') ∧
      applyUpdates chain (diffUpdates b') = (Spec.BigMap.run chain ops).2 :=
  history_diff (key_order_strictTotal τ) chain ops p

theorem typed_history_diff_from (chain : TVal τ → Option V) (ops : List (Op (TVal τ) V)) {b : BM (TVal τ) V} (hI : Inv TVal.lt b) :
    ∃ obs b', Impl.BigMap.run TVal.lt chain b ops = some (obs, b') ∧
      applyUpdates chain (diffUpdates b') = (Spec.BigMap.run (layered (overlay b) chain) ops).2 :=
  history_diff_from (key_order_strictTotal τ) chain ops hI

theorem typed_entry_applies {H : Type} (keyHash : TVal τ → H) (chains : Int → Dict (TVal τ) V)
    (hneg : ∀ p, p < 0 → chains p = fun _ => none) (c : Ctx) {b : BM (TVal τ) V} (hI : Inv TVal.lt b) (p : Int) (hp : b.ptr = some p) :
    ∃ e c', aggregateLazyDiff keyHash c b = some (e, ⟨[], [], some e.id⟩, c') ∧
      applyEntry chains (getBigMapDiff c p).1.1 e e.id = layered (overlay b) (ctxChain chains c p) ∧
      (∀ i, i ≠ e.id → applyEntry chains (getBigMapDiff c p).1.1 e i = chains i) ∧
      ∀ u ∈ e.updates, u.2.1 = keyHash u.1 := by
  obtain ⟨e, c', h1, h2, h3⟩ := entry_applies (key_order_strictTotal τ) keyHash chains hneg c hI p hp
  exact ⟨e, c', h1, h2, h3, diff_key_hash keyHash c b e _ c' h1⟩

/-- each update of the emitted entry carries the hash of the LEGACY PACK of its own key (`0x05 ‖` the binary Micheline of
the key with pairs nested and leaves optimized: `Impl.BigMap.packLegacy`), for any hash function `hash` (in the code:
base58 `expr` of Blake2b-256, `key_hash_format`) — keys of any comparable type -/
theorem typed_diff_key_hash {H : Type} (hash : Option (List Nat) → H) (c : Ctx) (b : BM (TVal τ) V)
    (e : DiffEntry (TVal τ) V H) (b' : BM (TVal τ) V) (c' : Ctx)
    (h : aggregateLazyDiff (fun k : TVal τ => hash (packLegacy k.1)) c b = some (e, b', c')) :
    ∀ u ∈ e.updates, u.2.1 = hash (packLegacy u.1.1) := diff_key_hash _ c b e b' c' h

/-- the source has the shape `packLegacy` was written from -/
theorem pack_shape_ok : packShape = some () := by decide

/-- the legacy form of a pair key is the two-argument `Pair` of its two components — a right comb is never flattened and
never written as a sequence (that is the `optimized`, non-legacy form) -/
theorem keyMich_pair (a b : CVal) : keyMich (.pair a b) = .prim "Pair" [keyMich a, keyMich b] [] := rfl

/-- a whole run in one statement — attach, history, aggregate — for keys of any comparable type: a big map that enters
with id `p` and no local changes (on-chain map in the storage, or copied parameter) runs any history with the
dictionary's observations and then emits an entry that, applied to the on-chain family, leaves exactly the final dictionary
at the destination id, every update carrying the hash of its own key -/
theorem typed_run_and_diff {H : Type} (keyHash : TVal τ → H) (chains : Int → Dict (TVal τ) V)
    (hneg : ∀ p, p < 0 → chains p = fun _ => none) (c : Ctx) (p : Int) (ops : List (Op (TVal τ) V)) :
    ∃ obs b' e c', Impl.BigMap.run TVal.lt (ctxChain chains c p) (⟨[], [], some p⟩ : BM (TVal τ) V) ops = some (obs, b') ∧
      obs = (Spec.BigMap.run (ctxChain chains c p) ops).1 ∧
      aggregateLazyDiff keyHash c b' = some (e, ⟨[], [], some e.id⟩, c') ∧
      applyEntry chains (getBigMapDiff c p).1.1 e e.id = (Spec.BigMap.run (ctxChain chains c p) ops).2 ∧
      ∀ u ∈ e.updates, u.2.1 = keyHash u.1 := by
  obtain ⟨obs, b', hr, ho, hd, hI⟩ := typed_history_obs_eq (ctxChain chains c p) ops (fresh_inv (lt := TVal.lt) (V := V) (some p))
  have hp : b'.ptr = some p := run_ptr (ctxChain chains c p) ops _ _ hr
  obtain ⟨e, c', h1, h2, _, h4⟩ := typed_entry_applies keyHash chains hneg c hI p hp
  rw [fresh_dict] at ho hd
  exact ⟨obs, b', e, c', hr, ho, h1, by rw [h2, hd], h4⟩

/-! non-vacuity: composite keys.  Keys of type `pair int string`; in the Tezos order `(1,"a") < (1,"b") < (2,"")`
(the first component decides, then the second) -/
abbrev τps : CTy := .pair (.num .int) .string
def kA : TVal τps := key τps (.pair (.num .int 1) (.str [97]))
def kB : TVal τps := key τps (.pair (.num .int 1) (.str [98]))
def kC : TVal τps := key τps (.pair (.num .int 2) (.str []))
/-- on-chain: `(1,"b") ↦ 100` -/
def chainPS : Dict (TVal τps) Nat := fun k => if k = kB then some 100 else none

-- inserted in the order C, A, B; the stored items end up in the Tezos order; value 0 (falsy in Python) is a value
example : Impl.BigMap.run TVal.lt chainPS (⟨[], [], some 5⟩ : BM (TVal τps) Nat)
    [.update kC (some 0), .get kB, .update kB none, .update kA (some 7), .getAndUpdate kB (some 8), .mem kC, .get kA, .get kC]
    = some ([.unit, .val (some 100), .unit, .unit, .val none, .bool true, .val (some 7), .val (some 0)],
            ⟨[(kA, some 7), (kB, some 8), (kC, some 0)], [], some 5⟩) := by decide
example : Inv TVal.lt (⟨[(kA, some 7), (kC, some 0)], [kB], some 5⟩ : BM (TVal τps) Nat) :=
  ⟨by decide, by decide, by decide, by decide⟩
example : fromLiteral TVal.lt [(kA, 1), (kC, 3)] = some (⟨[(kA, some 1), (kC, some 3)], [], none⟩ : BM (TVal τps) Nat) ∧
    fromLiteral TVal.lt [(kC, 3), (kA, 1)] = (none : Option (BM (TVal τps) Nat)) := by decide
-- keys of type `or (option address) key_hash`: an address with entrypoint vs without, `None`, a `Right`
abbrev τoa : CTy := .or (.option .address) .keyHash
def kN : TVal τoa := key τoa (.left .none)
def kKT : TVal τoa := key τoa (.left (.some (.address 4 (List.replicate 20 7) [])))
def kKTe : TVal τoa := key τoa (.left (.some (.address 4 (List.replicate 20 7) [97])))
def kTz : TVal τoa := key τoa (.right (.keyHash 0 (List.replicate 20 0)))
-- `Left None < Left (Some KT1…%a) < Left (Some KT1…)` (= `%default`) `< Right tz1…`
example : (Impl.BigMap.run TVal.lt (fun _ => none) (⟨[], [], none⟩ : BM (TVal τoa) Bool)
    [.update kTz (some false), .update kKT (some true), .update kN (some false), .update kKTe (some true), .update kKT none]).map (·.2)
    = some ⟨[(kN, some false), (kKTe, some true), (kTz, some false)], [kKT], none⟩ := by decide

-- what is hashed for the key `Pair 1 (Pair 2 (Pair 3 4))` of a 4-leaf right comb: nested `Pair`s (07 07 …), no sequence (02 …)
example : packLegacy (.pair (.num .nat 1) (.pair (.num .nat 2) (.pair (.num .nat 3) (.num .nat 4))))
    = some [5, 7, 7, 0, 1, 7, 7, 0, 2, 7, 7, 0, 3, 0, 4] := by decide +kernel
-- an address key with an entrypoint: `KT1…%a` = 01 ‖ hash ‖ 00 ‖ "a"
example : packLegacy (.some (.address 4 (List.replicate 20 7) [97]))
    = some ([5, 5, 9, 10, 0, 0, 0, 23, 1] ++ List.replicate 20 7 ++ [0, 97]) := by decide +kernel

end typed

/-! ### `nat` keys as Lean naturals: a second, direct instance -/
theorem nat_blt_irrefl (a : Nat) : Nat.blt a a = false := by
  cases h : Nat.blt a a
  · rfl
  · simp only [Nat.blt_eq] at h; omega

theorem nat_strictTotal : StrictTotal Nat.blt :=
  ⟨nat_blt_irrefl, fun a b c h1 h2 => by simp only [Nat.blt_eq] at *; omega,
   fun a b h => by simp only [Nat.blt_eq]; omega⟩

theorem nat_history_obs_eq {V : Type} (chain : Nat → Option V) (ops : List (Op Nat V)) {b : BM Nat V} (hI : Inv Nat.blt b) :
    ∃ obs b', Impl.BigMap.run Nat.blt chain b ops = some (obs, b') ∧
      obs = (Spec.BigMap.run (layered (overlay b) chain) ops).1 ∧
      layered (overlay b') chain = (Spec.BigMap.run (layered (overlay b) chain) ops).2 ∧ Inv Nat.blt b' :=
  history_obs_eq nat_strictTotal chain ops hI

theorem nat_history_diff {V : Type} (chain : Nat → Option V) (ops : List (Op Nat V)) (p : Option Int) :
    ∃ obs b', Impl.BigMap.run Nat.blt chain (⟨[], [], p⟩ : BM Nat V) ops = some (obs, b') ∧
      applyUpdates chain (diffUpdates b') = (Spec.BigMap.run chain ops).2 :=
  history_diff nat_strictTotal chain ops p

/-- the natural `n` as a runtime value of type `nat`.  The `nat_*` instance is the `nat` case of the typed one: on these
values the mirrored `__lt__` / `__eq__` are `Nat.blt` / `==` of the numbers (`natKey_lt`, `natKey_eq`) -/
def natKey (n : Nat) : Order.TVal (.num .nat) := ⟨.num .nat n, .num _ _ (by simp [Order.numOk])⟩

theorem natKey_lt (a b : Nat) : Order.TVal.lt (natKey a) (natKey b) = Nat.blt a b := by
  -- the left side computes to this; unfolding `Impl.Order.lt` with `simp` would first generate the equations of its
  -- many-armed match, which is slow (the same for `Impl.Order.eq` below)
  show (some (decide ((a : Int) < b)) == some true) = Nat.blt a b
  rw [Bool.eq_iff_iff]; simp

theorem natKey_eq (a b : Nat) : (natKey a == natKey b) = (a == b) := by
  rw [Proofs.C15Keys.tval_beq]
  show ((a : Int) == b) = (a == b)
  rw [Bool.eq_iff_iff, beq_iff_eq, beq_iff_eq]; omega

/-! ### non-vacuity and the defective shapes (documentation: these are about explicitly chosen shapes, not `config`) -/

/-- on-chain contents used below: key 1 ↦ 100, key 2 ↦ 200 -/
def chain12 : Dict Nat Nat := fun k => if k = 1 then some 100 else if k = 2 then some 200 else none

-- a concrete history on a map backed by on-chain entries: remove, re-insert, update of an on-chain-only key
example : Impl.BigMap.run Nat.blt chain12 (⟨[], [], some 5⟩ : BM Nat Nat)
    [.get 1, .update 1 none, .get 1, .update 3 (some 33), .update 3 (some 34), .update 1 (some 11), .get 1,
     .getAndUpdate 2 (some 7), .mem 2, .get 2]
    = some ([.val (some 100), .unit, .val none, .unit, .unit, .unit, .val (some 11), .val (some 200), .bool true, .val (some 7)],
            ⟨[(1, some 11), (2, some 7), (3, some 34)], [], some 5⟩) := by decide

example : Inv Nat.blt (⟨[(1, some 11), (3, some 34)], [2], some 5⟩ : BM Nat Nat) :=
  ⟨by decide, by decide, by decide, by decide⟩

/-- a map registered as on-chain map 5 with local changes (1 ↦ 11, key 2 removed) in a context with one temporary id used -/
def demoCtx : Ctx := ⟨1, 0, [(5, (5, false))]⟩
def demoMap : BM Nat Nat := ⟨[(1, some 11)], [2], some 5⟩

example : (aggregateLazyDiff (fun (_ : Nat) => ()) demoCtx demoMap).map (fun r => (r.1.id, r.1.action)) = some (5, .update) := by decide
example : (aggregateLazyDiff (fun (_ : Nat) => ()) demoCtx demoMap).map (fun r => r.1.updates) = some [(1, (), some 11), (2, (), none)] := by
  decide
example : (aggregateLazyDiff (fun (_ : Nat) => ()) demoCtx demoMap).map (fun r => r.2) = some (⟨[], [], some 5⟩, demoCtx) := by decide
example : (applyUpdates chain12 [(1, some 11), (2, none)] 1, applyUpdates chain12 [(1, some 11), (2, none)] 2,
    applyUpdates chain12 [(1, some 11), (2, none)] 3) = (some 11, none, none) := by decide
-- a fresh literal is allocated the next free id, a copied parameter as well
example : (getBigMapDiff ⟨2, 3, [(-1, (5, true))]⟩ (-2)).1 = (none, 3, .alloc) ∧
    (getBigMapDiff ⟨2, 3, [(-1, (5, true))]⟩ (-1)).1 = (some 5, 3, .copy) := by decide
example : fromLiteral Nat.blt [(1, 10), (3, 30)] = some (⟨[(1, some 10), (3, some 30)], [], none⟩ : BM Nat Nat) ∧
    fromLiteral Nat.blt [(3, 30), (1, 10)] = (none : Option (BM Nat Nat)) ∧
    fromLiteral Nat.blt [(1, 10), (1, 30)] = (none : Option (BM Nat Nat)) := by decide

/-- pinned shape (`update` iterates `self`): *insert 1; remove 1; insert 2; update 2; insert 1; GET 1* on a fresh map
answers `None` although the dictionary holds 11, and the stored items are `[(1, None), (1, 11), (2, 21)]` —
a `None` value and a duplicated key, so the diff lists key 1 twice -/
theorem pinned_shape_counterexample :
    runSh ⟨.self, false⟩ Nat.blt (fun _ => none) (⟨[], [], none⟩ : BM Nat Nat)
      [.update 1 (some 10), .update 1 none, .update 2 (some 20), .update 2 (some 21), .update 1 (some 11), .get 1]
    = ([.unit, .unit, .unit, .unit, .unit, .val none], ⟨[(1, none), (1, some 11), (2, some 21)], [], none⟩) ∧
    (Spec.BigMap.run (fun _ => none)
      [Op.update 1 (some 10), .update 1 none, .update 2 (some 20), .update 2 (some 21), .update 1 (some 11), .get (1 : Nat)]).1
    = [.unit, .unit, .unit, .unit, .unit, .val (some (11 : Nat))] := by decide

/-- pinned shape, second defect (the replace branch never inserts): on-chain `2 ↦ 200`, *UPDATE 2 (Some 7); GET 2*
still answers 200 and the diff is empty -/
theorem dropped_update_counterexample :
    runSh ⟨.items, false⟩ Nat.blt chain12 (⟨[], [], some 5⟩ : BM Nat Nat) [.update 2 (some 7), .get 2]
    = ([.unit, .val (some 200)], ⟨[], [], some 5⟩) ∧
    (Spec.BigMap.run chain12 [Op.update 2 (some 7), .get 2]).1 = [.unit, .val (some 7)] := by decide

/-! ### the key hash as text: `forge_script_expr(key.pack(legacy=True))`

`Impl.BigMap.keyHashChars cks H v` = Base58Check text, prefix `expr` (read from the source), of the hash of the legacy PACK
of the key.  First for every 4-byte checksum and 32-byte hash function, then for the executable double SHA-256 /
BLAKE2b-256 the driver runs (it prints this text for every update of every emitted diff, compared with pytezos' `key_hash`).
The known answers are the `test_get_key_hash` vectors of tests/unit_tests/test_michelson/test_micheline.py. -/
section KeyHash
open HashText Impl.Encoding Order

/-- the `expr` row of the regenerated `base58_encodings` table -/
def exprRow : Row := ⟨[101, 120, 112, 114], 54, [13, 44, 64, 27], 32⟩

/-- closed facts about that row (kernel evaluation over the regenerated C09 table), see `HashText.rowFacts` -/
theorem expr_row_ok : rowFacts exprRow = true := by decide +kernel

theorem chars_expr : Impl.BigMap.chars "expr" = [101, 120, 112, 114] := by decide

/-- every key whose legacy PACK `b` the model can write has a 54-character `expr…` key hash, which `base58_decode` maps
back to the hash of `b` — for every 4-byte checksum function and every 32-byte hash function -/
theorem key_hash_text (cks : List Nat → List Nat) (hck : CksOk cks) (H : List Nat → List Nat) (hH : HashOk H)
    (v : CVal) (b : List Nat) (hb : packLegacy v = some b) :
    ∃ s, keyHashChars cks H v = some s ∧ s.length = 54 ∧ [101, 120, 112, 114] <+: s ∧
      base58Decode cks s = .ok (H b) := by
  obtain ⟨s, hs, hl, hp, hd⟩ := text_of_payload cks hck exprRow expr_row_ok (H b) (hH.len b) (hH.bytes b)
  refine ⟨s, ?_, hl, hp, hd⟩
  have hs' : base58Encode cks (H b) [101, 120, 112, 114] = .ok s := hs
  simp [keyHashChars, scriptExpr, hb, (key_hash_format).1, chars_expr, hs', Except.toOption]

/-- with the executable double SHA-256 and BLAKE2b-256 -/
theorem key_hash_concrete (v : CVal) (b : List Nat) (hb : packLegacy v = some b) :
    ∃ s, keyHashChars RealHash.cks RealHash.blake v = some s ∧ s.length = 54 ∧ [101, 120, 112, 114] <+: s ∧
      base58Decode RealHash.cks s = .ok (RealHash.blake b) :=
  key_hash_text RealHash.cks cks_ok RealHash.blake blake_ok v b hb

/-- each update of the emitted entry carries the `expr…` text computed with the executable hashes from the legacy PACK
of its own key (`typed_diff_key_hash` with the hash function the driver runs) -/
theorem typed_diff_key_hash_concrete {τ : CTy} {V : Type} (c : Ctx) (b : BM (TVal τ) V)
    (e : DiffEntry (TVal τ) V (Option (List Nat))) (b' : BM (TVal τ) V) (c' : Ctx)
    (h : aggregateLazyDiff (fun k : TVal τ => keyHashChars RealHash.cks RealHash.blake k.1) c b = some (e, b', c')) :
    ∀ u ∈ e.updates, u.2.1 = keyHashChars RealHash.cks RealHash.blake u.1.1 := diff_key_hash _ c b e b' c' h

/-- the key-hash computation in three steps (legacy PACK, hash, Base58Check), so that a known answer can be evaluated by
the kernel one step at a time -/
theorem key_hash_steps (cks H : List Nat → List Nat) (v : CVal) (b d s : List Nat)
    (hp : packLegacy v = some b) (hh : H b = d)
    (he : (base58Encode cks d [101, 120, 112, 114]).toOption = some s) : keyHashChars cks H v = some s := by
  simp [keyHashChars, scriptExpr, hp, hh, (key_hash_format).1, chars_expr, he]

-- `Pair 1 1 1 1 : pair int int int int` (test_get_key_hash): the legacy PACK nests the pairs, 05 0707 0001 0707 0001 0707 0001 0001,
-- and the key hash is expruN32WETsB2Dx1AynDmMufVr1As9qdnjRxKQ82rk2qZ4uxuKVMK
set_option maxRecDepth 4000 in
example : keyHashChars RealHash.cks RealHash.blake
    (.pair (.num .int 1) (.pair (.num .int 1) (.pair (.num .int 1) (.num .int 1)))) =
    some [101, 120, 112, 114, 117, 78, 51, 50, 87, 69, 84, 115, 66, 50, 68, 120, 49, 65, 121, 110, 68, 109, 77, 117, 102, 86, 114,
      49, 65, 115, 57, 113, 100, 110, 106, 82, 120, 75, 81, 56, 50, 114, 107, 50, 113, 90, 52, 117, 120, 117, 75, 86, 77, 75] :=
  key_hash_steps RealHash.cks RealHash.blake _ [5, 7, 7, 0, 1, 7, 7, 0, 1, 7, 7, 0, 1, 0, 1]
    [111, 158, 41, 169, 196, 149, 22, 180, 169, 77, 73, 199, 100, 31, 210, 31, 94, 57, 34, 241, 78, 188, 115, 187, 137, 86, 126,
    191, 103, 167, 44, 118]
    _ (by decide +kernel) (by rw [RealHash.blake_eq_nat]; decide +kernel) (by rw [RealHash.cks_eq_nat]; decide +kernel)
-- the address `tz1MsmYzmqxHs9trE1qQugZxxcLPqAXdQaX9` (optimized leaf 0000 18896f…8c, test_get_key_hash):
-- expru2YV8AanTTUSV4K21P7X4DzbuWQFVk7NewDuP1A5uamffiiFA3
set_option maxRecDepth 4000 in
example : keyHashChars RealHash.cks RealHash.blake
    (.address 0 [24, 137, 111, 207, 198, 105, 11, 174, 250, 154, 237, 198, 215, 89, 249, 191, 5, 114, 126, 140] []) =
    some [101, 120, 112, 114, 117, 50, 89, 86, 56, 65, 97, 110, 84, 84, 85, 83, 86, 52, 75, 50, 49, 80, 55, 88, 52, 68, 122, 98, 117,
      87, 81, 70, 86, 107, 55, 78, 101, 119, 68, 117, 80, 49, 65, 53, 117, 97, 109, 102, 102, 105, 105, 70, 65, 51] :=
  key_hash_steps RealHash.cks RealHash.blake _ [5, 10, 0, 0, 0, 22, 0, 0, 24, 137, 111, 207, 198, 105, 11, 174, 250, 154, 237, 198, 215, 89, 249, 191, 5, 114, 126, 140]
    [67, 91, 208, 213, 143, 94, 239, 63, 51, 236, 101, 133, 225, 61, 89, 133, 12, 217, 196, 85, 255, 147, 117, 80, 141, 224, 126,
    19, 72, 147, 180, 24]
    _ (by decide +kernel) (by rw [RealHash.blake_eq_nat]; decide +kernel) (by rw [RealHash.cks_eq_nat]; decide +kernel)

end KeyHash

end C15
