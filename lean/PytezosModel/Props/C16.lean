import PytezosModel.Proofs.C16Impl
/-! C16 — arithmetic and numeric conversions are exact.

Every theorem is about `Impl.Arith.*`, the mirror of `instructions/arithmetic.py` / `boolean.py` driven by the tables
regenerated from the source, for ALL operand values (unbounded `Int`s, byte strings of any length) and all operand
types of the model (int, nat, mutez, timestamp, bytes, bool).  `Except.toOption` forgets *which* error class a failure
has; the exact class is stated in the `…_exact` corollaries.

Not covered (stated in evidence): AND/OR/XOR/NOT/LSL/LSR on `bytes` operands — pytezos has no implementation
(dispatch assertion), so the theorems below prove that they FAIL there; BLS12-381 rows (C21). -/
namespace C16
open Impl.Arith Generated.C16 PyNum
open Spec.Arith

/-- ADD: for every pair of operands the interpreter's result is the Michelson one — the exact sum with the result
type of the table, a failure when the table has no row, and for mutez a failure exactly when the sum is ≥ 2^63 -/
theorem add_spec (a b : Val) : (Impl.Arith.add a b).toOption = Spec.Arith.add a b :=
  arith_spec _ isSub_int _ rfl _ _ _ (by decide +kernel) a b

theorem sub_spec (a b : Val) : (Impl.Arith.sub a b).toOption = Spec.Arith.sub a b :=
  arith_spec (fun _ => true) (fun _ => rfl) subBody rfl subTable (· - ·) subTy (by decide +kernel) a b

theorem mul_spec (a b : Val) : (Impl.Arith.mul a b).toOption = Spec.Arith.mul a b :=
  arith_spec _ isSub_int _ rfl _ _ _ (by decide +kernel) a b

theorem ediv_spec (a b : Val) : (Impl.Arith.ediv a b).toOption = Spec.Arith.ediv a b := by
  have htab : ∀ ta tb : NTy, edivTable.bind (·.lookup [ta.prim, tb.prim]) =
      (edivTy ta tb).map fun t => [t.1.prim, t.2.prim] := by
    decide +kernel
  unfold Impl.Arith.ediv
  rw [if_neg (by decide)]
  rcases a with ⟨ta, x⟩ | bs | p <;> rcases b with ⟨tb, y⟩ | bs' | q
  · show _ = match edivTy ta tb with | some (tq, tr) => edivAt tq tr x y | none => none
    rw [show [(Val.num ta x).prim, (Val.num tb y).prim] = [ta.prim, tb.prim] from rfl, dispatch_eq, htab]
    cases edivTy ta tb with
    | none => rfl
    | some t => exact edivNum_spec t.1 t.2 x y
  all_goals
    show _ = none
    split <;> rfl

theorem sub_mutez_spec (a b : Val) : (Impl.Arith.subMutez a b).toOption = Spec.Arith.subMutez a b := by
  rcases a with ⟨_ | _ | _ | _, x⟩ | bs | p <;> rcases b with ⟨_ | _ | _ | _, y⟩ | bs' | q
  case num.mutez.num.mutez =>
    rw [subMutez_mutez, Spec.Arith.subMutez,
      ← show (fromValue .mutez (x - y)).toOption = _ from fromValue_spec .mutez (x - y)]
    by_cases h : x < y
    · rw [if_pos h, if_pos (by omega)]; rfl
    · rw [if_neg h, if_neg (by omega)]
      cases fromValue .mutez (x - y) <;> rfl
  all_goals rfl

/-- SUB_MUTEZ on actual mutez amounts: `None` iff the difference is negative, never a failure -/
theorem sub_mutez_exact (x y : Int) (hx : (Val.num .mutez x).WF) (hy : (Val.num .mutez y).WF) :
    Impl.Arith.subMutez (.num .mutez x) (.num .mutez y) =
      .ok (if x < y then .none1 .mutez else .some1 (.num .mutez (x - y))) := by
  rw [subMutez_mutez]
  have hy0 : 0 ≤ y := hy.1
  have hx1 : x < 2 ^ 63 := hx.2
  by_cases h : x < y
  · rw [if_pos h, if_pos h]
  · rw [if_neg h, if_neg h, fromValue_mutez_of_nonneg _ (by omega), if_pos (by omega)]

theorem abs_spec (a : Val) : (Impl.Arith.abs a).toOption = Spec.Arith.abs a := by
  rcases a with ⟨_ | _ | _ | _, x⟩ | bs | p
  case num.int =>
    show (wrap (fromValue .nat (PyNum.abs x))).toOption = _
    rw [abs_eq_natAbs, wrap_fromValue_nat]; rfl
  all_goals rfl

theorem neg_spec (a : Val) : (Impl.Arith.neg a).toOption = Spec.Arith.neg a := by
  rcases a with ⟨_ | _ | _ | _, x⟩ | bs | p <;> rfl

theorem isnat_spec (a : Val) : (Impl.Arith.isnat a).toOption = Spec.Arith.isnat a := by
  rcases a with ⟨_ | _ | _ | _, x⟩ | bs | p
  case num.int =>
    show (if x ≥ 0 then
            match fromValue .nat x with
            | .ok v => Except.ok (Out.some1 v)
            | .error e => .error e
          else .ok (.none1 .nat)).toOption = if 0 ≤ x then _ else _
    by_cases h : 0 ≤ x
    · rw [if_pos h, if_pos h, fromValue_nat_of_nonneg x h]; rfl
    · rw [if_neg h, if_neg h]; rfl
  all_goals rfl

theorem lsl_spec (a b : Val) : (Impl.Arith.lsl a b).toOption = Spec.Arith.lsl a b :=
  executeShift_spec lslBody rfl PyNum.shl a b

theorem lsr_spec (a b : Val) : (Impl.Arith.lsr a b).toOption = Spec.Arith.lsr a b :=
  (executeShift_spec lsrBody rfl PyNum.shr a b).trans (by simp only [shr_eq]; rfl)

/-- on naturals: LSL/LSR fail iff the shift exceeds 256, otherwise they are `a * 2^s` and `⌊a / 2^s⌋` -/
theorem lsl_nat (a s : Nat) :
    Impl.Arith.lsl (.num .nat a) (.num .nat s) = if s ≤ 256 then .ok (.one (.num .nat ((a * 2 ^ s : Nat) : Int))) else .error .assertion :=
  executeShift_nat lslBody rfl PyNum.shl a s _ (by rw [PyNum.shl, Int.natCast_mul, cast_two_pow])

theorem lsr_nat (a s : Nat) :
    Impl.Arith.lsr (.num .nat a) (.num .nat s) = if s ≤ 256 then .ok (.one (.num .nat ((a / 2 ^ s : Nat) : Int))) else .error .assertion :=
  executeShift_nat lsrBody rfl PyNum.shr a s _ (by rw [shr_eq, Int.natCast_ediv, cast_two_pow])

theorem int_spec (a : Val) (h : a.WF) : (Impl.Arith.int a).toOption =
    match a with
    | .num .nat x => some (.one (.num .int x))
    | .num .mutez x => some (.one (.num .int x))      -- accepted by pytezos (MutezType is a NatType); not Michelson
    | .bytes bs => some (.one (.num .int (Spec.Arith.beSigned bs)))
    | _ => none := by
  rcases a with ⟨ta, x⟩ | bs | p
  · cases ta <;> rfl
  · show (wrap (fromValue .int (PyNum.fromBytes bs true))).toOption = _
    rw [fromBytes_signed_eq bs h]; rfl
  · rfl

theorem nat_spec (a : Val) : (Impl.Arith.nat a).toOption =
    match a with
    | .bytes bs => some (.one (.num .nat (Spec.Arith.beUnsigned bs)))
    | _ => none := by
  rcases a with ⟨ta, x⟩ | bs | p
  · cases ta <;> rfl
  · show (wrap (fromValue .nat (PyNum.fromBytes bs false))).toOption = _
    rw [fromBytes_unsigned_eq, wrap_fromValue_nat]; rfl
  · rfl

theorem and_spec (a b : Val) (ha : a.WF) (hb : b.WF) :
    match a, b with
    | .bool p, .bool q => Impl.Arith.and a b = .ok (.one (.bool (p && q)))
    | .num .nat x, .num .nat y => Impl.Arith.and a b = .ok (.one (.num .nat ((x.toNat &&& y.toNat : Nat))))
    | .num .int x, .num .nat y =>
        ∃ r : Nat, Impl.Arith.and a b = .ok (.one (.num .nat r)) ∧ ∀ i, r.testBit i = (bit x i && y.toNat.testBit i)
    | .num .nat x, .num .int y =>      -- row of the pytezos table that Michelson does not have (operands swapped)
        ∃ r : Nat, Impl.Arith.and a b = .ok (.one (.num .nat r)) ∧ ∀ i, r.testBit i = (x.toNat.testBit i && bit y i)
    | _, _ => Impl.Arith.and a b = .error .assertion := by
  -- a non-negative `x & y` is pushed as the natural number with the same bits
  have hand (x y : Int) (h0 : 0 ≤ PyNum.and x y) :
      wrap (fromValue .nat (PyNum.and x y)) = .ok (.one (.num .nat (PyNum.and x y).toNat)) ∧
        ∀ i, (PyNum.and x y).toNat.testBit i = (bit x i && bit y i) :=
    ⟨by rw [← wrap_fromValue_nat, Int.toNat_of_nonneg h0], fun i => by rw [toNat_testBit _ h0, bit_and]⟩
  rcases a with ⟨_ | _ | _ | _, x⟩ | bs | p <;> rcases b with ⟨_ | _ | _ | _, y⟩ | bs' | q
  case num.int.num.nat =>
    obtain ⟨e, hbit⟩ := hand x y (and_nonneg_right x y hb)
    exact ⟨_, e, fun i => by rw [hbit, toNat_testBit y hb]⟩
  case num.nat.num.int =>
    obtain ⟨e, hbit⟩ := hand x y (and_nonneg_left x y ha)
    exact ⟨_, e, fun i => by rw [hbit, toNat_testBit x ha]⟩
  case num.nat.num.nat =>
    show wrap (fromValue .nat (PyNum.and x y)) = _
    rw [and_nat x y ha hb]; exact wrap_fromValue_nat _
  all_goals rfl

theorem or_spec (a b : Val) (ha : a.WF) (hb : b.WF) :
    match a, b with
    | .bool p, .bool q => Impl.Arith.or a b = .ok (.one (.bool (p || q)))
    | .num .nat x, .num .nat y => Impl.Arith.or a b = .ok (.one (.num .nat ((x.toNat ||| y.toNat : Nat))))
    | _, _ => Impl.Arith.or a b = .error .assertion :=
  boolAdd_spec orBody rfl PyNum.or (· || ·) (· ||| ·) or_nat a b ha hb

theorem xor_spec (a b : Val) (ha : a.WF) (hb : b.WF) :
    match a, b with
    | .bool p, .bool q => Impl.Arith.xor a b = .ok (.one (.bool (p != q)))
    | .num .nat x, .num .nat y => Impl.Arith.xor a b = .ok (.one (.num .nat ((x.toNat ^^^ y.toNat : Nat))))
    | _, _ => Impl.Arith.xor a b = .error .assertion :=
  boolAdd_spec xorBody rfl PyNum.xor (· != ·) (· ^^^ ·) xor_nat a b ha hb

theorem not_spec (a : Val) :
    match a with
    | .bool p => Impl.Arith.not a = .ok (.one (.bool (!p)))
    | .num .nat x => Impl.Arith.not a = .ok (.one (.num .int (-x - 1))) ∧ ∀ i, bit (-x - 1) i = !bit x i
    | .num .int x => Impl.Arith.not a = .ok (.one (.num .int (-x - 1))) ∧ ∀ i, bit (-x - 1) i = !bit x i
    | _ => Impl.Arith.not a = .error .assertion := by
  have hinv (x : Int) : PyNum.invert x = -x - 1 := Int.neg_add
  have hnum (x : Int) : wrap (fromValue .int (PyNum.invert x)) = .ok (.one (.num .int (-x - 1))) ∧
      ∀ i, bit (-x - 1) i = !bit x i :=
    ⟨by rw [hinv]; rfl, fun i => by rw [← hinv, bit_invert]⟩
  rcases a with ⟨_ | _ | _ | _, x⟩ | bs | p
  case num.int => exact hnum x
  case num.nat => exact hnum x
  all_goals rfl

/-- `PUSH int z ; BYTES ; INT` leaves `z`, for every integer -/
theorem bytes_int_roundtrip (z : Int) : Impl.Arith.bytesInt (.num .int z) = .ok (.one (.num .int z)) := by
  unfold bytesInt
  rw [bytes_int_eq]
  show wrap (fromValue .int (PyNum.fromBytes _ true)) = _
  rw [fromBytes_int]
  rfl

/-- BYTES of an int is a two's-complement big-endian encoding of it, and no encoding is shorter; 0 ↦ empty -/
theorem bytes_int_shortest (z : Int) :
    ∃ bs, Impl.Arith.bytes (.num .int z) = .ok (.one (.bytes bs)) ∧ (Val.bytes bs).WF ∧ beSigned bs = z ∧
      ∀ bs' : List Nat, (Val.bytes bs').WF → beSigned bs' = z → bs.length ≤ bs'.length := by
  refine ⟨toBytesBE (intLen z) (z % 256 ^ intLen z).toNat, ?_, toBytesBE_wf _ _, ?_, ?_⟩
  · exact bytes_int_eq z
  · rw [← fromBytes_signed_eq _ (toBytesBE_wf _ _), fromBytes_int]
  · intro bs' hwf hdec
    rw [toBytesBE_length]
    rw [← fromBytes_signed_eq _ hwf] at hdec
    by_cases hne : bs' = []
    · subst hne hdec
      exact Nat.le_refl 0
    · -- `z` is in the signed range of `bs'`, so the bit count BYTES takes fits its length
      have hr := fromBytes_signed_range bs' hwf hne
      rw [hdec] at hr
      have := (signed_fits_iff z _).1 hr
      have := List.length_pos_iff.2 hne
      unfold intLen signedLen
      split <;> omega

/-- `PUSH nat n ; BYTES ; NAT` leaves `n` -/
theorem bytes_nat_roundtrip (n : Int) (h : (Val.num .nat n).WF) :
    Impl.Arith.bytesNat (.num .nat n) = .ok (.one (.num .nat n)) := by
  unfold bytesNat
  rw [bytes_nat_eq n h]
  show wrap (fromValue .nat (PyNum.fromBytes _ false)) = _
  rw [fromBytes_unsigned_eq, ← fromBytesBE_eq_beUnsigned, fromBytesBE_toBytesBE _ _ (nat_fits n h), wrap_fromValue_nat,
    Int.toNat_of_nonneg h]

/-- BYTES of a nat is its shortest big-endian encoding (no leading zero byte; 0 ↦ empty) -/
theorem bytes_nat_shortest (n : Int) (h : (Val.num .nat n).WF) :
    ∃ bs, Impl.Arith.bytes (.num .nat n) = .ok (.one (.bytes bs)) ∧ (Val.bytes bs).WF ∧ (beUnsigned bs : Int) = n ∧
      ∀ bs' : List Nat, (Val.bytes bs').WF → (beUnsigned bs' : Int) = n → bs.length ≤ bs'.length := by
  simp only [Val.WF] at h
  refine ⟨toBytesBE (unsignedLen n) n.toNat, ?_, toBytesBE_wf _ _, ?_, ?_⟩
  · exact bytes_nat_eq n h
  · rw [← fromBytesBE_eq_beUnsigned, fromBytesBE_toBytesBE _ _ (nat_fits n h)]; omega
  · intro bs' hwf hdec
    rw [toBytesBE_length]
    apply unsignedLen_minimal n h
    have := fromBytesBE_lt bs' hwf
    rw [fromBytesBE_eq_beUnsigned] at this
    rw [← hdec, ← cast_pow256]
    exact Int.ofNat_lt.2 this

theorem mutez_range (x : Int) : (∃ v, fromValue .mutez x = .ok v) ↔ (0 ≤ x ∧ x < 2 ^ 63) :=
  ⟨fun ⟨v, e⟩ => ((fromValue_ok_iff .mutez x v).1 e).1, fun h => ⟨_, (fromValue_ok_iff .mutez x _).2 ⟨h, rfl⟩⟩⟩

theorem mutez_overflow_exact (x : Int) (h : 0 ≤ x) : fromValue .mutez x = .error .overflow ↔ 2 ^ 63 ≤ x := by
  rw [fromValue_mutez_of_nonneg x h]
  by_cases h2 : x < 2 ^ 63
  · rw [if_pos h2]; exact ⟨fun e => (nomatch e), fun h3 => absurd h2 (Int.not_lt.2 h3)⟩
  · rw [if_neg h2]; exact ⟨fun _ => Int.not_lt.1 h2, fun _ => rfl⟩

/-- every value built by a `from_value` constructor is in its type's range -/
theorem fromValue_wf (t : NTy) (x : Int) (v : Val) (h : fromValue t.prim x = .ok v) : v.WF := by
  obtain ⟨hw, rfl⟩ := (fromValue_ok_iff t x v).1 h
  exact hw

/-- ADD on mutez: the sum, or an OverflowError exactly when it does not fit 63 bits -/
theorem add_mutez_exact (x y : Int) (hx : (Val.num .mutez x).WF) (hy : (Val.num .mutez y).WF) :
    Impl.Arith.add (.num .mutez x) (.num .mutez y) =
      if x + y < 2 ^ 63 then .ok (.one (.num .mutez (x + y))) else .error .overflow :=
  wrap_fromValue_mutez _ (Int.add_nonneg hx.1 hy.1)

/-- MUL mutez × nat likewise -/
theorem mul_mutez_exact (x y : Int) (hx : (Val.num .mutez x).WF) (hy : (Val.num .nat y).WF) :
    Impl.Arith.mul (.num .mutez x) (.num .nat y) =
      if x * y < 2 ^ 63 then .ok (.one (.num .mutez (x * y))) else .error .overflow :=
  wrap_fromValue_mutez _ (Int.mul_nonneg hx.1 hy)

theorem ediv_euclid (ta tb tq tr : NTy) (x y : Int) (hty : Spec.Arith.edivTy ta tb = some (tq, tr))
    (hx : (Val.num ta x).WF) (hy : (Val.num tb y).WF) (hy0 : y ≠ 0) :
    ∃ q r : Int, Impl.Arith.ediv (.num ta x) (.num tb y) = .ok (.some2 (.num tq q) (.num tr r)) ∧
      x = q * y + r ∧ 0 ≤ r ∧ r < y.natAbs := by
  have hr0 := Int.emod_nonneg x hy0
  have hdecomp := Int.mul_ediv_add_emod x y
  -- quotient and remainder lie in the range of the classes the table names
  have hwf : (Val.num tq (x / y)).WF ∧ (Val.num tr (x % y)).WF := by
    cases ta <;> cases tb <;> cases hty
    case nat.nat => exact ⟨Int.ediv_nonneg hx hy, hr0⟩
    case nat.int => exact ⟨trivial, hr0⟩
    case int.nat => exact ⟨trivial, hr0⟩
    case int.int => exact ⟨trivial, hr0⟩
    case mutez.nat =>
      have hq0 : 0 ≤ x / y := Int.ediv_nonneg hx.1 hy
      have hmul : 0 ≤ y * (x / y) := Int.mul_nonneg hy hq0
      have hq1 : x / y ≤ x := Int.ediv_le_self y hx.1
      have hx1 : x < 2 ^ 63 := hx.2
      exact ⟨⟨hq0, by omega⟩, hr0, by omega⟩
    case mutez.mutez =>
      have hlt := Int.emod_lt_of_pos x (show 0 < y by have := hy.1; omega)
      have hy1 : y < 2 ^ 63 := hy.2
      exact ⟨Int.ediv_nonneg hx.1 hy.1, hr0, by omega⟩
  refine ⟨x / y, x % y, toOption_eq_some ?_, by rw [Int.mul_comm]; exact hdecomp.symm, hr0, Int.emod_lt x hy0⟩
  rw [ediv_spec]
  show (match edivTy ta tb with | some (tq, tr) => edivAt tq tr x y | none => none) = _
  rw [hty]
  show edivAt tq tr x y = _
  rw [edivAt, if_neg hy0, mk_eq, mk_eq, if_pos hwf.1, if_pos hwf.2]

theorem ediv_zero (ta tb tq tr : NTy) (x : Int) (hty : Spec.Arith.edivTy ta tb = some (tq, tr)) :
    Impl.Arith.ediv (.num ta x) (.num tb 0) = .ok (.none2 tq.prim tr.prim) := by
  apply toOption_eq_some
  rw [ediv_spec]
  simp [Spec.Arith.ediv, hty, Spec.Arith.edivAt]

/-! ### non-vacuity: concrete instances, evaluated by the kernel -/

example : Impl.Arith.add (.num .int (-5)) (.num .nat 3) = .ok (.one (.num .int (-2))) := by rfl
example : Impl.Arith.add (.num .mutez (2 ^ 63 - 1)) (.num .mutez 1) = .error .overflow := by
  rw [add_mutez_exact _ _ (by decide) (by decide)]; rfl
example : Impl.Arith.add (.num .nat 1) (.bytes [1]) = .error .assertion := by rfl
example : Impl.Arith.subMutez (.num .mutez 0) (.num .mutez 1) = .ok (.none1 .mutez) := by
  rw [sub_mutez_exact _ _ (by decide) (by decide)]; rfl
example : Impl.Arith.ediv (.num .int 7) (.num .int (-3)) = .ok (.some2 (.num .int (-2)) (.num .nat 1)) := by rfl
example : Impl.Arith.ediv (.num .int (-7)) (.num .int (-3)) = .ok (.some2 (.num .int 3) (.num .nat 2)) := by rfl
example : Impl.Arith.ediv (.num .mutez 7) (.num .nat 0) = .ok (.none2 .mutez .mutez) := by rfl
example : Impl.Arith.lsl (.num .nat 1) (.num .nat 257) = .error .assertion := by rfl
example : Impl.Arith.lsl (.num .nat 3) (.num .nat 256) = .ok (.one (.num .nat (3 * 2 ^ 256))) := by rfl
example : Impl.Arith.and (.num .int (-3)) (.num .nat 5) = .ok (.one (.num .nat 5)) := by rfl
example : Impl.Arith.not (.num .nat 5) = .ok (.one (.num .int (-6))) := by rfl
example : Impl.Arith.and (.bytes [255]) (.bytes [15]) = .error .assertion := by rfl   -- not implemented by pytezos
example : Impl.Arith.bytes (.num .int 128) = .ok (.one (.bytes [0, 128])) := by rfl
example : Impl.Arith.bytes (.num .int (-129)) = .ok (.one (.bytes [255, 127])) := by rfl
example : Impl.Arith.bytes (.num .int 0) = .ok (.one (.bytes [])) := by rfl
example : Impl.Arith.bytes (.num .nat 128) = .ok (.one (.bytes [128])) := by rfl
example : Impl.Arith.bytesInt (.num .int 128) = .ok (.one (.num .int 128)) := bytes_int_roundtrip 128
example : Impl.Arith.int (.bytes [255, 127]) = .ok (.one (.num .int (-129))) := by rfl

end C16
