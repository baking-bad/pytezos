import PytezosModel.Client.MultiNode
/-! C28 — a multi-node client sends its i-th request to node `i % n`, whatever the earlier outcomes. -/
namespace C28
open Impl.MultiNode

theorem run_true (n : Nat) (os : List Bool) (k : Nat) :
    run true n (k % n) os = (List.range' k os.length).map (· % n) := by
  induction os generalizing k with
  | nil => rfl
  | cons o os ih =>
    have h : (k % n + 1) % n = (k + 1) % n := Nat.mod_add_mod k n 1
    simp only [run, step, Bool.or_true, if_true, h, ih (k + 1), List.length_cons, List.range'_succ, List.map_cons]

/-- the property, for every node count and every outcome sequence (no length bound) -/
theorem rotation (n : Nat) (hn : 0 < n) (outcomes : List Bool) :
    nodesUsed n outcomes = some ((List.range outcomes.length).map (· % n)) := by
  have h := run_true n outcomes 0
  simp only [Nat.zero_mod] at h
  simp [nodesUsed, Generated.C28.advanceOnError, h, List.range_eq_range']

/-- the i-th request goes to node `i % n` -/
theorem rotation_ith (n : Nat) (hn : 0 < n) (outcomes : List Bool) (i : Nat) (hi : i < outcomes.length) :
    (nodesUsed n outcomes).map (·[i]?) = some (some (i % n)) := by
  simp [rotation n hn outcomes, hi]

-- non-vacuity: a concrete mixed success/failure history over three nodes
example : nodesUsed 3 [true, false, false, true, true] = some [0, 1, 2, 0, 1] := by
  simp [rotation 3 (by omega)]; decide

end C28
