import PytezosModel.Proofs.C22
/-! C22 — a failing REPL cell leaves the session as if it never ran.

`Impl.Session` mirrors `Interpreter.execute` over an explicit heap of context objects (a stacked big map holds a
context *reference*) and over pytezos' `MichelsonStack` (`items` + the `protected` counter that DIP / DIP n / DIG / DUG /
DUP n raise and lower around their work, with no try/finally).  How the backup is taken, what
`BigMapType.__deepcopy__` does with the reference and how the handler puts the stack back are read from the source
(`Generated.C22`, combined in `Impl.Session.config`: does the stack copy follow the context copy?  is the stack object
replaced, or only its `items`?).
`observe` follows references: the stack without addresses, its `protected` counter (where the next push lands, how many
items the next pop reaches), the contents of every context reachable from a stacked big map (id counters, registered
big maps, declared types, the patched AMOUNT / BALANCE / NOW / SENDER / SOURCE / CHAIN_ID), and the interpreter's own
context.
`WF`: the interpreter's context exists and every stacked big map points at it; it holds for `Interpreter()` and is
preserved by every cell (`cell_wf`), so it holds in every reachable state.
Failures are at ANY instruction position, at any nesting depth: a cell is an arbitrary list of programs (leaves, DIP
{ … }, DIP n { … } around arbitrary bodies) and fails wherever one of its instructions raises (FAILWITH, an ill-typed
instruction, stack underflow, DIG / DUG / DUP n / DROP n / DIP n beyond the stack, a rejected literal or PATCH value, a
missing shell, a parse error) — in particular while `protected > 0`.  Sessions are arbitrary cell lists (induction, no
length bound). -/
namespace C22
open Impl.Session Proofs.C22

/-- the source under test has the repaired shape: one memo, context copied first, `__deepcopy__` looks the memo up —
so the copied stack points at the copied context — and the handler replaces the stack object (`self.stack =
stack_backup`), so the `protected` counter of the stack that was live when the cell raised is dropped with it -/
theorem config_eq : config = some ⟨true, .replaceStack⟩ := config_repaired

/-- `Interpreter()` is well-formed -/
theorem init_wf : WF State.init := rep_init.1

/-- every cell keeps the state well-formed -/
theorem cell_wf (σ : State) (hwf : WF σ) (cl : Cell) :
    ∃ σ' r, cell σ cl = some (σ', r) ∧ WF σ' := by
  obtain ⟨a, ha⟩ := exists_rep hwf
  exact ⟨_, _, cell_eq σ cl, (cell_rep ha cl).1.1⟩

/-- the property for one cell: if the cell fails — at whatever instruction, inside whatever DIP body — the state the
interpreter is left in cannot be told from the one before the cell, by any observation that follows references
(`protected` and the patched context fields included) -/
theorem execute_atomic (σ : State) (hwf : WF σ) (cl : Cell) (σ' : State) (h : cell σ cl = some (σ', .failed)) :
    observe σ' = observe σ := by
  obtain ⟨a, ha⟩ := exists_rep hwf
  rw [cell_eq, Option.some.injEq] at h
  obtain ⟨h1, h2⟩ := cell_rep ha cl
  rw [h] at h1 h2
  have hf : (cellP a cl).2.isFailed = true := by rw [← h2]; rfl
  rw [cellP_failed a cl hf] at h1
  rw [observe_rep h1, observe_rep ha]

/-- every cell behaves exactly as on a session state without any aliasing (one context, no references; there a failing
cell changes nothing, `cellP`): same result, and the new state represents the new aliasing-free state -/
theorem cell_eq_alias_free (σ : State) (a : PState) (ha : Rep σ a) (cl : Cell) :
    ∃ σ' r, cell σ cl = some (σ', r) ∧ r = (cellP a cl).2 ∧ Rep σ' (cellP a cl).1 := by
  obtain ⟨h1, h2⟩ := cell_rep ha cl
  exact ⟨_, _, cell_eq σ cl, h2, h1⟩

/-- no protected prefix survives a cell: started with `protected = 0`, every cell — successful or failing anywhere,
e.g. inside nested DIP bodies or between the `protect` and the `restore` of DIG / DUP n — ends with `protected = 0`,
so the next push lands on top and the next pop reaches every item -/
theorem cell_protected_zero (σ : State) (h0 : σ.stack.prot = 0) (cl : Cell) :
    ∃ σ' r, cell σ cl = some (σ', r) ∧ σ'.stack.prot = 0 :=
  ⟨_, _, cell_eq σ cl, (cellWith_protBack σ cl).elim (·.trans h0) id⟩

/-- the property: for EVERY session (any cells, failing at any instruction position of any nesting depth, any length)
started in a well-formed state, the session with the failing cells removed gives the same results for the remaining
cells — stack effects, big_map ids and lazy diffs of COMMIT / RUN / BIG_MAP_DIFF are part of the results — and ends in
a state with the same observation (stack, `protected`, reachable contexts, the interpreter's context with its
patched fields) -/
theorem session_eq_filtered_from (σ : State) (hwf : WF σ) (cs : List Cell) :
    ∃ rs σf kept rs' σf', session σ cs = some (rs, σf) ∧ dropFailing σ cs = some kept ∧
      session σ kept = some (rs', σf') ∧
      rs' = rs.filter (fun r => !r.isFailed) ∧ observe σf' = observe σf := by
  obtain ⟨a, ha⟩ := exists_rep hwf
  obtain ⟨ht, a', h1, h2⟩ := trace_filtered ha ha cs
  refine ⟨_, _, _, _, _, session_eq σ cs, dropFailing_eq σ cs, session_eq σ _, ?_, by rw [observe_rep h1, observe_rep h2]⟩
  rw [results_eq_trace, results_eq_trace, ht, List.filter_map]
  rfl

/-- … in particular for every session of a fresh interpreter -/
theorem session_eq_filtered (cs : List Cell) :
    ∃ rs σf kept rs' σf', session State.init cs = some (rs, σf) ∧ dropFailing State.init cs = some kept ∧
      session State.init kept = some (rs', σf') ∧
      rs' = rs.filter (fun r => !r.isFailed) ∧ observe σf' = observe σf :=
  session_eq_filtered_from State.init init_wf cs

/-- cell by cell: the result of every surviving cell and the observation right after it (stack, `protected`, contexts
reachable from stacked big maps, interpreter context) are those of the session without the failing cells -/
theorem session_trace_eq_filtered_from (σ : State) (hwf : WF σ) (cs : List Cell) :
    ∃ tr kept tr', trace σ cs = some tr ∧ dropFailing σ cs = some kept ∧ trace σ kept = some tr' ∧
      tr' = tr.filter (fun r => !r.1.isFailed) := by
  obtain ⟨a, ha⟩ := exists_rep hwf
  exact ⟨_, _, _, trace_eq σ cs, dropFailing_eq σ cs, trace_eq σ _, (trace_filtered ha ha cs).1⟩

theorem session_trace_eq_filtered (cs : List Cell) :
    ∃ tr kept tr', trace State.init cs = some tr ∧ dropFailing State.init cs = some kept ∧
      trace State.init kept = some tr' ∧ tr' = tr.filter (fun r => !r.1.isFailed) :=
  session_trace_eq_filtered_from State.init init_wf cs

/-- every state a session of a fresh interpreter reaches is well-formed and has nothing protected -/
theorem session_wf (cs : List Cell) : ∃ rs σf, session State.init cs = some (rs, σf) ∧ WF σf ∧ σf.stack.prot = 0 := by
  obtain ⟨_, a', h1, _⟩ := trace_filtered rep_init rep_init cs
  exact ⟨_, _, session_eq _ cs, h1.1, (sessionWith_protBack State.init cs).elim id id⟩

/-! ### non-vacuity, and the two defective shapes (documentation: `cellWith ⟨false, _⟩` is the backup that keeps the
reference, `cellWith ⟨_, .itemsOnly⟩` the restore that keeps the live stack object) -/

def declare : Cell := [.op (.declStorage .bigmap), .op (.declParam .unit)]
def beginCell : Cell := [.op (.begin_ .unit (.seq [(1, 1)]))]
def body : Cell := [.op (.basic .cdr), .op (.basic .nilOp), .op (.basic .pair)]
/-- `CDR; BIG_MAP_DIFF; FAIL`: asks the stacked big map's context for an id, then fails -/
def failing : Cell := [.op (.basic .cdr), .op .bigMapDiff, .op (.basic .unit), .op (.basic .failwith)]
def commitCell : Cell := [.op .commit]

def diffIds : CellResult → List Int
  | .ok outs => outs.flatMap fun o => o.diff.map (·.id)
  | .failed => []

-- with the repaired backup the COMMIT after the failing cell still allocates big_map id 0 …
example : ((sessionWith repaired State.init [declare, beginCell, body, failing, commitCell]).1.map diffIds)
    = [[], [], [], [], [0]] := by decide
-- … and the failing cell really fails at its fourth instruction, after BIG_MAP_DIFF has run
example : (cellWith repaired (sessionWith repaired State.init [declare, beginCell, body]).2 failing).2 = .failed := by decide
example : (cellWith repaired (sessionWith repaired State.init [declare, beginCell, body]).2 [.op (.basic .cdr), .op .bigMapDiff]).2
    = .ok [⟨"BIG_MAP_DIFF", [⟨0, .alloc, [(1, (), some 1)]⟩], none⟩] := by decide

/-- pinned shape (`__deepcopy__` keeps `context`, two separate deep copies): after the rollback the stacked big map
points at the discarded context, whose id counter BIG_MAP_DIFF has advanced — the later COMMIT allocates id 1, the
same session without the failing cell allocates id 0 -/
theorem pinned_shape_counterexample :
    ((sessionWith ⟨false, .replaceStack⟩ State.init [declare, beginCell, body, failing, commitCell]).1.map diffIds) = [[], [], [], [], [1]] ∧
    ((sessionWith ⟨false, .replaceStack⟩ State.init [declare, beginCell, body, commitCell]).1.map diffIds) = [[], [], [], [0]] ∧
    observe (cellWith ⟨false, .replaceStack⟩ (sessionWith ⟨false, .replaceStack⟩ State.init [declare, beginCell, body]).2 failing).1
      ≠ observe (sessionWith ⟨false, .replaceStack⟩ State.init [declare, beginCell, body]).2 := by decide

def push12 : Cell := [.op (.basic (.push 1)), .op (.basic (.push 2))]
/-- `DIP { UNIT ; FAILWITH }`: raises inside the body, while one item is protected -/
def failInDip : Cell := [.dip [.op (.basic .unit), .op (.basic .failwith)]]
/-- `PUSH nat 9 ; DIP 2 { DIP { DROP ; UNIT ; UNIT ; ADD } }`: raises two DIPs deep, three items protected -/
def failNested : Cell := [.op (.basic (.push 9)), .dipn 2 [.dip [.op (.basic .drop), .op (.basic .unit), .op (.basic .unit), .op (.basic .add)]]]
/-- `DIG 2` on two items: `protect(2)` succeeds, `pop1()` raises -/
def digAtDepth : Cell := [.op (.basic (.dig 2))]
/-- `DUP 3` on two items: `protect(2)` succeeds, `peek()` raises -/
def dupBeyond : Cell := [.op (.basic (.dupn 2))]
def push3 : Cell := [.op (.basic (.push 3))]

/-- `protected` of the live stack object at the moment the cell raises -/
def protAtFailure (σ : State) (cl : Cell) : Option Nat :=
  match runInstrs heapStore σ.cur cl σ.stack σ.heap with
  | (.error f, _) => some f.prot
  | (.ok _, _) => none

-- the four cells raise with 1, 3, 2 and 2 items protected …
example : [failInDip, failNested, digAtDepth, dupBeyond].map (protAtFailure (sessionWith repaired State.init [push12]).2)
    = [some 1, some 3, some 2, some 2] := by decide
-- … are reported as failed, and the PUSH after them lands on top
example : (sessionWith repaired State.init [push12, failInDip, failNested, digAtDepth, dupBeyond, push3]).1.map CellResult.isFailed
    = [false, true, true, true, true, false] := by decide
example : (observe (sessionWith repaired State.init [push12, failInDip, failNested, digAtDepth, dupBeyond, push3]).2).stack
    = [.nat 3, .nat 2, .nat 1] := by decide
-- a successful DIP works below the top: `DIP { PUSH nat 7 }` on [2, 1] gives [2, 7, 1]
example : (observe (sessionWith repaired State.init [push12, [.dip [.op (.basic (.push 7))]]]).2).stack = [.nat 2, .nat 7, .nat 1] := by decide

/-- the in-place restore (`self.stack.items = stack_backup.items`): the live stack object survives the rollback with
the `protected` counter it had when the cell raised, so the state after the failing cell differs from the one before
it (`protected` 1, resp. 2, instead of 0) and a later PUSH lands below the leaked prefix: `[2, 3, 1]`, `[2, 1, 3]`
instead of `[3, 2, 1]` -/
theorem items_only_counterexample :
    (observe (cellWith ⟨true, .itemsOnly⟩ (sessionWith ⟨true, .itemsOnly⟩ State.init [push12]).2 failInDip).1).protected_ = 1 ∧
    observe (cellWith ⟨true, .itemsOnly⟩ (sessionWith ⟨true, .itemsOnly⟩ State.init [push12]).2 failInDip).1
      ≠ observe (sessionWith ⟨true, .itemsOnly⟩ State.init [push12]).2 ∧
    (observe (sessionWith ⟨true, .itemsOnly⟩ State.init [push12, failInDip, push3]).2).stack = [.nat 2, .nat 3, .nat 1] ∧
    (observe (sessionWith ⟨true, .itemsOnly⟩ State.init [push12, digAtDepth, push3]).2).stack = [.nat 2, .nat 1, .nat 3] ∧
    (observe (sessionWith ⟨true, .itemsOnly⟩ State.init [push12, push3]).2).stack = [.nat 3, .nat 2, .nat 1] := by decide

/-- `PATCH AMOUNT 5` · `PATCH AMOUNT 9 ; PATCH SENDER a0 ; DIP 0 { UNIT ; FAILWITH }` · `AMOUNT ; SENDER` -/
def patchSession : List Cell :=
  [[.op (.patch .amount (some (.int 5)))],
   [.op (.patch .amount (some (.int 9))), .op (.patch .sender (some (.str (.addr 0)))), .dipn 0 [.op (.basic .unit), .op (.basic .failwith)]],
   [.op (.basic .amount), .op (.basic .sender)]]

-- the patches of the failing cell are rolled back with the context: AMOUNT pushes 5 mutez, SENDER the dummy address
example : (sessionWith repaired State.init patchSession).1.map CellResult.isFailed = [false, true, false] := by decide
example : (observe (sessionWith repaired State.init patchSession).2).stack = [.address .dummy, .mutez 5] := by decide
example : ((observe (sessionWith repaired State.init patchSession).2).context.map fun c => (c.amount, c.sender)) = some (some 5, none) := by decide

end C22
