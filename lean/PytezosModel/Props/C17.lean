import PytezosModel.Proofs.C17Comb
/-! C17 — type annotations do not change execution or serialization.

Full statement (properties.jsonl): adding, removing or renaming field and type annotations in the types a program
uses leaves its execution results, its failures and its packed bytes unchanged; only entrypoint names and Python-object
field names may depend on annotations.

The code whose RESULT can depend on annotations at run time is one family — the right-comb helpers of `PairType`
(`iter_comb`, `unpairn_comb`, and through them `access_comb`, `update_comb`, `to_micheline_value`) — and the theorems
are about it: the mirror `Impl.Comb.*` is instantiated with the flags the translator reads from the source on every run
(`chkIter`, `chkUnpairn`: is the `field_name or type_name` test present in the descend condition?), and every theorem
below is stated for that instance.  `strip` forgets the annotations of a runtime value; "for every re-annotation" is
`strip v = strip v'`.  Each helper is (1) shown to be a function of the annotation-free value for ALL inputs, in or out
of the reference's domain, and (2) shown to agree with the Michelson reference (`Spec.Comb`, written over annotation-free
values) wherever the reference is defined.  No bound on the size of values, on `n`, or on program length.

Not a theorem here (checked metamorphically on the real interpreter by harness/props/c17.py): annotation-independence
of the instructions outside the comb fragment.  They do not read `field_name` / `type_name` themselves (translator + grep);
the types they build at run time go through `create_type` (types/base.py), which REJECTS a `%`-annotated argument type of
list / set / map / big_map / option / contract / lambda — `ListType.from_items`, APPLY and SLICE hand it the anonymous types
(fixes C17-4..6), and no part of the mirror stands for that assertion. -/
namespace C17
open Impl.Comb Spec.Comb

/-- the source under test has the annotation-blind helpers, GET n / UPDATE n test the index before asserting a pair
(the shape after fixes 794044f / 18f9cf1), and the other mirrored bodies are the recognised ones -/
theorem source_is_annotation_blind :
    Generated.C17.iterCombAnnotTest = some false ∧ Generated.C17.unpairnCombAnnotTest = some false
      ∧ Generated.C17.getnZeroIdentity = some true ∧ Generated.C17.updatenZeroReplaces = some true
      ∧ Generated.C17.helpersRecognised = true := by decide

/-- hence the mirror is instantiated with both annotation flags off … -/
theorem hI : chkIter = false := by decide
theorem hU : chkUnpairn = false := by decide
/-- … and with the index-first shape of GET n / UPDATE n -/
theorem hG : zeroGet = true := by decide
theorem hZ : zeroUpd = true := by decide

/-- the leaves `iter_comb` yields do not depend on annotations (any value, any re-annotation, with or without nodes) -/
theorem iterComb_annot_free (v v' : CVal) (nodes : Bool) (h : strip v = strip v') :
    (iterComb chkIter nodes v).map strip = (iterComb chkIter nodes v').map strip := by
  rw [hI]
  exact blind_of_erase (iterComb false nodes) erase (List.map erase) (List.map strip) map_strip_erase
    (iterComb_erase nodes) (erase_congr h)

/-- … and are the leaves of the maximal right comb -/
theorem iterComb_eq_flatten (v : CVal) (hv : v.isPair = true) :
    (iterComb chkIter false v).map strip = flatten (strip v) := by
  rw [hI]; exact iterComb_strip v hv

/-- `access_comb` is `GET n` of the reference on every pair and every `n` (both fail for the same `n`) -/
theorem accessComb_eq_getn (v : CVal) (hv : v.isPair = true) (n : Nat) :
    (accessComb chkIter v n).map strip = getn n (strip v) := by
  rw [hI]; exact accessComb_getn v n hv

theorem accessComb_annot_free (v v' : CVal) (n : Nat) (h : strip v = strip v') :
    (accessComb chkIter v n).map strip = (accessComb chkIter v' n).map strip := by
  rw [hI]
  exact blind_of_erase (accessComb false · n) erase (Option.map erase) (Option.map strip) optMap_strip_erase
    (accessComb_erase · n) (erase_congr h)

/-- wherever `UPDATE n` of the reference is defined, the helper `update_comb` returns the same value.  The side condition
concerns the helper alone: `update_comb(0, e)` rebuilds `e` with `from_comb`, which needs two leaves; the instruction
UPDATE n does not call the helper for n = 0 (see `step_update0`, `step_refines_spec`, which carry no such condition) -/
theorem updateComb_eq_updaten (v e : CVal) (n : Nat) (r : SVal) (hv : v.isPair = true)
    (h0 : n = 0 → e.isPair = true) (h : updaten n (strip e) (strip v) = some r) :
    (updateComb chkIter v n e).map strip = some r := by
  rw [hI]; exact updateComb_spec v e n r hv h0 h

/-- for ALL values, elements and `n` (also where the reference is undefined) the result is annotation-independent -/
theorem updateComb_annot_free (v v' e e' : CVal) (n : Nat) (hv : strip v = strip v') (he : strip e = strip e') :
    (updateComb chkIter v n e).map strip = (updateComb chkIter v' n e').map strip := by
  rw [hI]
  exact blind_of_erase (fun p : CVal × CVal => updateComb false p.1 n p.2) (Prod.map erase erase) (Option.map erase)
    (Option.map strip) optMap_strip_erase (fun p => updateComb_erase p.1 p.2 n)
    (x := (v, e)) (y := (v', e')) (by rw [Prod.map_apply, Prod.map_apply, erase_congr hv, erase_congr he])

/-- `UNPAIR n` (the instruction calls `unpairn_comb(n - 2)`): the reference's components wherever it is defined -/
theorem unpairn_eq_spec (v : CVal) (n : Nat) (rs : List SVal) (h : unpairn (n + 2) (strip v) = some rs) :
    (unpairnComb chkUnpairn n v).map strip = rs := by
  rw [hU]; exact unpairnComb_spec n v rs h

theorem unpairn_annot_free (v v' : CVal) (n : Nat) (h : strip v = strip v') :
    (unpairnComb chkUnpairn n v).map strip = (unpairnComb chkUnpairn n v').map strip := by
  rw [hU]
  exact blind_of_erase (unpairnComb false n) erase (List.map erase) (List.map strip) map_strip_erase
    (unpairnComb_erase n) (erase_congr h)

/-- `from_comb` (PAIR, PAIR n, and the rebuild step of UPDATE n) is `PAIR n` of the reference, failures included -/
theorem pairn_eq_spec (xs : List CVal) : (fromComb xs).map strip = pairn (xs.map strip) :=
  fromComb_strip xs

def toInstr : CombInstr → Instr
  | .getN n => .getN n
  | .updateN n => .updateN n
  | .pairN n => .pairN n
  | .unpairN n => .unpairN n

/-- `GET 0` is the identity on a stack whose top has ANY type: same value, same annotations -/
theorem step_get0 (v : CVal) (st : List CVal) :
    Impl.Comb.step chkIter chkUnpairn zeroGet zeroUpd (.getN 0) (v :: st) = some (v :: st) := by
  rw [hG]; rfl

/-- `UPDATE 0` replaces the second item by the top one whatever the two types are; the element keeps its own annotations -/
theorem step_update0 (e v : CVal) (st : List CVal) :
    Impl.Comb.step chkIter chkUnpairn zeroGet zeroUpd (.updateN 0) (e :: v :: st) = some (e :: st) := by
  rw [hZ]; rfl

/-- GET n as executed on a stack IS the reference `GET n`: every n, every value (pair or not), same result and same failures -/
theorem step_getN_eq_spec (n : Nat) (st : List CVal) :
    (Impl.Comb.step chkIter chkUnpairn zeroGet zeroUpd (.getN n) st).map (List.map strip)
      = Spec.Comb.step (.getN n) (st.map strip) := by
  rw [hI, hU, hG]
  cases st with
  | nil => rfl
  | cons v st => simp only [List.map_cons, Spec.Comb.step]; exact step_getN_eq _ n v st

/-- GET n / UPDATE n / PAIR n / UNPAIR n as executed on a stack (mirror of adt.py) refine the reference semantics:
whenever Michelson defines the result, pytezos computes that result (modulo annotations).  ALL instructions, ALL stacks, no
domain hypothesis: `GET 0` / `UPDATE 0` accept non-pairs in the source after fixes 794044f / 18f9cf1.
(`UPDATE n`, n ≥ 1, with a non-pair new element needs no care: `update_comb` appends a non-pair element as one leaf.) -/
theorem step_refines_spec (i : CombInstr) (st : List CVal) (r : List SVal)
    (h : Spec.Comb.step i (st.map strip) = some r) :
    (Impl.Comb.step chkIter chkUnpairn zeroGet zeroUpd (toInstr i) st).map (List.map strip) = some r := by
  rw [hI, hU, hG, hZ]
  cases i with
  | getN n =>
    match st, h with
    | v :: st, h => exact (step_getN_eq _ n v st).trans h
  | updateN n =>
    match st, h with
    | e :: v :: st, h =>
      obtain ⟨x, hx, rfl⟩ := Option.map_eq_some_iff.1 h
      exact step_updateN_spec _ n e v st x hx
  | pairN n => exact (step_pairN_eq _ _ n st).trans h
  | unpairN n =>
    match st, h with
    | v :: st, h =>
      obtain ⟨rs, hx, rfl⟩ := Option.map_eq_some_iff.1 h
      exact step_unpairN_spec _ _ n v st rs hx

/-- any program over GET n / UPDATE n / PAIR n / UNPAIR n / PAIR / UNPAIR / CAR / CDR / SWAP / DUP / DROP / DIG / DUG:
final stack and failure depend only on the annotation-free initial stack (every program, every stack, every re-annotation,
well-typed or not) -/
theorem exec_annot_free (prog : List Instr) (st st' : List CVal) (h : st.map strip = st'.map strip) :
    (exec chkIter chkUnpairn zeroGet zeroUpd prog st).map (List.map strip)
      = (exec chkIter chkUnpairn zeroGet zeroUpd prog st').map (List.map strip) := by
  rw [hI, hU]
  exact blind_of_erase (exec false false zeroGet zeroUpd prog) (List.map erase) (Option.map (List.map erase))
    (Option.map (List.map strip)) optMapList_strip_erase (exec_erase _ _ prog) (erase_list_congr h)

/-- the optimized Micheline of every value is the reference layout (Octez `unparse_pair`: nested `Pair` up to three
leaves, a sequence from four on) of the annotation-free value — never `none`, never dependent on annotations -/
theorem pack_layout_annot_free (v : CVal) : toMich chkIter v = some (layout (strip v)) := by
  rw [hI]; exact toMich_layout v

theorem pack_reannotation (v v' : CVal) (h : strip v = strip v') : toMich chkIter v = toMich chkIter v' := by
  rw [pack_layout_annot_free, pack_layout_annot_free, h]

/-- `toMich`'s fused traversal is literally `[arg.to_micheline_value() for arg in self.iter_comb()]` (any flag) -/
theorem toMich_uses_iterComb (chk : Bool) (v : CVal) (hv : v.isPair = true) :
    combMich chk v = toMichList chk (iterComb chk false v) :=
  combMich_eq chk v hv

/-! ### non-vacuity and the recorded counter-examples of the annotation-testing variant -/

private def n (k : Int) : CVal := .atom {} (.int k)
private def nA (f : String) (k : Int) : CVal := .atom { field := some f } (.int k)
/-- `Pair 1 2 3 : pair (nat %a) (pair %x (nat %b) (nat %c))` -/
private def ex3 : CVal := .pair {} (nA "a" 1) (.pair { field := some "x" } (nA "b" 2) (nA "c" 3))
/-- `Pair 1 2 3 4 : pair nat (pair %x nat (pair nat nat))` -/
private def ex4 : CVal := .pair {} (n 1) (.pair { field := some "x" } (n 2) (.pair {} (n 3) (n 4)))

-- hypotheses of the theorems are satisfiable on annotated combs, and the conclusions are the expected values
example : (accessComb chkIter ex3 3).map strip = some (.atom (.int 2)) := by
  rw [accessComb_eq_getn ex3 rfl 3]; rfl
example : updaten 3 (strip (n 7)) (strip ex3) = some (.pair (.atom (.int 1)) (.pair (.atom (.int 7)) (.atom (.int 3)))) := rfl
example : unpairn 3 (strip ex3) = some [.atom (.int 1), .atom (.int 2), .atom (.int 3)] := rfl
example : layout (strip ex4) = .seq [.int 1, .int 2, .int 3, .int 4] := rfl
example : layout (strip ex3) = .prim "Pair" [.int 1, .prim "Pair" [.int 2, .int 3] []] [] := rfl
-- the defective variant (annotation test present) is really different: these are the pinned-tree defects
example : accessComb true ex3 3 = none := by decide
example : (unpairnComb true 1 ex3).length = 2 := by decide
example : (toMich true ex4).map (fun m => match m with | .seq _ => true | _ => false) = some false := rfl
example : Spec.Comb.step (.getN 3) [strip ex3] = some [.atom (.int 2)] := rfl
-- `step_refines_spec` is not vacuous at n = 0 on non-pairs: the reference is defined there, on annotated atoms too
example : Spec.Comb.step (.getN 0) [strip (nA "a" 5)] = some [.atom (.int 5)] := rfl
example : Spec.Comb.step (.updateN 0) [strip (nA "a" 7), strip (n 6)] = some [.atom (.int 7)] := rfl
example : Spec.Comb.step (.updateN 0) [strip (n 7), strip ex3] = some [.atom (.int 7)] := rfl
example : Spec.Comb.step (.updateN 2) [strip (n 7), strip ex3] = some [.pair (.atom (.int 1)) (.atom (.int 7))] := rfl
-- the shape before fixes 794044f / 18f9cf1 (pair assertion first, helper called for every n) really is different:
-- `PUSH int 5 ; GET 0`, `PUSH int 6 ; PUSH int 7 ; UPDATE 0` and `PUSH (pair …) … ; PUSH int 7 ; UPDATE 0` all failed
example : (Impl.Comb.step false false false true (.getN 0) [n 5]).isNone = true := rfl
example : (Impl.Comb.step false false true false (.updateN 0) [n 7, n 6]).isNone = true := rfl
example : (Impl.Comb.step false false true false (.updateN 0) [n 7, ex3]).isNone = true := rfl
example : (Impl.Comb.step false false true true (.updateN 0) [n 7, ex3]).isSome = true := rfl

end C17
