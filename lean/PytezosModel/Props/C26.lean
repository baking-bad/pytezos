import PytezosModel.Proofs.C26
/-! C26 — RPC requests retry exactly the transient node failures.

`Impl.Retry.request rs` is the mirror of `RpcNode.request` run against a node that answers with the responses `rs`
(in this order); it yields the number of HTTP requests issued, the arguments of `sleep` (milliseconds) and the
outcome.  `Spec.Retry.transient` is the property's notion of a transient server error, `Spec.Retry.schedule` the
delays 0.25, 0.5, 1, 2, 2 s.  `WF rs` is the property's domain: error ids, where present, are strings and a 200
response carries JSON (the alphabet of the statement); theorems that do not need it are stated without it.
Every theorem holds for all response sequences (induction over the list). -/
namespace C26
open Impl.Retry Proofs.C26

/-- domain of the property, see `Spec.Retry.wellFormed` -/
def WF (rs : List Resp) : Prop := ∀ r ∈ rs, Spec.Retry.wellFormed r = true

/-- the model is total: the source was recognised -/
theorem request_defined (rs : List Resp) : ∃ t, request rs = some t := by
  obtain ⟨b, hb⟩ := request_eq rs
  exact ⟨_, hb⟩

/-- number of requests = 1 + length of the longest run of transient responses at the start of the first five -/
theorem attempts_closed_form (rs : List Resp) (hw : WF rs) (t : Trace) (ht : request rs = some t) :
    t.issued = 1 + ((rs.take Spec.Retry.maxRetries).takeWhile Spec.Retry.transient).length := by
  obtain ⟨b, n, hn, hi, _⟩ := request_some ht
  rw [hi, hn, rounds_wf b rs hw]

/-- attempt `i+1` is made iff attempt `i` was made, `i < 5` and response `i` is a transient server error -/
theorem retry_iff_transient (rs : List Resp) (hw : WF rs) (t : Trace) (ht : request rs = some t)
    (i : Nat) (hi : i < rs.length) (hmade : i < t.issued) :
    i + 1 < t.issued ↔ (i < Spec.Retry.maxRetries ∧ Spec.Retry.transient rs[i] = true) := by
  obtain ⟨b, n, hn, hi', _⟩ := request_some ht
  have key := lt_rounds_iff (specConfig b) 0 rs i hi (by omega)
  rw [retries_wf b _ (hw _ (List.getElem_mem hi)), ← hn] at key
  rw [hi', Nat.add_comm, Nat.add_lt_add_iff_left]
  exact key

/-- at least one, at most six requests — for every response sequence, well-formed or not -/
theorem attempts_le_six (rs : List Resp) (t : Trace) (ht : request rs = some t) : 1 ≤ t.issued ∧ t.issued ≤ 6 := by
  obtain ⟨b, n, hn, hi, _⟩ := request_some ht
  have h : n ≤ 6 - 1 - 0 := hn ▸ (rounds_le _ 0 rs).1
  omega

/-- the sleeps are exactly the first `issued - 1` entries of 0.25, 0.5, 1, 2, 2 s — for every response sequence -/
theorem delays_schedule (rs : List Resp) (t : Trace) (ht : request rs = some t) :
    t.sleeps = Spec.Retry.schedule.take (t.issued - 1) := by
  obtain ⟨b, n, hn, hi, hs, _⟩ := request_some ht
  have h : n ≤ 6 - 1 - 0 := hn ▸ (rounds_le _ 0 rs).1
  rw [hs, hi]
  have : n = 0 ∨ n = 1 ∨ n = 2 ∨ n = 3 ∨ n = 4 ∨ n = 5 := by omega
  rcases this with h | h | h | h | h | h <;> subst h <;> simp [delays, Spec.Retry.schedule]

/-- non-decreasing delays, capped at two seconds -/
theorem delays_monotone_capped (rs : List Resp) (t : Trace) (ht : request rs = some t) :
    t.sleeps.Pairwise (· ≤ ·) ∧ ∀ d ∈ t.sleeps, d ≤ 2000 := by
  rw [delays_schedule rs t ht]
  constructor
  · exact List.Pairwise.sublist (List.take_sublist _ _) (by decide)
  · intro d hd
    have hm := List.mem_of_mem_take hd
    simp only [Spec.Retry.schedule, List.mem_cons, List.not_mem_nil, or_false] at hm
    omega

/-- the outcome is that of the first response that is not retried: returned when its status is 200, otherwise the
error made from *that* response (401 / 404 / `RpcError.from_response`) -/
theorem result_spec (rs : List Resp) (hw : WF rs) (t : Trace) (ht : request rs = some t) (hlen : t.issued ≤ rs.length) :
    ∃ r, rs[t.issued - 1]? = some r ∧ t.outcome = Spec.Retry.outcome r := by
  obtain ⟨b, n, _, hi, _, ho⟩ := request_some ht
  have hn : n < rs.length := by omega
  rw [hi, Nat.add_sub_cancel_left, ho, List.getElem?_eq_getElem hn]
  exact ⟨_, rfl, leave_wf b _ (hw _ (List.getElem_mem hn))⟩

/-- a response is returned only if it is the first one that is not retried and its status is 200; all responses
before it were transient server errors -/
theorem first_success_returned (rs : List Resp) (hw : WF rs) (t : Trace) (ht : request rs = some t)
    (hret : t.outcome = .returned) :
    ∃ r, rs[t.issued - 1]? = some r ∧ r.status = 200 ∧
      ∀ j (hj : j < rs.length), j < t.issued - 1 → Spec.Retry.transient rs[j] = true ∧ 500 ≤ rs[j].status := by
  have h6 := attempts_le_six rs t ht
  have hlen : t.issued ≤ rs.length := by
    obtain ⟨b, n, hn, hi, _, ho⟩ := request_some ht
    apply Nat.le_of_not_lt
    intro h
    -- all of `rs` was retried: the next response is missing
    have hl : n ≤ rs.length := hn ▸ (rounds_le _ 0 rs).2
    rw [hret, List.getElem?_eq_none (by omega)] at ho
    cases ho
  obtain ⟨r, hr, ho⟩ := result_spec rs hw t ht hlen
  refine ⟨r, hr, ?_, ?_⟩
  · rw [hret] at ho
    unfold Spec.Retry.outcome at ho
    by_cases h2 : r.status = 200
    · exact h2
    · by_cases h401 : r.status = 401
      · simp [h401] at ho
      · by_cases h404 : r.status = 404
        · simp [h404] at ho
        · simp only [h2, h401, h404, if_false] at ho
          exact absurd ho.symm (fromResponse_ne_returned r)
  · intro j hj hlt
    have := (retry_iff_transient rs hw t ht j hj (by omega)).mp (by omega)
    refine ⟨this.2, ?_⟩
    have h := this.2
    simp only [Spec.Retry.transient, Bool.and_eq_true, decide_eq_true_eq] at h
    exact h.1

/-- a response sequence of six or more never runs out -/
theorem never_exhausted (rs : List Resp) (t : Trace) (ht : request rs = some t) (h : 6 ≤ rs.length) :
    t.issued ≤ rs.length := Nat.le_trans (attempts_le_six rs t ht).2 h

/-! non-vacuity: concrete well-formed sequences exercising every clause -/
section examples
/-- 500, json, `[{"id": "node.x", "kind": "temporary"}]` -/
private def tmp : Resp := ⟨500, true, .list [.dict (.str [110, 111, 100, 101, 46, 120]) (.str Spec.Retry.temporary)], []⟩
/-- 500, json, `[{"id": "proto.a", "kind": "temporary"}]` with the marker in the text -/
private def protoTmp : Resp :=
  ⟨500, true, .list [.dict (.str (Spec.Retry.protoPrefix ++ [97])) (.str Spec.Retry.temporary)], Spec.Retry.prevalidatorMarker⟩
/-- 502 plain text mentioning prevalidator.ml -/
private def preval : Resp := ⟨502, false, .invalid, [120] ++ Spec.Retry.prevalidatorMarker ++ [58, 49]⟩
private def ok : Resp := ⟨200, true, .nonList, []⟩
private def notFound : Resp := ⟨404, false, .invalid, []⟩

example : WF [tmp, preval, protoTmp, ok] := by unfold WF; decide
example : request [tmp, preval, ok] = some ⟨3, [250, 500], .returned⟩ := by decide
example : request [tmp, protoTmp, ok] = some ⟨2, [250], .rpcFromLast (Spec.Retry.protoPrefix ++ [97])⟩ := by decide
example : request [tmp, tmp, tmp, tmp, tmp, tmp, ok] = some ⟨6, [250, 500, 1000, 2000, 2000], .rpcFromLast [110, 111, 100, 101, 46, 120]⟩ := by
  decide
example : request [preval, notFound] = some ⟨2, [250], .rpcNotFound⟩ := by decide
example : Spec.Retry.transient tmp = true ∧ Spec.Retry.transient preval = true ∧ Spec.Retry.transient protoTmp = false := by decide
/-- outside the domain (an id that is not a string) the classifier itself raises -/
example : request [⟨500, true, .list [.dict .other .absent], []⟩, ok] = some ⟨1, [], .crash .attributeError⟩ := by decide
end examples

end C26
