import PytezosModel.Proofs.C24Fees
/-! C24 — automatically chosen fees meet the node's default minimal fee.

`Spec.Fees.accepts fee size gas` is the node's default mempool filter
(`1000·fee ≥ 100000 + 1000·size + 100·gas` nanotez, i.e. fee ≥ ⌈100 + size + 0.1·gas⌉ mutez) over the *signed*
operation: `size = 32 (branch) + Σ |content_i| + 64 or 96 (signature; 96 for a tz4 / BLS source)` and
`gas = Σ gas_limit_i`.  `Impl.Fees.fill` / `Impl.Fees.autofill` mirror `OperationGroup.fill()` / `.autofill()`
with the constants, tables and shapes the translator reads from the source on every run.

Both theorems quantify over every batch (any number `n ≥ 1` of contents of any kind, any byte sizes), every node
constant, every account counter and mempool offset, every simulated consumption and all four source kinds.
Explicit guards, part of the statements:
* `… = some out` — the mirror is defined: the kinds / source prefix are in the limit tables, the group is not
  empty, and Python's float divisions `int(nanotez·gas / 1000)`, `ceil(milligas / 1000)` stay below `2^53`
  (`Impl.Fees.floatExact`), where they equal the exact floor / ceiling;
* the fee fits the node's int64 mutez (`< 2^63`): only then is the growth of the zarith `fee` field (≤ 9 bytes)
  covered by the reserve — a fee the node cannot even represent is outside the property. -/
namespace C24
open Impl.Fees

/-- the constants read from the (repaired) source satisfy what the proofs need: 100 mutez flat, ≥ 1 mutez per byte,
≥ 100 nanotez per gas unit, the batch fee shape `everyOwnGas`, 32 bytes of branch and 64 / 96 bytes of signature -/
theorem cfg_sound (k : Cfg) (h : cfg = some k) : k.Sound := by
  simp only [cfg, Generated.C24.minimalFees, Generated.C24.mutezPerByte, Generated.C24.nanotezPerGas,
    Generated.C24.feeDivisor, Generated.C24.reserve, Generated.C24.defaultHardGas, Generated.C24.defaultHardStorage,
    Generated.C24.gasTable, Generated.C24.storageTable, Generated.C24.feeBranch, Generated.C24.feeSigAllowance,
    Generated.C24.feeSlack, Generated.C24.fillFee, Generated.C24.fillKeyOrder, Generated.C24.autoBranch,
    Generated.C24.autoSigAllowance, Generated.C24.autoPlus, Generated.C24.gasReserve, Generated.C24.burnReserve,
    Generated.C24.reserveKinds, Generated.C24.milligasDivisor, Generated.C24.burnedPerAllocation,
    Option.bind_eq_bind, Option.bind_some, Option.some.injEq] at h
  subst h
  constructor <;> decide

/-- **autofill**: for every batch, whatever the simulation returned, the fee put on the first content is accepted
by the node's default filter for the signed operation (64-byte and 96-byte signatures alike). -/
theorem autofill_fee_ok (env : Env) (cs : List Content) (sims : List (List SimRes)) (out : List Filled)
    (h : autofill env cs sims = some out) (hrep : totalFee out < 2 ^ 63) :
    Spec.Fees.accepts (totalFee out) (Spec.Fees.signedSize env.src out) (totalGas out) := by
  obtain ⟨k, hc, h⟩ := Option.bind_eq_some_iff.mp h
  exact autofillWith_accepts k (cfg_sound k hc) env cs sims out h hrep

/-- **fill** (default limits): the sum of the fees put on the contents is accepted by the node's default filter. -/
theorem fill_fee_ok (env : Env) (cs : List Content) (out : List Filled)
    (h : fill env cs = some out) (hrep : ∀ o ∈ out, o.fee < 2 ^ 63) :
    Spec.Fees.accepts (totalFee out) (Spec.Fees.signedSize env.src out) (totalGas out) := by
  obtain ⟨k, hc, h⟩ := Option.bind_eq_some_iff.mp h
  exact fillWith_accepts k (cfg_sound k hc) env cs out h hrep

/-- `fill` is undefined on an empty group (division by `len(self.contents)`) and keeps the number of contents -/
theorem fill_length (env : Env) (cs : List Content) (out : List Filled) (h : fill env cs = some out) :
    out.length = cs.length ∧ 0 < cs.length := by
  obtain ⟨k, hc, h⟩ := Option.bind_eq_some_iff.mp h
  exact fillWith_length k env cs out h

/-! non-vacuity: concrete batches on which the mirror is defined, with the fees the real code chooses -/
example : (fill ⟨"tz1", 1040000, 60000, 100, 0⟩ [⟨"transaction", false, 46⟩, ⟨"transaction", false, 46⟩]).map (·.map (·.fee))
    = some [571, 571] := by decide +kernel
example : (autofill ⟨"tz4", 1040000, 60000, 100, 1⟩ [⟨"transaction", false, 46⟩] [[⟨1000000, 0, false⟩]]).map
    (·.map fun o => (o.fee, o.counter, o.gas, o.storage)) = some [(400, 102, 1100, 100)] := by decide +kernel
example : autofill ⟨"tz1", 1040000, 60000, 100, 0⟩ [⟨"transaction", false, 46⟩] [[⟨2 ^ 53, 0, false⟩]] = none := by
  decide +kernel

/-! The defective shapes of the pinned tree (kept as theorems about the same mirror with the shape switched back,
so that the reason for the two repairs stays machine-checked). -/

/-- the pinned `fill`: fee on the first content only, computed from the default gas of that content -/
def pinnedFill (k : Cfg) : Cfg := { k with fillFee := .firstOnlyDefaultGas }
/-- the pinned signature allowance: 64 bytes whatever the source -/
def pinnedSig (k : Cfg) : Cfg := { k with feeSig := (64, 64), autoSig := (64, 64) }

def verdict (src : String) (r : Option (List Filled)) : Option (Nat × Nat × Nat × Bool) :=
  r.map fun out => (totalFee out, Spec.Fees.signedSize src out, totalGas out,
    decide (Spec.Fees.accepts (totalFee out) (Spec.Fees.signedSize src out) (totalGas out)))

/-- two plain transactions from a tz1 account: fee 571 for 201 bytes and 6080 gas, the node wants 909 -/
theorem pinned_fill_batch_underpays :
    cfg.bind (fun k => verdict "tz1" (fillWith (pinnedSig (pinnedFill k)) ⟨"tz1", 1040000, 60000, 100, 0⟩
      [⟨"transaction", false, 46⟩, ⟨"transaction", false, 46⟩])) = some (571, 201, 6080, false) := by decide +kernel

/-- one transaction from a tz4 account through `fill`: 571 < 585 -/
theorem pinned_fill_tz4_underpays :
    cfg.bind (fun k => verdict "tz4" (fillWith (pinnedSig k) ⟨"tz4", 1040000, 60000, 100, 0⟩
      [⟨"transaction", false, 46⟩])) = some (571, 181, 3040, false) := by decide +kernel

/-- one transaction from a tz4 account through `autofill` (1000 gas consumed): 368 < 390 -/
theorem pinned_autofill_tz4_underpays :
    cfg.bind (fun k => verdict "tz4" (autofillWith (pinnedSig k) ⟨"tz4", 1040000, 60000, 100, 0⟩
      [⟨"transaction", false, 46⟩] [[⟨1000000, 0, false⟩]])) = some (368, 180, 1100, false) := by decide +kernel

/-- the same three operations with the repaired shapes are accepted -/
theorem repaired_witnesses_accepted :
    (verdict "tz1" (fill ⟨"tz1", 1040000, 60000, 100, 0⟩ [⟨"transaction", false, 46⟩, ⟨"transaction", false, 46⟩])).map (·.2.2.2) = some true ∧
    (verdict "tz4" (fill ⟨"tz4", 1040000, 60000, 100, 0⟩ [⟨"transaction", false, 46⟩])).map (·.2.2.2) = some true ∧
    (verdict "tz4" (autofill ⟨"tz4", 1040000, 60000, 100, 0⟩ [⟨"transaction", false, 46⟩] [[⟨1000000, 0, false⟩]])).map (·.2.2.2) = some true := by
  decide +kernel

end C24
