import PytezosModel.Proofs.EncodingTable
import PytezosModel.Proofs.HashSha256Nat
/-! C09 — Base58Check typed encodings are unambiguous and invertible.

`Impl.Encoding.base58Encode / base58Decode / validate` mirror `base58_encode / base58_decode / _validate` of
`src/pytezos/crypto/encoding.py` over the table regenerated from the source.  `cks` is the checksum function
(first four bytes of double SHA-256), about which only `CksOk` (it returns four bytes) is assumed; the section
"the real checksum" instantiates it with the executable SHA-256 (`RealHash.cks`), which is what the driver runs.
All statements quantify over every row of the regenerated table, every payload of the row's length and every
string; the only finite evaluations are the closed per-row / per-pair facts about the table. -/
namespace C09
open Base58 Impl.Encoding

/-- every function the model depends on was recognised by the translator -/
theorem source_recognised :
    (Generated.C09.tableRecognised && Generated.C09.encodeRecognised && Generated.C09.decodeRecognised
      && Generated.C09.validateRecognised) = true := by decide

/-- `base58_decode` validates the decoded bytes against the row it selected, `_validate` matches the
prefix list against that row -/
theorem decode_validates_row :
    (Generated.C09.decodeChecksBinPrefix && Generated.C09.decodeChecksPayloadLen
      && Generated.C09.validateChecksKind) = true := by decide

/-- per row: the numeral interval of `bin ++ (dataLen + 4 bytes)` lies inside the interval of
`human ++ (encLen - |human| digits)` (numbers up to 2^830) -/
theorem table_rows_ok : ∀ r ∈ table, rowOk r = true := by decide +kernel

/-- per pair: no two rows share an encoded length with comparable human prefixes -/
theorem table_rows_disjoint : ∀ a ∈ table, ∀ b ∈ table, rowsDisjoint a b = true :=
  Impl.Encoding.table_rows_disjoint

/-- per pair: (human prefix, payload length) identifies the row -/
theorem table_rows_encode_distinct : ∀ a ∈ table, ∀ b ∈ table, rowsEncodeDistinct a b = true :=
  Impl.Encoding.table_rows_encode_distinct

/-- the prefixes handed to `_validate` by the `is_*` functions are human prefixes of table rows -/
theorem validator_prefixes_are_kinds :
    ∀ v ∈ Generated.C09.validators, ∀ p ∈ v.2, ∃ r ∈ table, r.human = p := by decide +kernel

/-- decode ∘ encode = id on every byte string (leading zero bytes and the empty string included) -/
theorem b58_roundtrip (bs : List Nat) (h : IsBytes bs) : b58dec (b58enc bs) = some bs :=
  b58dec_b58enc bs h

theorem b58_injective (xs ys : List Nat) (hx : IsBytes xs) (hy : IsBytes ys)
    (h : b58enc xs = b58enc ys) : xs = ys := b58enc_injective xs ys hx hy h

/-- the only string that decodes to `bs` is `b58enc bs` -/
theorem b58_decode_unique (s bs : List Nat) (h : b58dec s = some bs) : s = b58enc bs :=
  (b58enc_of_b58dec s bs h).symm

section
variable (cks : List Nat → List Nat) (hck : CksOk cks)

/-! The translator recognised the three functions and found both validations in `base58_decode` (the closed flags
above), so each mirror is the table function: `base58Decode_eq` and `validate_eq` hold by evaluating the flags;
`base58Encode_eq` says more, the search finds the row asked for (`table_rows_encode_distinct`). -/

theorem base58Encode_eq (r : Row) (hr : r ∈ table) (v : List Nat) (hl : v.length = r.dataLen) :
    base58Encode cks v r.human = .ok (encOf cks r v) :=
  encodeWith_row table cks table_rows_encode_distinct r hr v hl

theorem base58Decode_eq (s : List Nat) : base58Decode cks s = decodeWith table true true cks s :=
  Impl.Encoding.base58Decode_eq cks s

theorem validate_eq (ps : List (List Nat)) (s : List Nat) :
    validate cks ps s = validateWith table true true true cks ps s := rfl

include hck in
/-- for every kind and **every** payload of the kind's length, `base58_encode` succeeds and the string has
the kind's documented length and human-readable prefix -/
theorem kind_prefix_and_length (r : Row) (hr : r ∈ table) (v : List Nat) (hl : v.length = r.dataLen)
    (hv : IsBytes v) :
    ∃ s, base58Encode cks v r.human = .ok s ∧ s.length = r.encLen ∧ r.human <+: s := by
  refine ⟨encOf cks r v, ?_, ?_⟩
  · rw [base58Encode_eq cks r hr v hl]
  · have := encOf_shape cks hck r (table_rows_ok r hr) v hl hv
    exact ⟨this.1, this.2.1⟩

include hck in
/-- decoding the encoding returns the payload -/
theorem decode_encode (r : Row) (hr : r ∈ table) (v : List Nat) (hl : v.length = r.dataLen) (hv : IsBytes v)
    (s : List Nat) (hs : base58Encode cks v r.human = .ok s) : base58Decode cks s = .ok v := by
  rw [base58Encode_eq cks r hr v hl] at hs
  have : s = encOf cks r v := by injection hs with h; exact h.symm
  subst this
  rw [base58Decode_eq]
  exact decodeWith_enc table cks hck true true r hr (table_rows_disjoint r hr) (table_rows_ok r hr) v hl hv

include hck in
/-- `base58_decode` accepts nothing but canonical encodings: whenever it returns `v`, there is a kind of the
table for which `v` has the right length and `s` is exactly what `base58_encode` produces for it.
(So a string with a wrong checksum, an unknown prefix, a wrong length or a foreign binary prefix is rejected.) -/
theorem decode_sound (s v : List Nat) (h : base58Decode cks s = .ok v) :
    ∃ r ∈ table, v.length = r.dataLen ∧ IsBytes v ∧ base58Encode cks v r.human = .ok s := by
  rw [base58Decode_eq] at h
  obtain ⟨r, hr, hl, hv, hs⟩ := decodeWith_sound table cks hck table_rows_ok s v h
  refine ⟨r, hr, hl, hv, ?_⟩
  rw [base58Encode_eq cks r hr v hl, hs]

/-- unknown prefix or wrong length: no row matches the string, and it is rejected -/
theorem decode_rejects_unknown_prefix_or_length (s : List Nat)
    (h : ∀ r ∈ table, ¬ (s.length = r.encLen ∧ r.human <+: s)) : base58Decode cks s = .error .noRow := by
  rw [base58Decode_eq]
  unfold decodeWith
  have : findDecodeRow table s = none := by
    unfold findDecodeRow
    apply List.find?_eq_none.mpr
    intro r hr
    have := h r hr
    simp only [Bool.and_eq_true, beq_iff_eq, List.isPrefixOf_iff_prefix]
    exact this
  rw [this]

set_option linter.unusedSectionVars false in   -- `b58decode_check` compares `c` with `cks body`: no property of `cks` is used
include hck in
/-- wrong checksum: the Base58 form of `body ++ c` with `c` different from the checksum of `body` is rejected,
whatever `body` is -/
theorem decode_rejects_wrong_checksum (body c : List Nat) (hb : IsBytes body) (hcb : IsBytes c)
    (hc : c.length = 4) (hne : c ≠ cks body) : ∀ v, base58Decode cks (b58enc (body ++ c)) ≠ .ok v := by
  intro v h
  rw [base58Decode_eq, decodeWith, b58decCheck_b58enc cks body c hb hcb hc, if_neg hne] at h
  split at h <;> cases h

include hck in
/-- no string is valid for two kinds, and a valid string has one payload -/
theorem kinds_disjoint (r r' : Row) (hr : r ∈ table) (hr' : r' ∈ table) (v v' : List Nat)
    (hl : v.length = r.dataLen) (hv : IsBytes v) (hl' : v'.length = r'.dataLen) (hv' : IsBytes v')
    (s : List Nat) (h : base58Encode cks v r.human = .ok s) (h' : base58Encode cks v' r'.human = .ok s) :
    r = r' ∧ v = v' := by
  rw [base58Encode_eq cks r hr v hl] at h
  rw [base58Encode_eq cks r' hr' v' hl'] at h'
  have e : encOf cks r v = encOf cks r' v' := by
    injection h with h; injection h' with h'; rw [h, h']
  exact encOf_inj table cks hck table_rows_ok table_rows_disjoint r r' hr hr' v v' hl hv hl' hv' e

include hck in
/-- the kind validators (`is_pkh`, `is_bh`, … = `_validate` with their prefix list does not raise) accept
exactly the encodings of the kinds whose human prefix is in the list -/
theorem validators_exact (prefixes : List (List Nat)) (s : List Nat) :
    validate cks prefixes s = .ok () ↔
      ∃ r ∈ table, r.human ∈ prefixes ∧ ∃ v, v.length = r.dataLen ∧ IsBytes v ∧
        base58Encode cks v r.human = .ok s := by
  rw [validate_eq, validateWith_iff table cks hck table_rows_ok table_rows_disjoint]
  constructor
  · rintro ⟨r, hr, hm, v, hl, hv, hs⟩
    exact ⟨r, hr, hm, v, hl, hv, by
      rw [base58Encode_eq cks r hr v hl, hs]⟩
  · rintro ⟨r, hr, hm, v, hl, hv, hs⟩
    rw [base58Encode_eq cks r hr v hl] at hs
    exact ⟨r, hr, hm, v, hl, hv, by injection hs with h; exact h.symm⟩

include hck in
/-- two validators that both accept a string share a kind: no string is valid for two kinds at the level of
the `is_*` predicates either (e.g. block hash vs. BLS public key) -/
theorem validators_same_kind (ps ps' : List (List Nat)) (s : List Nat)
    (h : validate cks ps s = .ok ()) (h' : validate cks ps' s = .ok ()) :
    ∃ r ∈ table, r.human ∈ ps ∧ r.human ∈ ps' := by
  obtain ⟨r, hr, hm, v, hl, hv, hs⟩ := (validators_exact cks hck ps s).mp h
  obtain ⟨r', hr', hm', v', hl', hv', hs'⟩ := (validators_exact cks hck ps' s).mp h'
  obtain ⟨e, _⟩ := kinds_disjoint cks hck r r' hr hr' v v' hl hv hl' hv' s hs hs'
  subst e
  exact ⟨r, hr, hm, hm'⟩

end

/-- a checksum function for the examples (not SHA-256: any four bytes will do) -/
def exCks (v : List Nat) : List Nat := [v.length % 256, 1, 2, 3]

theorem exCks_ok : CksOk exCks := CksOk.of_length_mod 1 2 3 (by omega) (by omega) (by omega)

example : table.length = 43 := by decide
example : (⟨[116, 122, 49], 36, [6, 161, 159], 20⟩ : Row) ∈ table := by decide
-- an all-zero tz1 payload: 36 characters starting with "tz1"
example : ((base58Encode exCks (List.replicate 20 0) [116, 122, 49]).toOption.map
    fun s => (s.length, s.take 3)) = some (36, [116, 122, 49]) := by decide +kernel
-- a Base58 string with a leading zero byte round-trips
example : b58dec (b58enc [0, 0, 255, 1]) = some [0, 0, 255, 1] := by decide +kernel
-- bytes `06 a1 9e ff…` (the kind below tz1) encode to 36 characters starting with "tz1K": the row search
-- accepts the string and only the binary-prefix validation rejects it
example : (match base58Decode exCks (b58encCheck exCks ([6, 161, 158] ++ List.replicate 20 255)) with
    | .error e => some e | .ok _ => none) = some Err.rowMismatch := by decide +kernel
example : (b58encCheck exCks ([6, 161, 158] ++ List.replicate 20 255)).take 4 = [116, 122, 49, 75] := by
  decide +kernel
-- `is_bh` does not accept a BLS public key, `is_public_key` does
example : (isKind exCks "is_bh" (b58encCheck exCks ([6, 149, 135, 204] ++ List.replicate 48 7)),
    isKind exCks "is_public_key" (b58encCheck exCks ([6, 149, 135, 204] ++ List.replicate 48 7)))
    = (some false, some true) := by decide +kernel

/-! ### the real checksum: first four bytes of SHA-256 (SHA-256 v), executable (`Core/HashSha2.lean`)

The statements above hold for every 4-byte checksum function; here they are instantiated with the function the driver
runs and the `base58` library computes, so that they speak about the very strings pytezos returns.  The known-answer
examples (kernel evaluation of the Lean SHA-256 inside the proof assistant) use the FIPS 180-4 `"abc"` vector, the
mainnet chain id and the addresses of tests/unit_tests/test_crypto/test_encoding.py. -/

theorem sha256d4_ok : CksOk RealHash.cks := ⟨RealHash.cks_length, RealHash.cks_bytes⟩

theorem kind_prefix_and_length_sha256 (r : Row) (hr : r ∈ table) (v : List Nat) (hl : v.length = r.dataLen)
    (hv : IsBytes v) :
    ∃ s, base58Encode RealHash.cks v r.human = .ok s ∧ s.length = r.encLen ∧ r.human <+: s :=
  kind_prefix_and_length RealHash.cks sha256d4_ok r hr v hl hv

theorem roundtrip_sha256 (r : Row) (hr : r ∈ table) (v : List Nat) (hl : v.length = r.dataLen) (hv : IsBytes v)
    (s : List Nat) (hs : base58Encode RealHash.cks v r.human = .ok s) : base58Decode RealHash.cks s = .ok v :=
  decode_encode RealHash.cks sha256d4_ok r hr v hl hv s hs

theorem decode_sound_sha256 (s v : List Nat) (h : base58Decode RealHash.cks s = .ok v) :
    ∃ r ∈ table, v.length = r.dataLen ∧ IsBytes v ∧ base58Encode RealHash.cks v r.human = .ok s :=
  decode_sound RealHash.cks sha256d4_ok s v h

theorem kinds_disjoint_sha256 (r r' : Row) (hr : r ∈ table) (hr' : r' ∈ table) (v v' : List Nat)
    (hl : v.length = r.dataLen) (hv : IsBytes v) (hl' : v'.length = r'.dataLen) (hv' : IsBytes v')
    (s : List Nat) (h : base58Encode RealHash.cks v r.human = .ok s) (h' : base58Encode RealHash.cks v' r'.human = .ok s) :
    r = r' ∧ v = v' :=
  kinds_disjoint RealHash.cks sha256d4_ok r r' hr hr' v v' hl hv hl' hv' s h h'

theorem validators_exact_sha256 (prefixes : List (List Nat)) (s : List Nat) :
    validate RealHash.cks prefixes s = .ok () ↔
      ∃ r ∈ table, r.human ∈ prefixes ∧ ∃ v, v.length = r.dataLen ∧ IsBytes v ∧
        base58Encode RealHash.cks v r.human = .ok s :=
  validators_exact RealHash.cks sha256d4_ok prefixes s

-- FIPS 180-4, SHA-256("abc") = ba7816bf 8f01cfea 414140de 5dae2223 b00361a3 96177a9c b410ff61 f20015ad
example : Core.Hash.sha256 [97, 98, 99] =
    [0xba, 0x78, 0x16, 0xbf, 0x8f, 0x01, 0xcf, 0xea, 0x41, 0x41, 0x40, 0xde, 0x5d, 0xae, 0x22, 0x23,
     0xb0, 0x03, 0x61, 0xa3, 0x96, 0x17, 0x7a, 0x9c, 0xb4, 0x10, 0xff, 0x61, 0xf2, 0x00, 0x15, 0xad] := by
  rw [Core.Hash.sha256_eq_nat]
  decide +kernel
-- two-block message (56 bytes "abcdbcde…nopq" of FIPS 180-4): 248d6a61 d20638b8 …
example : (Core.Hash.sha256 [97,98,99,100,98,99,100,101,99,100,101,102,100,101,102,103,101,102,103,104,102,103,104,105,
    103,104,105,106,104,105,106,107,105,106,107,108,106,107,108,109,107,108,109,110,108,109,110,111,109,110,111,112,
    110,111,112,113]).take 8 = [0x24, 0x8d, 0x6a, 0x61, 0xd2, 0x06, 0x38, 0xb8] := by
  rw [Core.Hash.sha256_eq_nat]
  decide +kernel
-- the mainnet chain id `NetXdQprcVkpaWU` = Base58Check of 57 52 00 ‖ 7a06a770, computed by the model itself
example : (base58Encode RealHash.cks [0x7a, 0x06, 0xa7, 0x70] [78, 101, 116]).toOption =
    some [78, 101, 116, 88, 100, 81, 112, 114, 99, 86, 107, 112, 97, 87, 85] := by
  rw [RealHash.cks_eq_nat]
  decide +kernel
-- `tz1eKkWU5hGtfLUiqNpucHrXymm83z3DG9Sq` (test_encoding.py) decodes to its 20-byte hash and encodes back to itself
example : (base58Decode RealHash.cks [116, 122, 49, 101, 75, 107, 87, 85, 53, 104, 71, 116, 102, 76, 85, 105, 113, 78, 112,
    117, 99, 72, 114, 88, 121, 109, 109, 56, 51, 122, 51, 68, 71, 57, 83, 113]).toOption =
    some [204, 245, 100, 165, 160, 189, 177, 92, 61, 189, 248, 77, 104, 218, 202, 195, 225, 249, 104, 163] := by
  rw [RealHash.cks_eq_nat]
  decide +kernel
example : (base58Encode RealHash.cks [204, 245, 100, 165, 160, 189, 177, 92, 61, 189, 248, 77, 104, 218, 202, 195, 225, 249,
    104, 163] [116, 122, 49]).toOption = some [116, 122, 49, 101, 75, 107, 87, 85, 53, 104, 71, 116, 102, 76, 85, 105, 113, 78, 112,
    117, 99, 72, 114, 88, 121, 109, 109, 56, 51, 122, 51, 68, 71, 57, 83, 113] := by
  rw [RealHash.cks_eq_nat]
  decide +kernel
-- the same text with its last character changed (`q` → `r`) fails the real checksum
example : (match base58Decode RealHash.cks [116, 122, 49, 101, 75, 107, 87, 85, 53, 104, 71, 116, 102, 76, 85, 105, 113, 78, 112,
    117, 99, 72, 114, 88, 121, 109, 109, 56, 51, 122, 51, 68, 71, 57, 83, 114] with
    | .error e => some e | .ok _ => none) = some Err.invalidChecksum := by
  rw [RealHash.cks_eq_nat]
  decide +kernel
-- `KT1ExvG3EjTrvDcAU7EqLNb77agPa5u6KvnY` (test_encoding.py): `is_kt` accepts, `is_pkh` rejects
example : (isKind RealHash.cks "is_kt" [75, 84, 49, 69, 120, 118, 71, 51, 69, 106, 84, 114, 118, 68, 99, 65, 85, 55, 69, 113,
      76, 78, 98, 55, 55, 97, 103, 80, 97, 53, 117, 54, 75, 118, 110, 89],
    isKind RealHash.cks "is_pkh" [75, 84, 49, 69, 120, 118, 71, 51, 69, 106, 84, 114, 118, 68, 99, 65, 85, 55, 69, 113,
      76, 78, 98, 55, 55, 97, 103, 80, 97, 53, 117, 54, 75, 118, 110, 89]) = (some true, some false) := by
  rw [RealHash.cks_eq_nat]
  decide +kernel

end C09
