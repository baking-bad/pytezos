import PytezosModel.Proofs.C14Coll
import PytezosModel.Proofs.C14Dict
/-!
# C14 — sets and maps behave like sorted dictionaries under any update history

`Impl.Coll.*` mirrors `SetType` / `MapType` and the UPDATE / GET_AND_UPDATE / GET / MEM / SIZE / MAP / ITER instructions
(src/pytezos/michelson/types/set.py, map.py, instructions/struct.py, control.py); `Spec.Coll.*` is the reference sorted
dictionary (ordered insertion / deletion / search).  Everything is generic in the key type `κ` with its runtime `eq` / `lt`
under the hypothesis `StrictTotal eq lt` — which `C03.tval_strictTotal` proves for the values of every comparable
Michelson type — and is instantiated for `Int` keys below (non-vacuity).
Histories are arbitrary operation lists (induction over the list: every reachable state, no length bound).
-/
namespace C14
open Coll Impl.Coll Spec.Coll

/-- the source still has the shape the mirror was written from -/
theorem source_shapes_recognised : Impl.Coll.shapesOk = true := by decide

variable {κ ν : Type} {eq lt : κ → κ → Bool}

/-- the invariant: keys strictly ascending (sorted, no duplicates) -/
def InvSet (lt : κ → κ → Bool) (s : List κ) : Prop := StrictSorted lt s
def InvMap (lt : κ → κ → Bool) (m : List (κ × ν)) : Prop := StrictSorted lt (keys m)

/-- a literal is accepted iff its keys are strictly ascending; unsorted or duplicate keys are rejected -/
theorem literal_accept_iff (h : StrictTotal eq lt) (ks : List κ) :
    checkConstraints eq lt ks = .ok () ↔ StrictSorted lt ks := checkConstraints_ok_iff h ks

theorem literal_reject_duplicates (h : StrictTotal eq lt) (ks : List κ) :
    checkConstraints eq lt ks = .error .duplicate ↔ ¬ ks.Nodup := checkConstraints_dup_iff h ks

theorem set_literal_inv (h : StrictTotal eq lt) (items s : List κ) (hl : Set.literal eq lt items = .ok s) :
    s = items ∧ InvSet lt s := by
  obtain ⟨rfl, hs⟩ := literal_inv h hl
  exact ⟨rfl, hs⟩

theorem map_literal_inv (h : StrictTotal eq lt) (items m : List (κ × ν)) (hl : Map.literal eq lt items = .ok m) :
    m = items ∧ InvMap lt m := by
  obtain ⟨rfl, hs⟩ := literal_inv h hl
  exact ⟨rfl, hs⟩

theorem map_literal_accept_iff (h : StrictTotal eq lt) (items : List (κ × ν)) :
    Map.literal eq lt items = .ok items ↔ InvMap lt items := by
  unfold Map.literal InvMap
  rw [← checkConstraints_ok_iff h]
  cases hc : checkConstraints eq lt (items.map (·.1)) with
  | ok u => cases u; simp [keys, hc]
  | error e => simp [keys, hc]

/-! ### one step: the invariant is kept, and the step is the reference dictionary's step -/
theorem set_step_refines (h : StrictTotal eq lt) {s : List κ} (hs : InvSet lt s) (op : SetOp κ) :
    Set.step eq lt s op = setStep lt s op := by
  cases op with
  | add k => exact add_eq h hs k
  | remove k => exact remove_eq h hs k

/-- UPDATE on a set (insert / remove) -/
theorem set_step_inv (h : StrictTotal eq lt) {s : List κ} (hs : InvSet lt s) (op : SetOp κ) :
    InvSet lt (Set.step eq lt s op) := by
  rw [set_step_refines h hs op]
  cases op with
  | add k => exact insertKey_strict h k s hs
  | remove k => exact eraseKey_strict h k hs

/-- UPDATE (insert / replace / remove), GET_AND_UPDATE, MAP f, ITER on a map: never fails from a sorted state,
and the new state is the reference dictionary's -/
theorem step_refines_dict (h : StrictTotal eq lt) {m : List (κ × ν)} (hm : InvMap lt m) (op : MapOp κ ν) :
    Map.step eq lt m op = .ok (dictStep lt m op) := by
  cases op with
  | update k v => cases v <;> simp [Map.step, dictStep, update_eq h hm]
  | getAndUpdate k v => cases v <;> simp [Map.step, dictStep, update_eq h hm]
  | mapv f => simp [Map.step, dictStep, mapValues_eq h hm]
  | iter => rfl

theorem step_inv (h : StrictTotal eq lt) {m m' : List (κ × ν)} (hm : InvMap lt m) (op : MapOp κ ν)
    (hs : Map.step eq lt m op = .ok m') : InvMap lt m' := by
  rw [step_refines_dict h hm op] at hs
  cases hs
  exact dictStep_inv h hm op

/-- every state reachable from a sorted set by UPDATEs is sorted and equals the reference's -/
theorem set_history (h : StrictTotal eq lt) (ops : List (SetOp κ)) {s₀ : List κ} (hs : InvSet lt s₀) :
    InvSet lt (ops.foldl (Set.step eq lt) s₀) ∧ ops.foldl (Set.step eq lt) s₀ = ops.foldl (setStep lt) s₀ := by
  induction ops generalizing s₀ with
  | nil => exact ⟨hs, rfl⟩
  | cons op ops ih =>
    rw [List.foldl_cons, List.foldl_cons, set_step_refines h hs op]
    exact ih (set_step_refines h hs op ▸ set_step_inv h hs op)

/-- every history of map operations from a sorted map runs without error, ends in a sorted map, and that map is the
one the reference dictionary computes -/
theorem history_inv (h : StrictTotal eq lt) (ops : List (MapOp κ ν)) {m₀ : List (κ × ν)} (hm : InvMap lt m₀) :
    ∃ m, Map.run eq lt m₀ ops = .ok m ∧ InvMap lt m ∧ m = ops.foldl (dictStep lt) m₀ := by
  induction ops generalizing m₀ with
  | nil => exact ⟨m₀, rfl, hm, rfl⟩
  | cons op ops ih =>
    unfold Map.run
    rw [step_refines_dict h hm op]
    exact ih (dictStep_inv h hm op)

/-- … in particular starting from the empty collection or from any accepted literal -/
theorem history_from_literal (h : StrictTotal eq lt) (items : List (κ × ν)) (ops : List (MapOp κ ν)) {m₀ : List (κ × ν)}
    (hl : Map.literal eq lt items = .ok m₀) :
    ∃ m, Map.run eq lt m₀ ops = .ok m ∧ InvMap lt m :=
  let ⟨m, h1, h2, _⟩ := history_inv h ops (map_literal_inv h items m₀ hl).2
  ⟨m, h1, h2⟩

/-! ### observations agree with the reference -/
/-- MEM on a set -/
theorem obs_set_mem (h : StrictTotal eq lt) {s : List κ} (hs : InvSet lt s) (x : κ) :
    Set.contains eq s x = memKey lt x s := (memKey_eq h x s hs).symm

/-- GET -/
theorem obs_get (h : StrictTotal eq lt) {m : List (κ × ν)} (hm : InvMap lt m) (k : κ) :
    Map.get eq m k = findKV lt k m := get_eq h k m hm

/-- MEM on a map -/
theorem obs_map_mem (h : StrictTotal eq lt) {m : List (κ × ν)} (hm : InvMap lt m) (k : κ) :
    Map.contains eq m k = (findKV lt k m).isSome := by
  unfold Map.contains; rw [get_eq h k m hm]

/-- GET_AND_UPDATE returns the old binding -/
theorem obs_get_and_update (h : StrictTotal eq lt) {m : List (κ × ν)} (hm : InvMap lt m) (k : κ) (v : Option ν) :
    (Map.update eq lt m k v).1 = findKV lt k m := by
  rw [update_eq h hm]

/-- SIZE and the ITER order: the state IS the reference's sorted association list, so its length and order are the
reference's (iteration in strictly ascending key order) -/
theorem obs_size_iter (h : StrictTotal eq lt) (ops : List (MapOp κ ν)) {m₀ m : List (κ × ν)} (hm : InvMap lt m₀)
    (hr : Map.run eq lt m₀ ops = .ok m) :
    size m = (ops.foldl (dictStep lt) m₀).length ∧ iter m = ops.foldl (dictStep lt) m₀ ∧ StrictSorted lt (keys (iter m)) := by
  obtain ⟨m', h1, h2, rfl⟩ := history_inv h ops hm
  cases h1.symm.trans hr
  exact ⟨rfl, rfl, h2⟩

/-- one UPDATE on a sorted set, element-wise: after `add x` the members are `x` and the old ones, after `remove x` the old
ones except `x` -/
theorem obs_set_members (h : StrictTotal eq lt) {s : List κ} (hs : InvSet lt s) (x z : κ) :
    (z ∈ Set.add eq lt s x ↔ z = x ∨ z ∈ s) ∧ (z ∈ Set.remove eq s x ↔ z ∈ s ∧ z ≠ x) := by
  rw [add_eq h hs, remove_eq h hs]
  exact ⟨mem_insertKey_iff h x hs z, mem_eraseKey h x hs z⟩

/-- the dictionary laws, on the implementation: after UPDATE (insert / replace with `some v`, delete with `none`) GET of the
same key gives the new binding, GET of any other key is unchanged -/
theorem get_update_same (h : StrictTotal eq lt) {m : List (κ × ν)} (hm : InvMap lt m) (k : κ) (v : Option ν) :
    Map.get eq (Map.update eq lt m k v).2 k = v := by
  have hs : InvMap lt (Map.update eq lt m k v).2 := by rw [update_eq h hm]; exact update_inv h hm k v
  rw [get_eq h k _ hs, update_eq h hm]
  cases v with
  | none => exact find_eraseKV_same h k m hm
  | some x => exact find_insertKV_same h k x m hm

theorem get_update_other (h : StrictTotal eq lt) {m : List (κ × ν)} (hm : InvMap lt m) (k k' : κ) (v : Option ν)
    (hne : k' ≠ k) : Map.get eq (Map.update eq lt m k v).2 k' = Map.get eq m k' := by
  have hs : InvMap lt (Map.update eq lt m k v).2 := by rw [update_eq h hm]; exact update_inv h hm k v
  rw [get_eq h k' _ hs, get_eq h k' m hm, update_eq h hm]
  cases v with
  | none => exact find_eraseKV_other h k k' hne m hm
  | some x => exact find_insertKV_other h k k' x hne m hm

/-! ### instance: `int` keys (Python ints with `==` and `<`) -/
def intEq (a b : Int) : Bool := a == b
def intLt (a b : Int) : Bool := decide (a < b)

theorem int_strictTotal : StrictTotal intEq intLt where
  eq_iff := by intro a b; simp [intEq]
  irrefl := by intro a; simp [intLt]
  trans := by intro a b c; simp only [intLt, decide_eq_true_eq]; omega
  total := by intro a b; simp only [intLt, decide_eq_true_eq]; omega

/-- for `map int ν`: every history from the empty map is error free and ends sorted -/
theorem int_history (ops : List (MapOp Int ν)) :
    ∃ m, Map.run intEq intLt ([] : List (Int × ν)) ops = .ok m ∧ InvMap intLt m :=
  let ⟨m, h1, h2, _⟩ := history_inv int_strictTotal ops (m₀ := []) List.Pairwise.nil
  ⟨m, h1, h2⟩

-- non-vacuity: concrete histories
example : Map.run intEq intLt ([] : List (Int × Int))
    [.update 3 (some 30), .update 1 (some 10), .update 2 (some 20), .update 1 none, .mapv (fun k v => v + k), .update 3 (some 0)]
    = .ok [(2, 22), (3, 0)] := by rfl
example : [SetOp.add 3, .add 1, .add 2, .add 1, .remove 3].foldl (Set.step intEq intLt) [] = [1, 2] := by decide
example : checkConstraints intEq intLt [1, 3, 2] = .error .unsorted := by rfl
example : checkConstraints intEq intLt [1, 2, 2] = .error .duplicate := by rfl
example : checkConstraints intEq intLt [1, 2, 5] = .ok () := by rfl

end C14
