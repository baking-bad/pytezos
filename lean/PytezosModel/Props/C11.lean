import PytezosModel.Proofs.C11Comb
import PytezosModel.Proofs.C11Clock
/-! C11 — typed values round-trip through readable / optimized / legacy-optimized Micheline.

`Impl.Value.toMich env mode lz v` mirrors `v.to_micheline_value(mode, lazy_diff = lz)`, `Impl.Value.ofMich env τ m`
mirrors `τ.from_micheline_value(m)` (src/pytezos/michelson/types/*.py), instantiated with what the translator reads
from the source (`Generated.C11`).  `env : Env` carries what other properties / libraries own, with their laws as the hypothesis
`env.Lawful`: base58 text and optimized bytes of structured domain values (C09 / C10), RFC 3339 formatting and
parsing on 0001-01-01 … 9999-12-31 (`datetime`, `strict_rfc3339`), `check_constraints` (C03's order) and the
normalisation of lambda bodies by `Micheline.match`.

The RFC 3339 part is not only a hypothesis: `Civil.fmtTimestamp` / `Civil.parseTimestamp`
(`Michelson/CivilDate.lean`) mirror `format_timestamp` and `strict_rfc3339.rfc3339_to_timestamp` over an executable
proleptic-Gregorian date algorithm, and the law is PROVED for them for every `t` of the range (`clock_parse_fmt`,
`clock_days_civil_days`, `clock_civil_days_civil`, `rfc3339_law_concrete`, `timestamp_roundtrip_concrete`,
`ofMich_toMich_concrete`), beside the statements over every lawful `env`.

Full statement (properties.jsonl): for every type and value, rendering in any of the three modes and parsing back at
the same type yields an equal value, including every timestamp (outside years 1000–9999 too; Tezos renders those as
integers).  Proved at full strength for all types and values (induction on the typing derivation `Typed`; no bound on
depth, comb length, collection size or integer magnitude).  The only side conditions are the ones under which the *call* keeps
the information (`faithful`): `lazy_diff` must select the part of a big_map / sapling_state that is present, and a
typed 64-byte signature comes back with the generic `sig` prefix from the optimized forms (same bytes; separate
theorem `signature_optimized`). -/
namespace C11
open VC Impl.Value Spec.Value

/-- the source has the repaired timestamp rendering: a range guard equal to the range on which `datetime` and
`strict_rfc3339` agree, and a zero-padded year -/
theorem source_repaired :
    Generated.C11.tsGuard = some (some (rfcLo, rfcHi)) ∧ Generated.C11.yearPadded = some true ∧ sourceOk = true := by
  decide

/-- **round trip**, all types, all values, each mode, each `lazy_diff` argument -/
theorem ofMich_toMich (env : Env) (hl : env.Lawful) (τ : Ty) (v : Val) (mode : Mode) (lz : Option Bool)
    (hty : hasTy env τ v = true) (hf : faithful mode lz τ v = true) :
    ∃ m, toMich env mode lz v = .ok m ∧ ofMich env τ m = .ok v :=
  have h := typed_of_hasTy τ v hty
  ⟨_, toMich_typed mode h lz hf, ofMich_render hl mode h lz hf⟩

/-- for types without signature / big_map / sapling_state there is no side condition on the call at all -/
theorem ofMich_toMich_plain (env : Env) (hl : env.Lawful) (τ : Ty) (v : Val) (hp : plainTy τ = true)
    (hty : hasTy env τ v = true) (mode : Mode) (lz : Option Bool) :
    ∃ m, toMich env mode lz v = .ok m ∧ ofMich env τ m = .ok v :=
  ofMich_toMich env hl τ v mode lz hty (faithful_of_plain mode (typed_of_hasTy τ v hty) hp lz)

/-- **combs, Impl = Spec**: the comb of `a, b, rest…` (any length ≥ 2) renders as the reference layout of its rendered
components: readable = flat `Pair`, optimized = `Pair a b` / `Pair a (Pair b c)` / sequence from length 4,
legacy optimized = right-nested pairs.  (`combVal` builds the inner pairs unannotated; `named` is the outer class.) -/
theorem comb_layout (env : Env) (mode : Mode) (lz : Option Bool) (named : Bool) (a b : Val) (rest : List Val)
    (h : lastNotFlat b rest = true) :
    (render env mode lz (combVal named a b rest)).1 =
      combLayout mode (render env mode lz a).1 (render env mode lz b).1 (rest.map fun x => (render env mode lz x).1) := by
  rw [render_comb env mode lz rest named a b h]

/-- **`fromComb_toComb`**: every comb length, each of the three layouts parses back to the comb -/
theorem fromComb_toComb (env : Env) (hl : env.Lawful) (τ : Ty) (mode : Mode) (lz : Option Bool)
    (named : Bool) (a b : Val) (rest : List Val) (h : lastNotFlat b rest = true)
    (hty : hasTy env τ (combVal named a b rest) = true) (hf : faithful mode lz τ (combVal named a b rest) = true) :
    ofMich env τ (combLayout mode (render env mode lz a).1 (render env mode lz b).1
        (rest.map fun x => (render env mode lz x).1)) = .ok (combVal named a b rest) := by
  rw [← comb_layout env mode lz named a b rest h]
  exact ofMich_render hl mode (typed_of_hasTy τ _ hty) lz hf

/-- the sequence form and the flat `Pair` form of a pair's `iter_comb` items are accepted in *every* mode
(what Tezos' typed parser accepts as well) -/
theorem comb_forms_accepted (env : Env) (hl : env.Lawful) (τ : Ty) (mode : Mode) (lz : Option Bool) (n : Bool) (a b : Val)
    (hty : hasTy env τ (.pair n a b) = true) (hf : faithful mode lz τ (.pair n a b) = true) :
    ofMich env τ (.seq (render env mode lz (.pair n a b)).2) = .ok (.pair n a b) ∧
    ofMich env τ (pairOf (render env mode lz (.pair n a b)).2) = .ok (.pair n a b) := by
  have ht := typed_of_hasTy τ _ hty
  have hs := ((rt env hl mode ht lz hf).2 n a b rfl).1
  rw [ofMich_eq, ofMich_eq]
  -- only a pair class has pair values, and its reader takes the `Pair` for the sequence
  obtain ⟨l, r, a', rfl⟩ : ∃ l r a', τ = .pair l r a' := by cases ht; exact ⟨_, _, _, rfl⟩
  exact ⟨hs, (pairOfMich_pairOf ..).trans hs⟩

/-- every timestamp (`t : Int`, no range restriction) round-trips in every mode … -/
theorem timestamp_roundtrip (env : Env) (hl : env.Lawful) (t : Int) (a : Annot) (mode : Mode) (lz : Option Bool) :
    ∃ m, toMich env mode lz (.timestamp t) = .ok m ∧ ofMich env (.leaf .timestamp a) m = .ok (.timestamp t) :=
  ofMich_toMich_plain env hl _ _ rfl rfl mode lz

/-- … and outside 0001-01-01 … 9999-12-31 the readable form is the integer, as in Tezos -/
theorem timestamp_int_outside (env : Env) (t : Int) (lz : Option Bool) (h : t < rfcLo ∨ rfcHi < t) :
    toMich env .readable lz (.timestamp t) = .ok (.int t) := by
  rw [toMich_timestamp, tsToMich, if_pos rfl, if_neg fun hg => by have := (inGuard_iff t).1 hg; omega]

/-- inside that range it is the RFC 3339 string -/
theorem timestamp_string_inside (env : Env) (t : Int) (lz : Option Bool) (h1 : rfcLo ≤ t) (h2 : t ≤ rfcHi) :
    toMich env .readable lz (.timestamp t) = .ok (.str (env.fmtTs t)) := by
  rw [toMich_timestamp, tsToMich, if_pos rfl, if_pos ((inGuard_iff t).2 ⟨h1, h2⟩)]

/-- optimized forms name a signature by its length only: the value that comes back carries the generic prefix
(`sig`, or `BLsig` for 96 bytes) and the same payload -/
theorem signature_optimized (env : Env) (hl : env.Lawful) (d : DomVal) (a : Annot) (mode : Mode) (lz : Option Bool)
    (hv : env.valid .signature d = true) (hm : mode ≠ .readable) :
    ∃ m, toMich env mode lz (.dom .signature d) = .ok m ∧
      ofMich env (.leaf (.dom .signature) a) m = .ok (.dom .signature (binNorm .signature d)) := by
  refine ⟨.bytes (env.bin .signature d), ?_, ?_⟩
  · rw [toMich_of_not_raises rfl]
    exact congrArg _ (if_neg hm)
  · simp [ofMich_eq, ofMichCore, leafOfMich, domOfMich, (lit_dom .signature).1, hl.bin_rt _ d hv]

/-- a big_map literal rendered with the default `lazy_diff=False` raises (`Big_map id is not defined`): the error
branch of the mirror, not totalised away -/
theorem bigmap_literal_default_raises (env : Env) (mode : Mode) (kvs : List (Val × Val)) :
    toMich env mode (some false) (.bigMap none kvs) = .error .noId :=
  rfl

/-- a node `prim args` that carries an annotation is a value of NO type: `Unit %a`, `Right :t 5`, `Pair %x 1 2`,
`Some @v 1` … (the classes with constructors go through `parse_micheline_value` / `PairType.from_micheline_value`,
which assert `not annots`; every other class wants a literal or a sequence) -/
theorem annotated_constructor_rejected (env : Env) (τ : Ty) (p : String) (args : List Mich) (an : String) (ans : List String) :
    ∃ e, ofMich env τ (.prim p args (an :: ans)) = .error e := by
  -- only the two pair readers look at `p` before they fail
  cases τ with
  | leaf l a => cases l <;> exact ⟨_, rfl⟩
  | option t a | or l r a => rcases args with _ | ⟨x, _ | ⟨y, rest⟩⟩ <;> exact ⟨_, rfl⟩
  | pair l r a | ticket t a => simp [ofMich_eq, ofMichCore, pairOfMich]
  | _ => exact ⟨_, rfl⟩

/-- … nor is a map / big_map literal with an annotated `Elt` anywhere in it a value (here: at the head; `mapElts`
walks the items in order and stops at the first failure) -/
theorem annotated_elt_rejected (env : Env) (k v : Ty) (a : Annot) (p : String) (mk mv : Mich) (an : String)
    (ans : List String) (xs : List Mich) :
    ofMich env (.map k v a) (.seq (.prim p [mk, mv] (an :: ans) :: xs)) = .error .shape ∧
    ofMich env (.bigMap k v a) (.seq (.prim p [mk, mv] (an :: ans) :: xs)) = .error .shape := by
  exact ⟨rfl, rfl⟩

/-- `Pair x1 x2 x3 …` / `{x1; x2; x3; …}` is a value of `pair a b` only when `b` is a pair type: over a list, set,
map, option, … on the right it is rejected (before 1138dca the right component took the remaining arguments as its
own elements: `Pair 1 2 3 : pair int (list int)` was read as `(1, [2; 3])`) -/
theorem nary_over_nonpair_rejected (env : Env) (l r : Ty) (a : Annot) (x y z : Mich) (rest : List Mich)
    (h : r.isPair = false) :
    ofMich env (.pair l r a) (pairOf (x :: y :: z :: rest)) = .error .shape ∧
    ofMich env (.pair l r a) (.seq (x :: y :: z :: rest)) = .error .shape := by
  have := pairOfMich_many_nonpair a.named (ofMichCore env l) (ofMichCore env r) x y z rest
  simp [ofMich_eq, ofMichCore, h, pairOfMich_pairOf, this]

/-- a string with a character other than printable ASCII and newline is not a value of `string` (45078c3) -/
theorem nonprintable_string_rejected (env : Env) (a : Annot) (s : String) (h : asciiOnly s = false) :
    ofMich env (.leaf .string a) (.str s) = .error .value := by
  simp [ofMich_eq, ofMichCore, leafOfMich, lit_ok, h]

/-- tab, 0x01, DEL and `é` are refused; a newline, a space and `~` are fine -/
example : asciiOnly "a\tb" = false ∧ asciiOnly "\x01" = false ∧ asciiOnly "\x7f" = false ∧ asciiOnly "é" = false ∧
    asciiOnly "a\nb" = true ∧ asciiOnly " ~" = true ∧ asciiOnly "" = true := by decide

/-- **days → date → days**, every integer day number (no bound) -/
theorem clock_days_civil_days (z : Int) :
    Civil.daysFromCivil (Civil.civilFromDays z).1 (Civil.civilFromDays z).2.1 (Civil.civilFromDays z).2.2 = z :=
  Civil.daysFromCivil_civilFromDays z

/-- the date computed for a day number is a date of the proleptic Gregorian calendar
(`1 ≤ m ≤ 12`, `1 ≤ d ≤ monthLen y m` with the 4 / 100 / 400 leap rule) -/
theorem clock_civil_valid (z : Int) :
    Civil.validDate (Civil.civilFromDays z).1 (Civil.civilFromDays z).2.1 (Civil.civilFromDays z).2.2 :=
  Civil.civilFromDays_valid z

/-- **date → days → date**, every date of the calendar in any year (no bound) -/
theorem clock_civil_days_civil (y m d : Int) (h : Civil.validDate y m d) :
    Civil.civilFromDays (Civil.daysFromCivil y m d) = (y, m, d) :=
  Civil.civilFromDays_daysFromCivil y m d h

/-- the supported instants lie in the years 1 … 9999 -/
theorem clock_year_range (t : Int) (h0 : rfcLo ≤ t) (h1 : t ≤ rfcHi) :
    1 ≤ (Civil.civilFromDays (t / 86400)).1 ∧ (Civil.civilFromDays (t / 86400)).1 ≤ 9999 :=
  Civil.civilFromDays_year_range t h0 h1

/-- **headline**: the mirror of `strict_rfc3339.rfc3339_to_timestamp` applied to the mirror of `format_timestamp`
gives the instant back, for EVERY `t` with 0001-01-01T00:00:00Z ≤ t ≤ 9999-12-31T23:59:59Z (no other bound) -/
theorem clock_parse_fmt (t : Int) (h0 : rfcLo ≤ t) (h1 : t ≤ rfcHi) :
    ∃ s, Civil.fmtTimestamp true t = some s ∧ Civil.parseTimestamp s = some t :=
  Civil.parse_fmt t h0 h1

/-- … and outside that range `format_timestamp` raises (the error branch, not totalised away) -/
theorem clock_fmt_raises_outside (padded : Bool) (t : Int) :
    Civil.fmtTimestamp padded t = none ↔ t < rfcLo ∨ rfcHi < t :=
  Civil.fmtTimestamp_eq_none_iff padded t

/-- the `ts_rt` component of `Env.Lawful` for the driver's environment — a theorem, no hypothesis -/
theorem rfc3339_law_concrete (t : Int) (h0 : rfcLo ≤ t) (h1 : t ≤ rfcHi) :
    Inst.env.parseTs (Inst.env.fmtTs t) = some t :=
  Inst.clock_rt t h0 h1

/-- **timestamps, concretely**: every `t : Int`, every mode, any environment carrying the concrete clock (in
particular the driver's, `Inst.env`) — no RFC 3339 hypothesis, no `Lawful` hypothesis at all.  In readable mode the
rendering is the 20-character text `YYYY-MM-DDTHH:MM:SSZ` inside the range and the integer outside (as in Tezos) -/
theorem timestamp_roundtrip_concrete (env : Env) (t : Int) (a : Annot) (mode : Mode) (lz : Option Bool) :
    ∃ m, toMich (Inst.withCivilClock env) mode lz (.timestamp t) = .ok m ∧
      ofMich (Inst.withCivilClock env) (.leaf .timestamp a) m = .ok (.timestamp t) ∧
      (mode = .readable →
        (rfcLo ≤ t ∧ t ≤ rfcHi → ∃ cs, Civil.fmtTimestamp true t = some cs ∧ cs.length = 20 ∧ m = .str (String.ofList cs)) ∧
        (t < rfcLo ∨ rfcHi < t → m = .int t)) ∧
      (mode ≠ .readable → m = .int t) := by
  refine ⟨_, toMich_timestamp _ mode lz t, (ofMich_eq _ _ _).trans (tsToMich_rt _ Inst.clock_rt mode a t), ?_, fun hm => if_neg hm⟩
  rintro rfl
  refine ⟨fun hr => ?_, fun h => Except.ok.inj ((toMich_timestamp _ _ lz t).symm.trans (timestamp_int_outside _ t lz h))⟩
  obtain ⟨cs, hcs, _⟩ := Civil.parse_fmt t hr.1 hr.2
  refine ⟨cs, hcs, Civil.fmtTimestamp_length t cs hcs, ?_⟩
  rw [tsToMich, if_pos rfl, if_pos ((inGuard_iff t).2 hr)]
  exact congrArg _ (Inst.fmtTs_eq t cs hcs)

/-- the driver's environment carries the concrete clock (`Inst.env_eq_withCivilClock`, by `rfl`): this and
`ofMich_toMich_driver` are instances of the `_concrete` theorems -/
theorem timestamp_roundtrip_driver (t : Int) (a : Annot) (mode : Mode) (lz : Option Bool) :
    ∃ m, toMich Inst.env mode lz (.timestamp t) = .ok m ∧ ofMich Inst.env (.leaf .timestamp a) m = .ok (.timestamp t) := by
  obtain ⟨m, h1, h2, _⟩ := timestamp_roundtrip_concrete Inst.env t a mode lz
  exact ⟨m, h1, h2⟩

/-- **`ofMich_toMich` with the concrete clock**: all types, all values, each mode, each `lazy_diff`; the hypothesis is
`env.LawfulCodecs` — base58 text / optimized bytes (C09, C10) and lambda normalisation only, NO RFC 3339 contract -/
theorem ofMich_toMich_concrete (env : Env) (hc : env.LawfulCodecs) (τ : Ty) (v : Val) (mode : Mode) (lz : Option Bool)
    (hty : hasTy (Inst.withCivilClock env) τ v = true) (hf : faithful mode lz τ v = true) :
    ∃ m, toMich (Inst.withCivilClock env) mode lz v = .ok m ∧ ofMich (Inst.withCivilClock env) τ m = .ok v :=
  ofMich_toMich _ (Inst.withCivilClock_lawful env hc) τ v mode lz hty hf

theorem ofMich_toMich_driver (hc : Inst.env.LawfulCodecs) (τ : Ty) (v : Val) (mode : Mode) (lz : Option Bool)
    (hty : hasTy Inst.env τ v = true) (hf : faithful mode lz τ v = true) :
    ∃ m, toMich Inst.env mode lz v = .ok m ∧ ofMich Inst.env τ m = .ok v :=
  ofMich_toMich_concrete Inst.env hc τ v mode lz hty hf

/-- a lawful environment exists (toy codecs; the real ones are the subject of C09 / C10 / `datetime`) -/
def toyEnv : Env where
  valid := fun _ _ => false
  text := fun _ _ => ""
  ofText := fun _ _ => none
  bin := fun _ _ => []
  ofBin := fun _ _ => none
  fmtTs := fun t => String.ofList (List.replicate (t - rfcLo).toNat 'x')
  parseTs := fun s => some (rfcLo + (s.length : Int))
  keysOk := fun _ _ => true
  normLambda := fun c => some c
  lambdaOk := fun _ => true

theorem toyEnv_lawful : toyEnv.Lawful where
  text_rt := nofun
  bin_rt := nofun
  ts_rt := by
    intro t h1 h2
    simp only [toyEnv, String.length_ofList, List.length_replicate, Option.some.injEq]
    omega
  lambda_rt := fun _ _ => rfl

/-- `Pair 1 2 3` at `pair int (list int)` is rejected, `Pair 1 {2; 3}` is the value, and at `pair int (pair int int)`
the flat form is accepted; `Unit %a` is not a value of `unit`, `Unit` is -/
example :
    ofMich toyEnv (.pair (.leaf .int {}) (.list (.leaf .int {}) {}) {}) (pairOf [.int 1, .int 2, .int 3]) = .error .shape ∧
    ofMich toyEnv (.pair (.leaf .int {}) (.list (.leaf .int {}) {}) {}) (pairOf [.int 1, .seq [.int 2, .int 3]])
      = .ok (.pair false (.int 1) (.list [.int 2, .int 3])) ∧
    ofMich toyEnv (.pair (.leaf .int {}) (.pair (.leaf .int {}) (.leaf .int {}) {}) {}) (pairOf [.int 1, .int 2, .int 3])
      = .ok (.pair false (.int 1) (.pair false (.int 2) (.int 3))) ∧
    ofMich toyEnv (.leaf .unit {}) (.prim "Unit" [] ["%a"]) = .error .shape ∧
    ofMich toyEnv (.leaf .unit {}) (.prim "Unit" [] []) = .ok .unit :=
  ⟨rfl, rfl, rfl, rfl, rfl⟩

/-- a 5-comb with an annotated outer pair, a list, an option and a map inside, all three modes at once -/
example (env : Env) (hl : env.Lawful) (mode : Mode) :
    let τ : Ty := .pair (.leaf .nat {}) (.pair (.list (.leaf .int {}) {}) (.pair (.option (.leaf .string {}) {})
      (.pair (.leaf .timestamp {}) (.leaf .bool {}) {}) {}) {}) { field := some "store" }
    let v : Val := combVal true (.int 7) (.list [.int (-3), .int (2 ^ 4096)]) [.some (.str "abc"), .timestamp (-99999999999), .bool true]
    hasTy env τ v = true ∧ ∃ m, toMich env mode none v = .ok m ∧ ofMich env τ m = .ok v := by
  exact ⟨rfl, ofMich_toMich_plain env hl _ _ rfl rfl mode none⟩

example : ∃ m, toMich toyEnv .readable none (.timestamp (-62135596801)) = .ok m ∧ m.beq (.int (-62135596801)) = true :=
  ⟨_, timestamp_int_outside toyEnv _ none (.inl (by decide)), by decide⟩

/-- the concrete clock on boundary instants (kernel-evaluated): first and last supported second, the last second of
a leap-century February, the second before the epoch -/
example : Civil.fmtTimestamp true (-62135596800) = some "0001-01-01T00:00:00Z".toList ∧
    Civil.fmtTimestamp true 253402300799 = some "9999-12-31T23:59:59Z".toList ∧
    Civil.fmtTimestamp true 951868799 = some "2000-02-29T23:59:59Z".toList ∧
    Civil.fmtTimestamp true (-2203891201) = some "1900-02-28T23:59:59Z".toList ∧
    Civil.fmtTimestamp true (-1) = some "1969-12-31T23:59:59Z".toList ∧
    Civil.fmtTimestamp true (-62135596801) = none ∧ Civil.fmtTimestamp true 253402300800 = none := by decide +kernel

example : Civil.parseTimestamp "1969-12-31T23:59:59Z".toList = some (-1) ∧
    Civil.parseTimestamp "2000-02-29T00:00:00+01:00".toList = some 951778800 ∧
    Civil.parseTimestamp "1900-02-29T00:00:00Z".toList = none ∧
    Civil.parseTimestamp "0000-12-31T23:59:59Z".toList = none ∧
    Civil.parseTimestamp "1970-01-01t00:00:00z".toList = none ∧
    Civil.parseTimestamp "1969-12-31T23:59:59.5Z".toList = some 0 ∧
    Civil.parseTimestamp "1970-01-01T00:00:00Z\n".toList = some 0 := by decide +kernel

/-- the codec-only hypothesis is satisfiable, and the concrete theorem applies to a value with timestamps on both
sides of both range ends -/
theorem toyEnv_lawfulCodecs : toyEnv.LawfulCodecs where
  text_rt := toyEnv_lawful.text_rt
  bin_rt := toyEnv_lawful.bin_rt
  lambda_rt := toyEnv_lawful.lambda_rt

example (mode : Mode) :
    let τ : Ty := .list (.leaf .timestamp {}) {}
    let v : Val := .list [.timestamp (-62135596801), .timestamp (-62135596800), .timestamp (-1), .timestamp 253402300799,
      .timestamp 253402300800]
    ∃ m, toMich (Inst.withCivilClock toyEnv) mode none v = .ok m ∧ ofMich (Inst.withCivilClock toyEnv) τ m = .ok v := by
  intro τ v
  exact ofMich_toMich_concrete toyEnv toyEnv_lawfulCodecs τ v mode none rfl rfl

end C11
