import PytezosModel.Proofs.KeySign
import PytezosModel.Proofs.KeyToy
import PytezosModel.Proofs.OpSign
/-! C23 — operation groups from any account kind are signed and hashed per protocol.

Full statement (properties.jsonl): for every operation group and every source key kind (tz1–tz4), signing
succeeds and produces a signature that verifies over the watermarked forged bytes: 0x03 for non-consensus
operations, 0x02 plus the chain id for consensus operations.  The group hash is the base58 "o" encoding of
Blake2b-256 over the forged bytes followed by the raw signature.

Proved here, for **all** groups, keys of the four curves and chain ids: the logic of `OperationGroup.sign`,
`binary_payload` and `hash` (`Impl.OpSign`, instantiated with `validation_passes` and the watermark bytes the
translator reads from the source on every run) composed with the mirror of `Key.sign(generic=True)` / `Key.verify`
(C07).  The forged bytes are an arbitrary byte string (forging is property C06); primitives and Base58Check are
parameters with the contracts `Laws` / `CodecLaws` exactly as in C07 — **partial** in the same sense: that the
libraries satisfy the contracts is sampled by the harness (independent verifier, hashlib), not proved. -/
namespace C23
open Impl.Key Impl.OpSign

/-- the consensus operations of the protocol table this client knows (validation pass 0) -/
def Spec.consensusKinds : List String := ["endorsement", "endorsement_with_slot"]

/-- the regenerated `validation_passes` puts exactly the consensus kinds in pass 0, and the two watermark
bytes are 0x02 / 0x03 -/
theorem pass_table :
    (∀ row ∈ (Generated.C23.validationPasses.getD []), (row.2 = 0 ↔ row.1 ∈ Spec.consensusKinds)) ∧
    (∀ k ∈ Spec.consensusKinds, pass k = some 0) ∧
    Generated.C23.signWatermarks = some (2, 3) := by
  decide

theorem anyOtherPass_same (p : Int) (ks : List String) (h : ∀ k ∈ ks, pass k = some p) :
    anyOtherPass p ks = .ok false := by
  rw [anyOtherPass_eq p ks fun k hk => ⟨p, h k hk⟩]
  congr 1
  simpa using h

theorem anyOtherPass_mixed (p : Int) (ks : List String) (hknown : ∀ k ∈ ks, ∃ q, pass k = some q)
    (hmix : ∃ k ∈ ks, pass k ≠ some p) : anyOtherPass p ks = .ok true := by
  rw [anyOtherPass_eq p ks hknown]
  congr 1
  simpa using hmix

/-- **watermark**: a group whose contents all have validation pass `p` is signed over `0x03 ++ forged bytes`
when `p ≠ 0`, and over `0x02 ++ chain id ++ forged bytes` when `p = 0` (consensus operations), the chain id
being the Base58-decoded `chain_id` (undefined chain id: 'Chain ID is undefined'). -/
theorem watermark_spec (C : Codec) (g : Group) (p : Int) (hne : g.kinds ≠ [])
    (hall : ∀ k ∈ g.kinds, pass k = some p) :
    watermark C g =
      if p = 0 then
        match g.chainId with
        | none => .error (.valueError .chainUndefined)
        | some cid =>
          match C.decode cid with
          | none => .error (.valueError .codec)
          | some raw => .ok (2 :: raw)
      else .ok [3] := by
  obtain ⟨k0, ks, hk⟩ := List.exists_cons_of_ne_nil hne
  have hany : g.kinds.any (fun k => pass k != some p) = false := by simpa using hall
  rw [watermark_known C g k0 ks hk (fun k hk' => ⟨p, hall k hk'⟩) p (hall k0 (by simp [hk])), hany]
  rfl

/-- in particular: consensus kinds get `0x02 ++ chain id`, … -/
theorem watermark_consensus (C : Codec) (g : Group) (hne : g.kinds ≠ [])
    (hall : ∀ k ∈ g.kinds, k ∈ Spec.consensusKinds) (cid raw : Bytes) (hc : g.chainId = some cid)
    (hd : C.decode cid = some raw) : watermark C g = .ok (2 :: raw) := by
  rw [watermark_spec C g 0 hne (fun k hk => pass_table.2.1 k (hall k hk))]
  simp [hc, hd]

/-- … every other known kind gets `0x03` when the group is not mixed -/
theorem watermark_other (C : Codec) (g : Group) (p : Int) (hne : g.kinds ≠ []) (hp : p ≠ 0)
    (hall : ∀ k ∈ g.kinds, pass k = some p) : watermark C g = .ok [3] := by
  rw [watermark_spec C g p hne hall]; simp [hp]

/-- groups mixing validation passes are refused ('Mixed validation passes') -/
theorem watermark_mixed (C : Codec) (g : Group) (hknown : ∀ k ∈ g.kinds, ∃ q, pass k = some q)
    (k1 k2 : String) (h1 : k1 ∈ g.kinds) (h2 : k2 ∈ g.kinds) (hne : pass k1 ≠ pass k2) :
    watermark C g = .error (.valueError .mixedPasses) := by
  obtain ⟨k0, ks, hk⟩ := List.exists_cons_of_ne_nil (List.ne_nil_of_mem h1)
  obtain ⟨p0, h0⟩ := hknown k0 (by simp [hk])
  -- one of the two differs from the pass of the first content
  have hany : g.kinds.any (fun k => pass k != some p0) = true := by
    rw [List.any_eq_true]
    by_cases ha : pass k1 = some p0
    · exact ⟨k2, h2, by simpa using fun hb => hne (ha.trans hb.symm)⟩
    · exact ⟨k1, h1, by simpa using ha⟩
  rw [watermark_known C g k0 ks hk hknown p0 h0, hany]
  rfl

/-- **signing verifies**, all four curves: for a valid key of any curve and a group with watermark `w`,
`OperationGroup.sign` succeeds and `Key.verify` accepts the signature over `w ++ forged bytes`; the signature
text is `sig…` or `<curve>sig…` and decodes to the raw signature (64 bytes, 96 for BLS) the curve's primitive
makes over Blake2b-256 of that message (BLS: over the message). -/
theorem group_sign_verifies (P : Prims) (C : Codec) (L : Laws P) (CL : CodecLaws C sigRows)
    (k : Key) (hk : ValidKey P k) (g : Group) (w : Bytes) (hw : watermark C g = .ok w) :
    ∃ s raw, signGroup P C k g = .ok s ∧
      verify P C k (.str s) (.bytes (w ++ g.forged)) = .ok true ∧
      C.decode s = some raw ∧ raw.length = sigLen k.curve ∧
      (∃ sk, k.sec = some sk ∧
        P.sign k.curve sk (if k.curve = .bl then w ++ g.forged else P.blake2b 32 (w ++ g.forged)) = some raw) := by
  obtain ⟨s, _, raw, h⟩ :=
    sign_verify_core P C L CL k hk (.bytes (w ++ g.forged)) (w ++ g.forged) (scrub_bytes _) true
  refine ⟨s, raw, ?_, h.verifies, h.decodes, h.length, h.primitive⟩
  simp [signGroup, message, hw, h.signs]

/-- **hash formula**: the hash of the signed group is the Base58 `o` encoding of Blake2b-256 over the forged
bytes followed by the raw signature (64 or 96 bytes) -/
theorem hash_formula (P : Prims) (C : Codec) (L : Laws P) (CL : CodecLaws C sigRows)
    (k : Key) (hk : ValidKey P k) (g : Group) (w : Bytes) (hw : watermark C g = .ok w) :
    ∃ s raw, signGroup P C k g = .ok s ∧ C.decode s = some raw ∧ raw.length = sigLen k.curve ∧
      binaryPayload C g (some s) = .ok (g.forged ++ raw) ∧
      opHash P C g (some s) = orErr (C.encode (P.blake2b 32 (g.forged ++ raw)) tagO) (.valueError .codec) := by
  obtain ⟨s, pfx, raw, h⟩ :=
    sign_verify_core P C L CL k hk (.bytes (w ++ g.forged)) (w ++ g.forged) (scrub_bytes _) true
  obtain ⟨t, hpre⟩ := h.starts
  have hform := h.form
  have hdec := h.decodes
  have hlen := h.length
  have h1 : signGroup P C k g = .ok s := by simp [signGroup, message, hw, h.signs]
  have hrec : Generated.C23.hashRecognised = true := by decide
  -- the text starts with `sig` or `<curve>sig`, so it is not empty
  have hne : s.isEmpty = false := by
    subst hpre
    rcases hform with rfl | rfl
    · rfl
    · cases k.curve <;> rfl
  have hbp : binaryPayload C g (some s) = .ok (g.forged ++ raw) := by
    simp [binaryPayload, hrec, hne, hdec]
  exact ⟨s, raw, h1, hdec, hlen, hbp, by simp [opHash, hbp]⟩

/-- with the codec law for the `o` kind the hash is a 51-character text starting with `o` that decodes back
to the 32-byte digest -/
theorem hash_is_operation_hash (P : Prims) (C : Codec) (L : Laws P) (CLo : CodecLaws C hashRows)
    (g : Group) (s : Str) (bp : Bytes) (hbp : binaryPayload C g (some s) = .ok bp) :
    ∃ h, opHash P C g (some s) = .ok h ∧ C.decode h = some (P.blake2b 32 bp) ∧ h.length = 51 ∧ tagO <+: h := by
  have hrow : (⟨[111], 51, [5, 116], 32⟩ : Row) ∈ hashRows := by decide
  obtain ⟨hl, hb⟩ := L.blake_len 32 bp
  obtain ⟨h, henc, hdec, hlen, hpre, _⟩ := CLo.enc_dec _ hrow (P.blake2b 32 bp) hl hb
  exact ⟨h, by simp [opHash, hbp, tagO, henc], hdec, hlen, hpre⟩

def exGroup : Group := ⟨["transaction", "reveal"], some [78], [1, 2, 3]⟩
def exConsensus : Group := ⟨["endorsement"], none, [9]⟩

example : watermark Toy.codec exGroup = .ok [3] :=
  watermark_other Toy.codec exGroup 3 (by decide) (by decide) (by decide)
example : watermark Toy.codec exConsensus = .error (.valueError .chainUndefined) := by
  rw [watermark_spec Toy.codec exConsensus 0 (by decide) (by decide)]; rfl
example : watermark Toy.codec ⟨["transaction", "ballot"], none, []⟩ = .error (.valueError .mixedPasses) :=
  watermark_mixed Toy.codec _ (by intro k hk; simp at hk; rcases hk with rfl | rfl <;> exact ⟨_, rfl⟩)
    "transaction" "ballot" (by decide) (by decide) (by decide)
-- a tz4 (BLS) source signs and the signature verifies
example : ∃ s, signGroup Toy.prims Toy.codec Toy.keyBl exGroup = .ok s ∧
    verify Toy.prims Toy.codec Toy.keyBl (.str s) (.bytes ([3] ++ exGroup.forged)) = .ok true := by
  obtain ⟨s, _, h1, h2, _⟩ := group_sign_verifies Toy.prims Toy.codec Toy.laws Toy.codec_laws_sig Toy.keyBl
    Toy.keyBl_valid exGroup [3] (watermark_other Toy.codec exGroup 3 (by decide) (by decide) (by decide))
  exact ⟨s, h1, h2⟩

end C23
