import PytezosModel.Proofs.C32
/-! C32 — a view definition is accepted by `ViewSection.create_type` exactly when Tezos' view rules accept it:
name of at most 31 characters from letters, digits and `_.%@`; no SELF anywhere; TRANSFER_TOKENS / CREATE_CONTRACT /
SET_DELEGATE only inside a lambda body (LAMBDA, LAMBDA_REC, or the value of a PUSH whose type mentions `lambda`).
All names (lists of code points of any length) and all code trees (structural induction, the `lambda_` flag
generalised). -/
namespace C32
open Impl.View Spec.View Generated.C32 Proofs.C32

/-- the tables extracted from the source are these -/
theorem source_shape : codeShape = some S0 ∧ nameShape = some N0 := by decide

/-- the name checks accept exactly the names of ≤ 31 allowed characters (any length, any code points) -/
theorem name_iff (name : List Nat) : checkName N0 name = .ok () ↔ nameOk name := by
  have hall : (∀ c ∈ name, okCodePoint c) ↔
      name.all (inRanges [(37, 37), (46, 46), (48, 57), (64, 64), (65, 90), (95, 95), (97, 122)]) = true := by
    simp only [List.all_eq_true, inRanges_iff]
  unfold checkName nameOk
  simp only [N0, hall]
  generalize name.all (inRanges _) = b
  by_cases hl : name.length ≥ 32
  · simp only [hl, if_true]
    exact ⟨(fun h => nomatch h), fun h => by omega⟩
  · simp only [hl, if_false]
    cases b with
    | true => exact ⟨fun _ => ⟨by omega, rfl⟩, fun _ => rfl⟩
    | false => exact ⟨(fun h => nomatch h), fun h => nomatch h.2⟩

mutual
  /-- `check_code` accepts iff every primitive application is acceptable in its position; any tree, any flag -/
  theorem code_iff (lam : Bool) : (c : Mich) → pushHasType c = true →
      (checkCode S0 lam c = .ok () ↔ ∀ o ∈ occurrences lam c, occOk o)
    | .prim p args an => by
      intro hwf
      simp only [pushHasType, Bool.and_eq_true] at hwf
      have ih := args_iff (lam || opensLambdaBody p args) args hwf.2
      -- the two table lookups become "is SELF" / "is restricted", the flag for the arguments is the Spec's
      simp only [checkCode, occurrences, List.mem_cons, forall_eq_or_imp, flagForArgs_eq lam p args hwf.1, ← ih,
        Bool.and_eq_true, Bool.not_eq_true', always_iff, outside_iff]
      have hocc : occOk (p, lam) ↔ ¬ p = "SELF" ∧ ¬ (p ∈ restricted ∧ lam = false) := by cases lam <;> simp [occOk]
      rw [hocc]
      by_cases h1 : p = "SELF"
      · simp [h1]
      · by_cases h2 : p ∈ restricted ∧ lam = false
        · simp [h1, h2]
        · simp [h1, h2]
    | .seq xs => by
      intro hwf
      simp only [pushHasType] at hwf
      simp only [checkCode, occurrences]
      exact args_iff lam xs hwf
    | .int _ => by intro _; simp [checkCode, occurrences]
    | .str _ => by intro _; simp [checkCode, occurrences]
    | .bytes _ => by intro _; simp [checkCode, occurrences]
  theorem args_iff (lam : Bool) : (cs : List Mich) → pushHasTypeAll cs = true →
      (checkArgs S0 lam cs = .ok () ↔ ∀ o ∈ occurrencesList lam cs, occOk o)
    | [] => by intro _; simp [checkArgs, occurrencesList]
    | c :: cs => by
      intro hwf
      simp only [pushHasTypeAll, Bool.and_eq_true] at hwf
      simp only [checkArgs, occurrencesList, List.mem_append, or_imp, forall_and, ← code_iff lam c hwf.1,
        ← args_iff lam cs hwf.2]
      cases checkCode S0 lam c with
      | error e => simp
      | ok u => simp
end

/-- **the property**: a view is accepted iff name and code satisfy the Tezos rules — for every name and every code tree
in which each PUSH carries its type argument (guaranteed by `Micheline.match`, which runs before the check) -/
theorem view_accept_iff (name : List Nat) (code : Mich) (hwf : pushHasType code = true) :
    checkView name code = .ok () ↔ viewOk name code := by
  have hs := source_shape
  unfold checkView viewOk codeOk
  rw [hs.1, hs.2]
  simp only [checkViewWith, ← name_iff name, ← code_iff false code hwf]
  cases checkName N0 name with
  | error e => simp
  | ok u => cases checkCode S0 false code <;> simp

/-- rejection side: some error is raised iff one of the four reasons of the property statement holds -/
theorem view_reject_iff (name : List Nat) (code : Mich) (hwf : pushHasType code = true) :
    (∃ e, checkView name code = .error e) ↔
      (name.length > 31 ∨ (∃ c ∈ name, ¬ okCodePoint c) ∨
        (∃ o ∈ occurrences false code, o.1 = "SELF" ∨ (o.1 ∈ restricted ∧ o.2 = false))) := by
  have hdec : (∃ e, checkView name code = .error e) ↔ ¬ checkView name code = .ok () := by
    cases hv : checkView name code with
    | error e => simp
    | ok u => cases u; simp
  -- the negation of the acceptance condition, pushed through its connectives and quantifiers
  rw [hdec, view_accept_iff name code hwf]
  simp only [viewOk, nameOk, codeOk, occOk, Classical.not_and_iff_not_or_not, Classical.not_forall, Nat.not_le,
    Classical.not_not, Bool.not_eq_true, exists_prop, or_assoc, ne_eq]

/-- the error (if any) of a check, for the examples below -/
def errOf : Except String Unit → Option String
  | .ok _ => none
  | .error e => some e

-- non-vacuity: restricted instructions in a LAMBDA_REC body and in a pushed lambda literal are accepted, outside a lambda
-- body (under DIP, in a PUSH of another type) they are not; SELF is rejected inside a LAMBDA too, and so is a space in the name
example : errOf (checkView [97, 46, 98] (.seq [.prim "LAMBDA_REC" [.prim "unit" [] [], .prim "unit" [] [],
    .seq [.prim "TRANSFER_TOKENS" [] []]] []])) = none := by decide
example : errOf (checkView [97] (.seq [.prim "PUSH" [.prim "pair" [.prim "nat" [] [], .prim "lambda" [.prim "unit" [] [], .prim "unit" [] []] []] [],
    .prim "Pair" [.int 1, .seq [.prim "SET_DELEGATE" [] []]] []] []])) = none := by decide
example : errOf (checkView [97] (.seq [.prim "DIP" [.seq [.prim "TRANSFER_TOKENS" [] []]] []])) = some "code:TRANSFER_TOKENS" := by decide
example : errOf (checkView [97] (.seq [.prim "PUSH" [.prim "nat" [] [], .seq [.prim "TRANSFER_TOKENS" [] []]] []])) =
    some "code:TRANSFER_TOKENS" := by decide
example : errOf (checkView [97] (.seq [.prim "LAMBDA" [.prim "unit" [] [], .prim "unit" [] [], .seq [.prim "SELF" [] []]] []])) =
    some "code:SELF" := by decide
example : errOf (checkView [97, 32, 98] (.seq [])) = some "name-char" := by decide
example : viewOk [97, 46, 98] (.seq [.prim "LAMBDA_REC" [.prim "unit" [] [], .prim "unit" [] [], .seq [.prim "TRANSFER_TOKENS" [] []]] []]) :=
  (view_accept_iff _ _ (by decide)).mp rfl

end C32
