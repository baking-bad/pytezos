import PytezosModel.Proofs.C04Spec
import PytezosModel.Proofs.C11Comb
/-! C04 — PACK produces Tezos bytes and UNPACK inverts it for every packable type.

`Impl.Pack.pack` / `unpackRaw` / `unpack` mirror `MichelsonType.pack` / `MichelsonType.unpack` / the `UNPACK`
instruction (src/pytezos/michelson/types/base.py, instructions/generic.py) on top of C11's value codec
(`Impl.Value.toMich` / `ofMich`) and C05's binary Micheline codec (`Impl.Lower.forgeMich` / `unforgeMich`), all
instantiated with what the translators read from the source (`Generated.C04`, `Generated.C11`, `Generated.C05`).

Full statement (properties.jsonl): (1) PACK = `05` ++ optimized binary Micheline, combs of four or more components as
sequences; (2) UNPACK of those bytes at the same type gives an equal value; (3) UNPACK gives None on byte strings that
are not valid Tezos binary Micheline (non-minimal integers, truncation, …).
All three are proved at full strength for every packable type and value (no depth / size bound).  Side conditions:
`env.Lawful` (C09 / C10 / `datetime` contracts, as in C11), lambda bodies made of protocol primitives with space-free
annotations (`hcode`; C05's domain), and for (2) the signature normalisation of C11 (`faithful`: a typed 64-byte
signature comes back as generic `sig`).  (1) needs the annotation-blind `iter_comb` (C17's repair) — `source_shape`
fails to close on a tree where `iter_comb` still consults annotations. -/
namespace C04
open VC Core Impl.Value Impl.Pack

/-- what the proofs need from the source: `iter_comb` ignores annotations (C17), UNPACK catches every exception,
`pack` / `unpack` / `is_packable` have the mirrored shape, the integer reader is strict (C05) -/
theorem source_shape :
    Generated.C11.combConsultsAnnots = some false ∧ Generated.C04.unpackCatchesAll = some true ∧
      Impl.Pack.sourceOk = true ∧ Impl.Lower.strict = true ∧ VC.sourceOk = true := by
  decide

/-- the Micheline under the `05` is exactly `Spec.Pack.optimized`, e.g. for a 4-comb the sequence form -/
theorem pack_micheline (env : Env) (τ : Ty) (v : Val) (hp : packable τ = true) (hty : hasTy env τ v = true) :
    toMich env .optimized (some false) v = .ok (Spec.Pack.optimized env v) := by
  rw [toMich_of_not_raises (no_raise_packable .optimized (typed_of_hasTy τ v hty) hp (some false)),
    (render_eq_spec env consults_false τ (some false) v hp hty).1]
  rfl

/-- **(1) PACK = 05 ++ canonical optimized binary Micheline** — the canonical form `Spec.Pack.optimized` is stated
without annotations (components = the whole right spine; `Pair a b`, `Pair a (Pair b c)`, sequence from 4 on) -/
theorem pack_eq_spec (env : Env) (τ : Ty) (v : Val) (hp : packable τ = true) (hty : hasTy env τ v = true) :
    pack env τ false v = Spec.Pack.pack env v := by
  rw [pack_of_toMich hp (pack_micheline env τ v hp hty)]
  rfl

/-- **(2) UNPACK ∘ PACK = Some** (both `pack()` and `pack(legacy=True)`; composition of C11's round trip with C05's
`unforge_forge`) -/
theorem unpack_pack (env : Env) (hl : env.Lawful)
    (hcode : ∀ code, env.lambdaOk code = true → forgeableL code = true)
    (τ : Ty) (v : Val) (legacy : Bool) (hp : packable τ = true) (hty : hasTy env τ v = true)
    (hf : faithful (packMode legacy) (some false) τ v = true) (bs : Bytes) (h : pack env τ legacy v = some bs) :
    unpack env τ bs = .value v ∧ unpackRaw env τ bs = .ok v := by
  have ht := typed_of_hasTy τ v hty
  rw [pack_of_toMich hp (toMich_typed _ ht _ hf)] at h
  obtain ⟨fb, hfb, rfl⟩ := Option.map_eq_some_iff.1 h
  have hun := unforgeMich_forgeMich _ (render_forgeable _ hcode ht _).1 fb hfb
  have hraw := (unpackRaw_of_unforgeMich hp hun).trans (ofMich_render hl _ ht _ hf)
  exact ⟨unpack_of_ok hraw, hraw⟩

/-- for types without signatures there is no side condition on the value -/
theorem unpack_pack_plain (env : Env) (hl : env.Lawful)
    (hcode : ∀ code, env.lambdaOk code = true → forgeableL code = true)
    (τ : Ty) (v : Val) (legacy : Bool) (hp : packable τ = true) (hplain : Spec.Value.plainTy τ = true)
    (hty : hasTy env τ v = true) (bs : Bytes) (h : pack env τ legacy v = some bs) :
    unpack env τ bs = .value v :=
  (unpack_pack env hl hcode τ v legacy hp hty (faithful_of_plain _ (typed_of_hasTy τ v hty) hplain _) bs h).1

/-- **(3) UNPACK gives None on anything the strict Tezos decoder rejects** (truncation, trailing bytes, non-minimal
zarith, unknown node or primitive tags, inconsistent length prefixes — `Spec.Micheline.decode`, C05): never a value,
never an exception -/
theorem unpack_none_of_invalid (env : Env) (τ : Ty) (bs : Bytes)
    (h : Spec.Micheline.decode Impl.Lower.known bs = none) : unpack env τ (5 :: bs) = .none := by
  cases hr : unpackRaw env τ (5 :: bs) with
  | error e => exact unpack_none_of_error hr
  | ok v =>
    obtain ⟨_, rest, m, hb, hm, _⟩ := unpackRaw_ok hr
    cases hb
    obtain ⟨e, he, _⟩ := decode_of_unforgeMich hm
    rw [h] at he
    cases he

theorem unpack_none_of_bad_prefix (env : Env) (τ : Ty) (bs : Bytes) (h : bs.head? ≠ some 5) :
    unpack env τ bs = .none := by
  cases hr : unpackRaw env τ bs with
  | error e => exact unpack_none_of_error hr
  | ok v =>
    obtain ⟨_, rest, m, rfl, _⟩ := unpackRaw_ok hr
    exact absurd rfl h

/-- UNPACK never lets an exception escape: the outcome is a value or None -/
theorem unpack_total (env : Env) (τ : Ty) (bs : Bytes) :
    (∃ v, unpack env τ bs = .value v) ∨ unpack env τ bs = .none := by
  cases h : unpackRaw env τ bs with
  | ok v => exact Or.inl ⟨v, unpack_of_ok h⟩
  | error e => exact Or.inr (unpack_none_of_error h)

/-- a value UNPACK returns is what `from_micheline_value` makes of the strictly decoded Micheline -/
theorem unpack_value_strict (env : Env) (τ : Ty) (bs : Bytes) (v : Val) (h : unpack env τ bs = .value v) :
    ∃ rest m, bs = 5 :: rest ∧ Impl.Lower.specDecodeMich rest = some m ∧ ofMich env τ m = .ok v ∧ packable τ = true := by
  cases hr : unpackRaw env τ bs with
  | error e => rw [unpack_none_of_error hr] at h; cases h
  | ok w =>
    rw [unpack_of_ok hr] at h
    cases h
    obtain ⟨hp, rest, m, hb, hm, hof⟩ := unpackRaw_ok hr
    obtain ⟨e, he, hraise⟩ := decode_of_unforgeMich hm
    exact ⟨rest, m, hb, by simp [Impl.Lower.specDecodeMich, he, hraise], hof, hp⟩

theorem pack_none_of_unpackable (env : Env) (τ : Ty) (legacy : Bool) (v : Val) (h : packable τ = false) :
    pack env τ legacy v = none := by
  simp [pack, h]

/-- an annotated 5-comb packs to the sequence form (`02…`), whatever the annotations of the inner pairs -/
example (env : Env) :
    let τ : Ty := .pair (.leaf .nat {}) (.pair (.leaf .nat {}) (.pair (.leaf .nat {}) (.pair (.leaf .nat {}) (.leaf .nat {}) { field := some "d" })
      { type := some "c" }) { field := some "b" }) { field := some "a" }
    let v : Val := .pair true (.int 1) (.pair true (.int 2) (.pair true (.int 3) (.pair true (.int 4) (.int 5))))
    packable τ = true ∧ hasTy env τ v = true ∧
      pack env τ false v = some [5, 2, 0, 0, 0, 10, 0, 1, 0, 2, 0, 3, 0, 4, 0, 5] := by
  exact ⟨rfl, rfl, rfl⟩

/-- the non-minimal integer `05 00 81 00` (Tezos: not valid) unpacks to None -/
example (env : Env) (τ : Ty) : unpack env τ [5, 0, 129, 0] = .none :=
  unpack_none_of_invalid env τ [0, 129, 0] (by decide +kernel)

end C04
