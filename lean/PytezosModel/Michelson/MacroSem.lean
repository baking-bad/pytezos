import PytezosModel.Micheline.Basic
/-! Reference semantics of the Michelson instructions that macro expansions are made of, written from the
Michelson reference (not from pytezos): a stack of abstract values and a big-step evaluator over `Mich` code.

Only the primitives macros expand to are interpreted here (`DIP`, `DIP n`, `DUP`, `DUP n`, `SWAP`, `DROP`, `PAIR`,
`UNPAIR`, `CAR`, `CDR`, `UPDATE n` on pairs, `IF`, `IF_NONE`, `IF_LEFT`, `COMPARE` (on ints), `EQ … GE`, `UNIT`,
`FAILWITH`, `RENAME`, sequences).  Every other primitive — in particular whatever the user code passed to
`DIIP`, `IFEQ`, `MAP_CADR`, … contains — is delegated to an arbitrary `ext`, so that the theorems about macro
expansions hold for *any* semantics of the remaining instructions.  There is no loop among the interpreted
primitives, hence evaluation is structurally recursive over the code and needs no fuel. -/
namespace Sem

inductive Val where
  | atom (s : String)
  | int (i : Int)
  | bool (b : Bool)
  | unit
  | pair (a b : Val)
  | none
  | some (v : Val)
  | left (v : Val)
  | right (v : Val)
  deriving DecidableEq, Repr, Inhabited

abbrev Stack := List Val

inductive Result where
  | ok (s : Stack)
  | failed (v : Val)      -- FAILWITH v
  | err                   -- stack too short / wrong shape of a value (the type checker would reject)
  deriving DecidableEq, Repr, Inhabited

/-- a stack transformer -/
abbrev F := Stack → Result

def Result.bind : Result → F → Result
  | .ok s, f => f s
  | .failed v, _ => .failed v
  | .err, _ => .err

@[simp] theorem bind_ok (s : Stack) (f : F) : (Result.ok s).bind f = f s := rfl
@[simp] theorem bind_failed (v : Val) (f : F) : (Result.failed v).bind f = .failed v := rfl
@[simp] theorem bind_err (f : F) : Result.err.bind f = .err := rfl
@[simp] theorem bind_pure (r : Result) : r.bind .ok = r := by cases r <;> rfl
theorem bind_assoc (r : Result) (f g : F) : (r.bind f).bind g = r.bind (fun s => (f s).bind g) := by
  cases r <;> rfl

/-- sequential composition `f ; g` -/
def seqF (f g : F) : F := fun S => (f S).bind g
infixl:60 " ⨾ " => seqF

/-- `DIP n f`: run `f` below the top `n` elements -/
def under : Nat → F → F
  | 0, f, S => f S
  | _ + 1, _, [] => .err
  | n + 1, f, x :: S => (under n f S).bind fun S' => .ok (x :: S')

def pairStep : F
  | a :: b :: S => .ok (.pair a b :: S)
  | _ => .err

def unpairStep : F
  | .pair a b :: S => .ok (a :: b :: S)
  | _ => .err

def carStep : F
  | .pair a _ :: S => .ok (a :: S)
  | _ => .err

def cdrStep : F
  | .pair _ b :: S => .ok (b :: S)
  | _ => .err

def swapStep : F
  | a :: b :: S => .ok (b :: a :: S)
  | _ => .err

def dupStep : F
  | a :: S => .ok (a :: a :: S)
  | _ => .err

def dropStep : F
  | _ :: S => .ok S
  | _ => .err

/-- `DUP n` (n ≥ 1): copy the n-th element (1 = top) to the top -/
def dupN (n : Nat) : F := fun S =>
  match n with
  | 0 => .err
  | k + 1 => match S[k]? with
    | some v => .ok (v :: S)
    | none => .err

/-- `UPDATE n` on right combs: `UPDATE 0 / x : _ : S => x : S`, `UPDATE 1 / x : Pair _ b : S => Pair x b : S`,
`UPDATE (n+2) / x : Pair a b : S => Pair a b' : S` where `UPDATE n / x : b : S => b' : S` -/
def updateVal : Nat → Val → Val → Option Val
  | 0, x, _ => some x
  | 1, x, .pair _ b => some (.pair x b)
  | n + 2, x, .pair a b => (updateVal n x b).map (.pair a)
  | _, _, _ => none

def updateN (n : Nat) : F
  | x :: v :: S => match updateVal n x v with
    | some v' => .ok (v' :: S)
    | none => .err
  | _ => .err

def compareStep : F
  | .int a :: .int b :: S => .ok (.int (if a < b then -1 else if a = b then 0 else 1) :: S)
  | _ => .err

/-- `EQ`, `NEQ`, `LT`, `GT`, `LE`, `GE`: test of an int against zero -/
def testStep (t : Int → Bool) : F
  | .int i :: S => .ok (.bool (t i) :: S)
  | _ => .err

def unitStep : F := fun S => .ok (.unit :: S)

def failwithStep : F
  | v :: _ => .failed v
  | _ => .err

/-- `RENAME`: only touches the annotation of the top element, which must exist -/
def renameStep : F
  | a :: S => .ok (a :: S)
  | _ => .err

def ifBool (t f : F) : F
  | .bool true :: S => t S
  | .bool false :: S => f S
  | _ => .err

def ifNone (n s : F) : F
  | .none :: S => n S
  | .some v :: S => s (v :: S)
  | _ => .err

def ifLeft (l r : F) : F
  | .left v :: S => l (v :: S)
  | .right v :: S => r (v :: S)
  | _ => .err

/-- semantics of all the other primitives: prim, args, annots ↦ stack transformer -/
abbrev Ext := String → List Mich → List String → F

/-- primitives without argument -/
def op0 (ext : Ext) (p : String) (an : List String) : F :=
  if p = "DUP" then dupStep
  else if p = "SWAP" then swapStep
  else if p = "DROP" then dropStep
  else if p = "PAIR" then pairStep
  else if p = "UNPAIR" then unpairStep
  else if p = "CAR" then carStep
  else if p = "CDR" then cdrStep
  else if p = "COMPARE" then compareStep
  else if p = "EQ" then testStep (· == 0)
  else if p = "NEQ" then testStep (· != 0)
  else if p = "LT" then testStep (· < 0)
  else if p = "GT" then testStep (· > 0)
  else if p = "LE" then testStep (· ≤ 0)
  else if p = "GE" then testStep (· ≥ 0)
  else if p = "UNIT" then unitStep
  else if p = "FAILWITH" then failwithStep
  else if p = "RENAME" then renameStep
  else ext p [] an

/-- primitives with one non-code argument -/
def op1 (ext : Ext) (p : String) (a : Mich) (an : List String) : F :=
  match a with
  | .int n =>
    if p = "DUP" then (if n < 0 then fun _ => .err else dupN n.toNat)
    else if p = "UPDATE" then (if n < 0 then fun _ => .err else updateN n.toNat)
    else ext p [a] an
  | _ => ext p [a] an

mutual
  def eval (ext : Ext) : Mich → F
    | .seq xs, S => evalSeq ext xs S
    | .prim p [] an, S => op0 ext p an S
    | .prim p [a] an, S =>
      if p = "DIP" then under 1 (eval ext a) S else op1 ext p a an S
    | .prim p [a, b] an, S =>
      if p = "DIP" then
        match a with
        | .int n => if n < 0 then .err else under n.toNat (eval ext b) S
        | _ => .err
      else if p = "IF" then ifBool (eval ext a) (eval ext b) S
      else if p = "IF_NONE" then ifNone (eval ext a) (eval ext b) S
      else if p = "IF_LEFT" then ifLeft (eval ext a) (eval ext b) S
      else ext p [a, b] an S
    | .prim p args an, S => ext p args an S
    | _, _ => .err
  def evalSeq (ext : Ext) : List Mich → F
    | [], S => .ok S
    | x :: xs, S => (eval ext x S).bind (evalSeq ext xs)
end

/-! ### generic facts about sequencing and `DIP n` -/

theorem evalSeq_append (ext : Ext) (xs ys : List Mich) (S : Stack) :
    evalSeq ext (xs ++ ys) S = (evalSeq ext xs S).bind (evalSeq ext ys) := by
  induction xs generalizing S with
  | nil => simp [evalSeq]
  | cons x xs ih =>
    simp only [List.cons_append, evalSeq]
    cases h : eval ext x S <;> simp [ih]

theorem eval_seq (ext : Ext) (xs : List Mich) : eval ext (.seq xs) = evalSeq ext xs := by
  funext S; simp [eval]

theorem under_zero (f : F) : under 0 f = f := by funext S; simp [under]

theorem under_short (n : Nat) (f : F) (S : Stack) (h : S.length < n) : under n f S = .err := by
  induction n generalizing S with
  | zero => omega
  | succ n ih =>
    cases S with
    | nil => simp [under]
    | cons x S => simp only [under]; rw [ih S (by simpa using h)]; rfl

theorem under_append (pre : Stack) (f : F) (S : Stack) :
    under pre.length f (pre ++ S) = (f S).bind fun S' => .ok (pre ++ S') := by
  induction pre with
  | nil => simp [under]
  | cons x pre ih =>
    simp only [List.length_cons, List.cons_append, under, ih, bind_assoc]
    cases f S <;> simp

theorem under_add (a b : Nat) (f : F) : under (a + b) f = under a (under b f) := by
  funext S
  induction a generalizing S with
  | zero => simp [under]
  | succ a ih =>
    cases S with
    | nil => simp [Nat.succ_add, under]
    | cons x S => simp only [Nat.succ_add, under, ih]

/-- `DIP n f ; DIP n g = DIP n (f ; g)` -/
theorem under_seq (d : Nat) (f g : F) : under d f ⨾ under d g = under d (f ⨾ g) := by
  funext S
  induction d generalizing S with
  | zero => simp [under, seqF]
  | succ d ih =>
    cases S with
    | nil => simp [under, seqF]
    | cons x S =>
      have := ih S
      simp only [seqF] at this
      simp only [seqF, under, ← this, bind_assoc]
      cases under d f S <;> simp [under]

theorem seqF_assoc (f g h : F) : (f ⨾ g) ⨾ h = f ⨾ (g ⨾ h) := by
  funext S; unfold seqF; rw [bind_assoc]

theorem seqF_ok_left (f : F) : (Result.ok ⨾ f) = f := by funext S; simp [seqF]
theorem seqF_ok_right (f : F) : (f ⨾ Result.ok) = f := by funext S; simp [seqF]

theorem evalSeq_cons' (ext : Ext) (x : Mich) (xs : List Mich) : evalSeq ext (x :: xs) = eval ext x ⨾ evalSeq ext xs := by
  funext S; simp [evalSeq, seqF]

theorem evalSeq_nil' (ext : Ext) : evalSeq ext [] = Result.ok := by funext S; simp [evalSeq]

theorem evalSeq_append' (ext : Ext) (xs ys : List Mich) : evalSeq ext (xs ++ ys) = evalSeq ext xs ⨾ evalSeq ext ys := by
  funext S; simp [evalSeq_append, seqF]

end Sem

/-! ## The reference macro set (Michelson reference, section "Macros"): names and meanings

Meanings are given as stack transformers that follow the reference rewriting rules literally; the value-level
("denotational") readings (`treeVal?`, `flatten?`, `getPath`, `setPath`, `mapPath`) are related to them in
`Proofs/C19Values.lean`. -/
namespace Spec
open Sem

def prim0 (p : String) : Mich := .prim p [] []

/-- `EQ | NEQ | LT | GT | LE | GE` -/
def ops : List (List Char) := [['E', 'Q'], ['N', 'E', 'Q'], ['L', 'T'], ['G', 'T'], ['L', 'E'], ['G', 'E']]

/-- `FAIL  >  UNIT ; FAILWITH` -/
def FAIL : Mich := .seq [prim0 "UNIT", prim0 "FAILWITH"]
/-- `CMP{op}  >  COMPARE ; op` -/
def cmpx (op : String) : Mich := .seq [prim0 "COMPARE", prim0 op]
/-- `IF{op} bt bf  >  op ; IF bt bf` -/
def ifx (op : String) (bt bf : Mich) : Mich := .seq [prim0 op, .prim "IF" [bt, bf] []]
/-- `IFCMP{op} bt bf  >  COMPARE ; op ; IF bt bf` -/
def ifcmpx (op : String) (bt bf : Mich) : Mich := .seq [prim0 "COMPARE", prim0 op, .prim "IF" [bt, bf] []]
/-- `ASSERT  >  IF {} {FAIL}` -/
def assert : Mich := .prim "IF" [.seq [], .seq [FAIL]] []
/-- `ASSERT_{op}  >  IF{op} {} {FAIL}` -/
def assertX (op : String) : Mich := ifx op (.seq []) (.seq [FAIL])
/-- `ASSERT_CMP{op}  >  IFCMP{op} {} {FAIL}` -/
def assertCmpx (op : String) : Mich := ifcmpx op (.seq []) (.seq [FAIL])
/-- `ASSERT_NONE  >  IF_NONE {} {FAIL}` -/
def assertNone : Mich := .prim "IF_NONE" [.seq [], .seq [FAIL]] []
/-- `ASSERT_SOME @x  >  IF_NONE {FAIL} {RENAME @x}` -/
def assertSome (an : List String) : Mich := .prim "IF_NONE" [.seq [FAIL], .seq [.prim "RENAME" [] an]] []
/-- `ASSERT_LEFT @x  >  IF_LEFT {RENAME @x} {FAIL}` -/
def assertLeft (an : List String) : Mich := .prim "IF_LEFT" [.seq [.prim "RENAME" [] an], .seq [FAIL]] []
/-- `ASSERT_RIGHT @x  >  IF_LEFT {FAIL} {RENAME @x}` -/
def assertRight (an : List String) : Mich := .prim "IF_LEFT" [.seq [FAIL], .seq [.prim "RENAME" [] an]] []
/-- `IF_SOME bt bf  >  IF_NONE bf bt` -/
def ifSome (bt bf : Mich) : Mich := .prim "IF_NONE" [bf, bt] []
/-- `IF_RIGHT bt bf  >  IF_LEFT bf bt` -/
def ifRight (bt bf : Mich) : Mich := .prim "IF_LEFT" [bf, bt] []

/-- `D I^n P` -/
def dipName (n : Nat) : List Char := 'D' :: (List.replicate n 'I' ++ ['P'])
/-- `D U^n P` -/
def dupName (n : Nat) : List Char := 'D' :: (List.replicate n 'U' ++ ['P'])

/-- `DII+P code  >  DIP (DI+P code)`: `n` nested `DIP`s -/
def dixp : Nat → F → F
  | 0, c => c
  | n + 1, c => under 1 (dixp n c)

/-- `DUP` for one `U`; `DUU+P  >  DIP (DU+P) ; SWAP` -/
def duxp : Nat → F
  | 0 => fun _ => .err
  | 1 => dupStep
  | n + 2 => under 1 (duxp (n + 1)) ⨾ swapStep

/-- shapes of `P(A|P…)(I|P…)R` names -/
inductive PairTree where
  | leaf
  | node (l r : PairTree)
  deriving DecidableEq, Repr

def PairTree.leaves : PairTree → Nat
  | .leaf => 1
  | .node l r => l.leaves + r.leaves

/-- the letters of a subtree; `c` is the letter a leaf takes at this position (`A` left, `I` right) -/
def PairTree.body : PairTree → Char → List Char
  | .leaf, c => [c]
  | .node l r, _ => 'P' :: (l.body 'A' ++ r.body 'I')

def pairName (t : PairTree) : List Char := t.body 'A' ++ ['R']
def unpairName (t : PairTree) : List Char := 'U' :: 'N' :: pairName t

/-- `P(left)(right)R  >  (left)R ; DIP ((right)R) ; PAIR`, nothing to do for a leaf -/
def build : PairTree → F
  | .leaf => .ok
  | .node l r => build l ⨾ under 1 (build r) ⨾ pairStep

/-- `UNP(left)(right)R  >  UNPAIR ; DIP (UN(right)R) ; UN(left)R` -/
def unbuild : PairTree → F
  | .leaf => .ok
  | .node l r => unpairStep ⨾ under 1 (unbuild r) ⨾ unbuild l

/-- value reading of `build`: consume the leaves from the top of the stack, give the nested pair -/
def treeVal? : PairTree → Stack → Option (Val × Stack)
  | .leaf, x :: S => some (x, S)
  | .leaf, [] => none
  | .node l r, S =>
    match treeVal? l S with
    | some (a, S1) =>
      match treeVal? r S1 with
      | some (b, S2) => some (.pair a b, S2)
      | none => none
    | none => none

/-- value reading of `unbuild`: the leaves of a nested pair of that shape, left to right -/
def flatten? : PairTree → Val → Option (List Val)
  | .leaf, v => some [v]
  | .node l r, .pair a b =>
    match flatten? l a, flatten? r b with
    | some xs, some ys => some (xs ++ ys)
    | _, _ => none
  | .node _ _, _ => none

inductive Dir where
  | A
  | D
  deriving DecidableEq, Repr

def Dir.char : Dir → Char
  | .A => 'A'
  | .D => 'D'

abbrev Path := List Dir
def pathChars (p : Path) : List Char := p.map Dir.char
def cadrName (p : Path) : List Char := 'C' :: (pathChars p ++ ['R'])
def setName (p : Path) : List Char := 'S' :: 'E' :: 'T' :: '_' :: 'C' :: (pathChars p ++ ['R'])
def mapName (p : Path) : List Char := 'M' :: 'A' :: 'P' :: '_' :: 'C' :: (pathChars p ++ ['R'])

/-- `CA(rest)R  >  CAR ; C(rest)R`, `CD(rest)R  >  CDR ; C(rest)R` -/
def cxr : Path → F
  | [] => .ok
  | .A :: r => carStep ⨾ cxr r
  | .D :: r => cdrStep ⨾ cxr r

def getPath : Path → Val → Option Val
  | [], v => some v
  | .A :: r, .pair a _ => getPath r a
  | .D :: r, .pair _ b => getPath r b
  | _ :: _, _ => none

/-- `SET_CAR > CDR ; SWAP ; PAIR`, `SET_CDR > CAR ; PAIR`,
`SET_CA(rest)R > { DUP ; DIP { CAR ; SET_C(rest)R } ; CDR ; SWAP ; PAIR }`,
`SET_CD(rest)R > { DUP ; DIP { CDR ; SET_C(rest)R } ; CAR ; PAIR }` -/
def setCxr : Path → F
  | [] => fun _ => .err
  | [.A] => cdrStep ⨾ swapStep ⨾ pairStep
  | [.D] => carStep ⨾ pairStep
  | .A :: r => dupStep ⨾ under 1 (carStep ⨾ setCxr r) ⨾ cdrStep ⨾ swapStep ⨾ pairStep
  | .D :: r => dupStep ⨾ under 1 (cdrStep ⨾ setCxr r) ⨾ carStep ⨾ pairStep

/-- the value `v` with the component at `p` replaced by `x` -/
def setPath : Path → Val → Val → Option Val
  | [], _, _ => none
  | [.A], .pair _ b, x => some (.pair x b)
  | [.D], .pair a _, x => some (.pair a x)
  | .A :: r, .pair a b, x => (setPath r a x).map (.pair · b)
  | .D :: r, .pair a b, x => (setPath r b x).map (.pair a ·)
  | _ :: _, _, _ => none

/-- `MAP_CAR code > DUP ; CDR ; DIP { CAR ; code } ; SWAP ; PAIR` (the code runs on `a : S` for `Pair a b : S`),
`MAP_CDR code > DUP ; CDR ; code ; SWAP ; CAR ; PAIR` (the code runs on `b : Pair a b : S`),
`MAP_CA(rest)R code > { DUP ; DIP { CAR ; MAP_C(rest)R code } ; CDR ; SWAP ; PAIR }`,
`MAP_CD(rest)R code > { DUP ; DIP { CDR ; MAP_C(rest)R code } ; CAR ; PAIR }` -/
def mapCxr : Path → F → F
  | [], _ => fun _ => .err
  | [.A], c => dupStep ⨾ cdrStep ⨾ under 1 (carStep ⨾ c) ⨾ swapStep ⨾ pairStep
  | [.D], c => dupStep ⨾ cdrStep ⨾ c ⨾ swapStep ⨾ carStep ⨾ pairStep
  | .A :: r, c => dupStep ⨾ under 1 (carStep ⨾ mapCxr r c) ⨾ cdrStep ⨾ swapStep ⨾ pairStep
  | .D :: r, c => dupStep ⨾ under 1 (cdrStep ⨾ mapCxr r c) ⨾ carStep ⨾ pairStep

/-- the value `v` with the component at `p` replaced by its image under `f` -/
def mapPath : Path → (Val → Val) → Val → Option Val
  | [], _, _ => none
  | [.A], f, .pair a b => some (.pair (f a) b)
  | [.D], f, .pair a b => some (.pair a (f b))
  | .A :: r, f, .pair a b => (mapPath r f a).map (.pair · b)
  | .D :: r, f, .pair a b => (mapPath r f b).map (.pair a ·)
  | _ :: _, _, _ => none

/-- the test `{EQ,…}` makes of the result of `COMPARE` -/
def opTest (op : List Char) (i : Int) : Bool :=
  if op = ['E', 'Q'] then i == 0 else if op = ['N', 'E', 'Q'] then i != 0 else if op = ['L', 'T'] then i < 0
  else if op = ['G', 'T'] then i > 0 else if op = ['L', 'E'] then i ≤ 0 else i ≥ 0

/-- the result of `COMPARE` on ints -/
def cmpInt (a b : Int) : Int := if a < b then -1 else if a = b then 0 else 1

def fixedNames : List (List Char) :=
  ["FAIL".toList, "ASSERT".toList, "ASSERT_NONE".toList, "ASSERT_SOME".toList, "ASSERT_LEFT".toList,
   "ASSERT_RIGHT".toList, "IF_SOME".toList, "IF_RIGHT".toList]

/-- the names of the reference macro set -/
def MacroName (s : List Char) : Prop :=
  (∃ op ∈ ops, s = "CMP".toList ++ op ∨ s = "IF".toList ++ op ∨ s = "IFCMP".toList ++ op
      ∨ s = "ASSERT_".toList ++ op ∨ s = "ASSERT_CMP".toList ++ op)
  ∨ s ∈ fixedNames
  ∨ (∃ n, 2 ≤ n ∧ (s = dipName n ∨ s = dupName n))
  ∨ (∃ t : PairTree, 3 ≤ t.leaves ∧ (s = pairName t ∨ s = unpairName t))
  ∨ (∃ p : Path, 2 ≤ p.length ∧ s = cadrName p)
  ∨ (∃ p : Path, 1 ≤ p.length ∧ (s = setName p ∨ s = mapName p))

end Spec
