import PytezosModel.Generated.C21
import PytezosModel.Core.Bytes
/-! Mirror of the BLS12-381 support of the Michelson interpreter:

* `src/pytezos/michelson/types/bls.py` — `BLS12_381_FrType` (integers reduced modulo `modulus`, 32-byte
  little-endian literals), `BLS12_381_G1Type` / `BLS12_381_G2Type` (`from_point` / `to_point`: 48-byte big-endian
  coordinates, the infinity encoding, the coefficient order of G2);
* the BLS rows of `ADD` / `MUL` / `NEG` / `INT` (`michelson/instructions/arithmetic.py`);
* `PAIRING_CHECK` (`michelson/instructions/crypto.py`).

**What is abstract.**  The curve arithmetic itself is py_ecc's (`optimized_bls12_381.add / neg / multiply /
normalize / is_inf / pairing`, the `FQ` / `FQ2` / `FQ12` classes).  It is *modelled, not verified*: `CurveOps`,
`TargetOps` and `Env` are plain records of operations (the driver instantiates them with executable arithmetic),
and the group / bilinearity laws are the `Prop`-valued records `CurveLaws` / `PairingLaws` that the theorems take
as hypotheses — they are structure fields, not Lean axioms, and `Proofs/C21Toy.lean` exhibits an instance.

Everything the constants and shapes of which come from the source (field widths, wire order, slices, infinity
coordinates, whether `to_point` decodes infinity, the Fr modulus, dispatch tables, which NEG branch keeps the
operand class) is read from `Generated.C21` through `src`. -/
namespace Bls
open Core Generated.C21

/-- the base-field modulus of py_ecc (`field_properties["bls12_381"]["field_modulus"]`; not part of pytezos' source,
compared with the installed py_ecc by the harness on every run) -/
def q : Nat := 0x1a0111ea397fe69a4b1ba7b6434bacd764774b84f38512bf6730d2a0f6b0f6241eabfffeb153ffffb9feffffffffaaab

/-- the order of the prime-order subgroups G1, G2, GT (reference value; the source's `modulus` must equal it) -/
def r : Nat := 0x73eda753299d7d483339d80809a1d80553bda402fffe5bfeffffffff00000001

/-! ### the py_ecc interface -/

/-- operations on projective points of one curve (`optimized_bls12_381`).  `G` stands for py_ecc's point triples
*up to projective equivalence*; coordinates are lists of naturals in py_ecc order
(G1: `[x, y]`; G2: `[x.coeffs[0], x.coeffs[1], y.coeffs[0], y.coeffs[1]]`). -/
structure CurveOps where
  G : Type
  /-- `Z1` / `Z2` -/
  zero : G
  add : G → G → G
  neg : G → G
  /-- `multiply(pt, n)` for `n ≥ 0` (py_ecc recurses forever on negative `n`) -/
  mul : G → Nat → G
  isInf : G → Bool
  /-- `normalize(pt)` flattened to integers -/
  normalize : G → List Nat
  /-- the triple `(FQ(x), FQ(y), FQ(1))` resp. `(FQ2([x_re, x_im]), FQ2([y_re, y_im]), FQ2([1, 0]))` -/
  ofAffine : List Nat → G

/-- `FQ12` as far as PAIRING_CHECK uses it -/
structure TargetOps where
  GT : Type
  one : GT
  mul : GT → GT → GT
  /-- `FQ12.one() == x` -/
  isOne : GT → Bool

structure Env where
  K1 : CurveOps
  K2 : CurveOps
  T : TargetOps
  /-- `bls12_381.pairing(Q, P)` -/
  pairing : K2.G → K1.G → T.GT

/-- affine coordinates of a point of the curve: the right number of field elements, each reduced -/
def okCoords (n : Nat) (cs : List Nat) : Prop := cs.length = n ∧ ∀ c ∈ cs, c < q

/-- py_ecc's contract on one prime-order subgroup (**assumed, not proved**: commutative group, `multiply` is the
iterated sum, every point has order dividing `r`, `is_inf` recognises exactly the neutral element, and
`normalize` returns reduced affine coordinates from which the point is rebuilt). -/
structure CurveLaws (K : CurveOps) (n : Nat) : Prop where
  add_assoc : ∀ P Q R, K.add (K.add P Q) R = K.add P (K.add Q R)
  add_comm : ∀ P Q, K.add P Q = K.add Q P
  zero_add : ∀ P, K.add K.zero P = P
  neg_add : ∀ P, K.add (K.neg P) P = K.zero
  mul_zero : ∀ P, K.mul P 0 = K.zero
  mul_succ : ∀ P k, K.mul P (k + 1) = K.add (K.mul P k) P
  order : ∀ P, K.mul P r = K.zero
  isInf_iff : ∀ P, K.isInf P = true ↔ P = K.zero
  normalize_ok : ∀ P, P ≠ K.zero → okCoords n (K.normalize P)
  ofAffine_normalize : ∀ P, P ≠ K.zero → K.ofAffine (K.normalize P) = P

/-- py_ecc's contract on the pairing (**assumed, not proved**): `FQ12` restricted to the image is a commutative
monoid and the pairing is bilinear. -/
structure PairingLaws (E : Env) : Prop where
  mul_assoc : ∀ x y z, E.T.mul (E.T.mul x y) z = E.T.mul x (E.T.mul y z)
  mul_comm : ∀ x y, E.T.mul x y = E.T.mul y x
  one_mul : ∀ x, E.T.mul E.T.one x = x
  isOne_iff : ∀ x, E.T.isOne x = true ↔ x = E.T.one
  pair_add_left : ∀ Q Q' P, E.pairing (E.K2.add Q Q') P = E.T.mul (E.pairing Q P) (E.pairing Q' P)
  pair_add_right : ∀ Q P P', E.pairing Q (E.K1.add P P') = E.T.mul (E.pairing Q P) (E.pairing Q P')
  pair_zero_left : ∀ P, E.pairing E.K2.zero P = E.T.one
  pair_zero_right : ∀ Q, E.pairing Q E.K1.zero = E.T.one

/-! ### what the translator read from the source -/

structure Src where
  /-- `BLS12_381_FrType.modulus` -/
  modulus : Nat
  /-- `from_value` reduces modulo `modulus` -/
  reduces : Bool
  /-- `bytes_to_int` accepts at most this many bytes -/
  frMaxLen : Nat
  /-- `value.to_bytes(frOutLen, 'little')` -/
  frOutLen : Nat
  L1 : PointLayout
  L2 : PointLayout
  intSub : List Ty
  addRows : List (List Ty × Ty)
  mulRows : List (List Ty × Ty)
  negRows : List (List Ty × Ty)
  /-- integer branch of NEG builds `res_type.from_value` (true) or `IntType.from_value` (false) -/
  negUsesResType : Bool
  deriving DecidableEq, Repr

/-- `none` when some anchored construct was not recognised -/
def src : Option Src := do
  let m ← frModulus
  let red ← frReduces
  let (mx, out) ← frCodec
  let l1 ← g1
  let l2 ← g2
  let sub ← intSubclasses
  let ar ← addRows
  let mr ← mulRows
  let nr ← negRows
  let () ← addMulShape
  let nu ← negUsesResType
  let () ← intShape
  let () ← pairingShape
  pure { modulus := m, reduces := red, frMaxLen := mx, frOutLen := out, L1 := l1, L2 := l2, intSub := sub,
         addRows := ar, mulRows := mr, negRows := nr, negUsesResType := nu }

/-! ### byte codecs -/

/-- all-or-nothing: the first failing element fails the whole computation (a Python exception) -/
def optAll {α : Type} : List (Option α) → Option (List α)
  | [] => some []
  | none :: _ => none
  | some a :: rest => (optAll rest).map (a :: ·)

/-- `int.from_bytes(bs, 'little')` -/
def leToNat : Bytes → Nat
  | [] => 0
  | b :: bs => b + 256 * leToNat bs

/-- `v.to_bytes(n, 'little')` (`none` = OverflowError) -/
def natToLE : (n : Nat) → (v : Nat) → Option Bytes
  | 0, v => if v = 0 then some [] else none
  | n + 1, v => (natToLE n (v / 256)).map (v % 256 :: ·)

/-- `value[lo:hi]` -/
def slice (v : Bytes) (lo : Nat) (hi : Option Nat) : Bytes :=
  match hi with
  | none => v.drop lo
  | some h => (v.take h).drop lo

/-- the `value = a.to_bytes(w, 'big') + b.to_bytes(w, 'big') + …` line of `from_point` -/
def coordsToBytes (L : PointLayout) (cs : List Nat) : Option Bytes := do
  let wire ← optAll (L.write.map (cs[·]?))
  let parts ← optAll (wire.map (natToBE L.width))
  pure parts.flatten

/-- `from_point` -/
def fromPoint (K : CurveOps) (L : PointLayout) (P : K.G) : Option Bytes := do
  let cs := if K.isInf P then L.infCoords else K.normalize P
  let value ← coordsToBytes L cs
  match L.assertLen with
  | some n => if value.length = n then some value else none
  | none => some value

/-- the `int.from_bytes(self.value[a:b], 'big')` lines of `to_point`, in py_ecc coordinate order -/
def readCoords (L : PointLayout) (v : Bytes) : List Nat :=
  L.read.map fun (lo, hi) => beToNat (slice v lo hi)

/-- `to_point` (total: Python slicing and `int.from_bytes` never fail, whatever the length of the value) -/
def toPoint (K : CurveOps) (L : PointLayout) (v : Bytes) : K.G :=
  let cs := readCoords L v
  match L.decodeInf with
  | some inf => if cs = inf then K.zero else K.ofAffine cs
  | none => K.ofAffine cs

/-! ### stack values and instructions -/

inductive Val
  /-- `IntType` and its subclasses (`int(a)` is `v`) -/
  | num (t : Ty) (v : Int)
  /-- `BLS12_381_G1Type` / `BLS12_381_G2Type` -/
  | pt (t : Ty) (b : Bytes)
  | bool (b : Bool)
  deriving DecidableEq, Repr

inductive Err
  /-- `dispatch_types`: "unexpected types" -/
  | types
  /-- AssertionError / OverflowError inside a constructor -/
  | value
  /-- py_ecc `multiply` with a negative scalar (unbounded recursion) -/
  | recursion
  /-- a class whose constructor is outside this model (mutez, timestamp) -/
  | notModelled
  /-- a branch the dispatch tables rule out (attribute missing on the operand class) -/
  | attribute
  | unrecognisedSource
  deriving DecidableEq, Repr

abbrev R := Except Err

def ofOpt {α : Type} (e : Err) : Option α → R α
  | some a => .ok a
  | none => .error e

/-- `res_type.from_value(v)` for the integer classes -/
def fromValue (S : Src) (t : Ty) (v : Int) : R Val :=
  match t with
  | .int => .ok (.num .int v)
  | .nat => if 0 ≤ v then .ok (.num .nat v) else .error .value
  | .fr => .ok (.num .fr (if S.reduces then v % (S.modulus : Int) else v))
  | .mutez | .timestamp => .error .notModelled
  | .g1 | .g2 => .error .attribute

def Val.ty : Val → Option Ty
  | .num t _ => some t
  | .pt t _ => some t
  | .bool _ => none

/-- `int(a)` -/
def Val.asInt : Val → R Int
  | .num _ v => .ok v
  | _ => .error .attribute

/-- `dispatch_types(type(a), …, mapping=rows)` -/
def dispatch (rows : List (List Ty × Ty)) (args : List Val) : R Ty := do
  let key ← ofOpt .types (optAll (args.map Val.ty))
  match rows.find? (·.1 = key) with
  | some row => .ok row.2
  | none => .error .types

/-- `a.to_point()` followed by `k`: the operand's own class selects the curve -/
def withPoint {α : Type} (S : Src) (E : Env) (a : Val) (k1 : E.K1.G → R α) (k2 : E.K2.G → R α) : R α :=
  match a with
  | .pt .g1 b => k1 (toPoint E.K1 S.L1 b)
  | .pt .g2 b => k2 (toPoint E.K2 S.L2 b)
  | _ => .error .attribute

/-- `res_type.from_point(P)` for a G1 point -/
def fromPoint1 (S : Src) (E : Env) (res : Ty) (P : E.K1.G) : R Val :=
  match res with
  | .g1 => (ofOpt .value (fromPoint E.K1 S.L1 P)).map (.pt .g1)
  | _ => .error .attribute

def fromPoint2 (S : Src) (E : Env) (res : Ty) (P : E.K2.G) : R Val :=
  match res with
  | .g2 => (ofOpt .value (fromPoint E.K2 S.L2 P)).map (.pt .g2)
  | _ => .error .attribute

namespace Impl

/-- `AddInstruction.execute` on the two popped operands -/
def add (S : Src) (E : Env) (a b : Val) : R Val := do
  let res ← dispatch S.addRows [a, b]
  if S.intSub.contains res then
    fromValue S res ((← a.asInt) + (← b.asInt))
  else
    withPoint S E a
      (fun P => withPoint S E b (fun Q => fromPoint1 S E res (E.K1.add P Q)) (fun _ => .error .attribute))
      (fun P => withPoint S E b (fun _ => .error .attribute) (fun Q => fromPoint2 S E res (E.K2.add P Q)))

/-- `MulInstruction.execute` (`a` is the top of the stack) -/
def mul (S : Src) (E : Env) (a b : Val) : R Val := do
  let res ← dispatch S.mulRows [a, b]
  if S.intSub.contains res then
    fromValue S res ((← a.asInt) * (← b.asInt))
  else
    let k ← b.asInt
    if k < 0 then .error .recursion
    else withPoint S E a (fun P => fromPoint1 S E res (E.K1.mul P k.toNat)) (fun P => fromPoint2 S E res (E.K2.mul P k.toNat))

/-- `NegInstruction.execute` -/
def neg (S : Src) (E : Env) (a : Val) : R Val := do
  let res ← dispatch S.negRows [a]
  if S.intSub.contains res then
    fromValue S (if S.negUsesResType then res else .int) (-(← a.asInt))
  else
    withPoint S E a (fun P => fromPoint1 S E res (E.K1.neg P)) (fun P => fromPoint2 S E res (E.K2.neg P))

/-- `IntInstruction.execute`, the branch for non-bytes operands (`assert_type_in(NatType, BLS12_381_FrType)`).
The bytes branch (which a curve point, being a `BytesType`, would take) belongs to C16 and is not modelled. -/
def int (a : Val) : R Val :=
  match a with
  | .num .nat v => .ok (.num .int v)
  | .num .fr v => .ok (.num .int v)
  | .num _ _ => .error .types
  | .pt _ _ => .error .notModelled
  | .bool _ => .error .types

/-- `PairingCheckInstruction.execute` on the list of `(g1, g2)` byte pairs -/
def pairingCheck (S : Src) (E : Env) (ps : List (Bytes × Bytes)) : Val :=
  .bool (E.T.isOne (ps.foldl
    (fun prod p => E.T.mul prod (E.pairing (toPoint E.K2 S.L2 p.2) (toPoint E.K1 S.L1 p.1))) E.T.one))

/-- `BLS12_381_FrType.from_micheline_value({'int': z})` -/
def frOfInt (S : Src) (z : Int) : R Val := fromValue S .fr z

/-- `BLS12_381_FrType.from_micheline_value({'bytes': bs})` -/
def frOfBytes (S : Src) (bs : Bytes) : R Val :=
  if bs.length ≤ S.frMaxLen then fromValue S .fr (leToNat bs) else .error .value

/-- `to_micheline_value(mode='optimized')` of an Fr value -/
def frToBytes (S : Src) (a : Val) : R Bytes :=
  match a with
  | .num .fr v => if 0 ≤ v then ofOpt .value (natToLE S.frOutLen v.toNat) else .error .value
  | _ => .error .attribute

end Impl

/-! ### entry points bound to the current source -/

def withSrc {α : Type} (f : Src → R α) : R α :=
  match src with
  | some S => f S
  | none => .error .unrecognisedSource

def ADD (E : Env) (a b : Val) : R Val := withSrc fun S => Impl.add S E a b
def MUL (E : Env) (a b : Val) : R Val := withSrc fun S => Impl.mul S E a b
def NEG (E : Env) (a : Val) : R Val := withSrc fun S => Impl.neg S E a
def INT (a : Val) : R Val := withSrc fun _ => Impl.int a
def PAIRING_CHECK (E : Env) (ps : List (Bytes × Bytes)) : R Val := withSrc fun S => .ok (Impl.pairingCheck S E ps)
def pushFrInt (z : Int) : R Val := withSrc fun S => Impl.frOfInt S z
def pushFrBytes (bs : Bytes) : R Val := withSrc fun S => Impl.frOfBytes S bs
def frBytes (a : Val) : R Bytes := withSrc fun S => Impl.frToBytes S a
/-- `BLS12_381_G1Type.from_point` / `to_point` of the current source -/
def enc1 (E : Env) (P : E.K1.G) : R Bytes := withSrc fun S => ofOpt .value (fromPoint E.K1 S.L1 P)
def enc2 (E : Env) (P : E.K2.G) : R Bytes := withSrc fun S => ofOpt .value (fromPoint E.K2 S.L2 P)
def dec1 (E : Env) (b : Bytes) : R E.K1.G := withSrc fun S => .ok (toPoint E.K1 S.L1 b)
def dec2 (E : Env) (b : Bytes) : R E.K2.G := withSrc fun S => .ok (toPoint E.K2 S.L2 b)

end Bls
