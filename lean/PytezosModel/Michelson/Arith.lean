import PytezosModel.Generated.C16
/-! C16 — arithmetic, bitwise and numeric-conversion instructions.

* `PyNum.*`   — the CPython `int`/`bytes` operations the instructions call, *defined* from positional
                numerals (halving / base-256 digits), nothing assumed.
* `Impl.Arith.*` — literal mirror of `execute` of each instruction in `instructions/arithmetic.py`,
                `instructions/boolean.py` and of the `from_value` constructors of the numeric types.  It consumes the
                tables regenerated from the source (`Generated.C16`): dispatch maps, class hierarchy, `from_value`
                guards, the shift limit and the shape of every `execute` body.
* `Spec.Arith.*` — the Michelson reference semantics, written directly with integer arithmetic.
-/

namespace PyNum

/-- number of binary digits of `n` by repeated halving (`fuel = n` always suffices: `n < 2^n`) -/
def bitsAux : Nat → Nat → Nat
  | 0, _ => 0
  | f + 1, n => if n = 0 then 0 else bitsAux f (n / 2) + 1

/-- `int.bit_length()`: the number of bits of `|z|` -/
def bitLength (z : Int) : Nat := bitsAux z.natAbs z.natAbs

/-- `abs(z)` -/
def abs (z : Int) : Int := if z < 0 then -z else z

/-- `len` base-256 digits of `n`, most significant first (digits above `len` are dropped) -/
def toBytesBE : Nat → Nat → List Nat
  | 0, _ => []
  | k + 1, n => toBytesBE k (n / 256) ++ [n % 256]

/-- value of a big-endian base-256 digit string -/
def fromBytesBE (bs : List Nat) : Nat := bs.foldl (fun acc b => acc * 256 + b) 0

/-- `z.to_bytes(len, 'big', signed=signed)`; `none` = OverflowError.
(CPython accepts `(-1).to_bytes(0, 'big', signed=True) == b''`; the truncated `8*len-1` reproduces that.) -/
def toBytes (z : Int) (len : Nat) (signed : Bool) : Option (List Nat) :=
  if signed then
    if -(2 ^ (8 * len - 1) : Int) ≤ z ∧ z < 2 ^ (8 * len - 1) then some (toBytesBE len (z % 256 ^ len).toNat) else none
  else
    if 0 ≤ z ∧ z < 256 ^ len then some (toBytesBE len z.toNat) else none

/-- `int.from_bytes(bs, 'big', signed=signed)` -/
def fromBytes (bs : List Nat) (signed : Bool) : Int :=
  let n := fromBytesBE bs
  if signed ∧ bs ≠ [] ∧ 2 ^ (8 * bs.length - 1) ≤ n then (n : Int) - 2 ^ (8 * bs.length) else n

/-- `bs.lstrip(b'\x00')` -/
def lstrip0 (bs : List Nat) : List Nat := bs.dropWhile (· == 0)

/-- `divmod(a, b)` for `b ≠ 0`: floor division, remainder has the sign of `b` -/
def divmod (a b : Int) : Int × Int := (a.fdiv b, a.fmod b)

/-- `a << s` := `a * 2**s` (Python language reference) -/
def shl (a : Int) (s : Nat) : Int := a * 2 ^ s

/-- `a >> s` := floor division by `2**s` (Python language reference) -/
def shr (a : Int) (s : Nat) : Int := a.fdiv (2 ^ s)

/-- `~a` := `-(a+1)` (Python language reference) -/
def invert (a : Int) : Int := -(a + 1)

/-- Bitwise combination of two integers in two's complement with infinite sign extension, digit by digit:
the lowest bit is `z % 2`, the rest is `z / 2` (floor — `Int./` and `%` are floor/Euclidean for the positive
divisor 2); after `fuel` halvings only the sign (all zeros = `0`, all ones = `-1`) is left. -/
def bitop (f : Bool → Bool → Bool) : Nat → Int → Int → Int
  | 0, a, b => if f (decide (a < 0)) (decide (b < 0)) then -1 else 0
  | n + 1, a, b => 2 * bitop f n (a / 2) (b / 2) + (if f (decide (a % 2 = 1)) (decide (b % 2 = 1)) then 1 else 0)

def width (a b : Int) : Nat := max (bitLength a) (bitLength b)

/-- `a & b`, `a | b`, `a ^ b` on Python ints -/
def and (a b : Int) : Int := bitop (· && ·) (width a b) a b
def or (a b : Int) : Int := bitop (· || ·) (width a b) a b
def xor (a b : Int) : Int := bitop (· != ·) (width a b) a b

end PyNum

namespace Impl.Arith
open Generated.C16

/-- root cause of the `MichelsonRuntimeError`: an `assert` (type dispatch, negative nat/mutez, shift limit),
an `OverflowError` (mutez range, `to_bytes`), or a source shape the model does not know -/
inductive Err | assertion | overflow | unrecognised
  deriving DecidableEq, Repr

/-- the subclasses of `IntType` -/
inductive NTy | int | nat | mutez | timestamp
  deriving DecidableEq, Repr

def NTy.prim : NTy → Prim
  | .int => .int | .nat => .nat | .mutez => .mutez | .timestamp => .timestamp

def NTy.ofPrim : Prim → Option NTy
  | .int => some .int | .nat => some .nat | .mutez => some .mutez | .timestamp => some .timestamp
  | _ => none

/-- runtime value: class tag + payload -/
inductive Val
  | num (t : NTy) (v : Int)
  | bytes (bs : List Nat)
  | bool (b : Bool)
  deriving DecidableEq, Repr

def Val.prim : Val → Prim
  | .num t _ => t.prim
  | .bytes _ => .bytes
  | .bool _ => .bool

/-- what `PUSH` can build: nat ≥ 0, 0 ≤ mutez < 2^63, bytes are bytes -/
def Val.WF : Val → Prop
  | .num .nat v => 0 ≤ v
  | .num .mutez v => 0 ≤ v ∧ v < 2 ^ 63
  | .num _ _ => True
  | .bytes bs => ∀ b ∈ bs, b < 256
  | .bool _ => True

instance : (v : Val) → Decidable v.WF
  | .num .nat v => inferInstanceAs (Decidable (0 ≤ v))
  | .num .mutez v => inferInstanceAs (Decidable (0 ≤ v ∧ v < 2 ^ 63))
  | .num .int _ => isTrue trivial
  | .num .timestamp _ => isTrue trivial
  | .bytes bs => inferInstanceAs (Decidable (∀ b ∈ bs, b < 256))
  | .bool _ => isTrue trivial

/-- what an instruction leaves on the stack -/
inductive Out
  | one (v : Val)
  | none1 (t : Prim)              -- `None : option t`
  | some1 (v : Val)               -- `Some v`
  | none2 (q r : Prim)            -- `None : option (pair q r)`
  | some2 (q r : Val)             -- `Some (Pair q r)`
  deriving DecidableEq, Repr

def Out.WF : Out → Prop
  | .one v | .some1 v => v.WF
  | .some2 q r => q.WF ∧ r.WF
  | _ => True

/-- `issubclass(c, p)` over the extracted class hierarchy -/
def isSubAux : Nat → Prim → Prim → Bool
  | 0, c, p => c == p
  | f + 1, c, p => c == p || parents.any fun e => e.1 == c && isSubAux f e.2 p

def isSub (c p : Prim) : Bool := isSubAux parents.length c p

/-- `T.from_value(x)` guards, in source order -/
def runGuards : List Guard → Int → Except Err Unit
  | [], _ => .ok ()
  | .assertNonneg :: gs, x => if x < 0 then .error .assertion else runGuards gs x
  | .overflowIfBitsGt n :: gs, x => if PyNum.bitLength x > n then .error .overflow else runGuards gs x

/-- `T.from_value(x)` for a subclass of `IntType` -/
def fromValue (p : Prim) (x : Int) : Except Err Val :=
  match guards with
  | none => .error .unrecognised
  | some tbl =>
    match tbl.lookup p, NTy.ofPrim p with
    | some gs, some t =>
      match runGuards gs x with
      | .ok () => .ok (.num t x)
      | .error e => .error e
    | _, _ => .error .unrecognised

/-- `dispatch_types(type(a), ..., mapping=table)` -/
def dispatch {α : Type} (table : Option (List (List Prim × α))) (key : List Prim) : Except Err α :=
  match table with
  | none => .error .unrecognised
  | some rows =>
    match rows.lookup key with
    | some r => .ok r
    | none => .error .assertion

/-- the source shape of this `execute` (and of the helpers it calls) is one the mirror was written for -/
def known (body : Bool) : Bool := body && helpersRecognised

/-- `a.assert_type_equal(T)` -/
def typeEqual (a : Val) (p : Prim) : Bool := a.prim == p

/-- `a.assert_type_in(T1, T2, …)` -/
def typeIn (a : Val) (ps : List Prim) : Bool := ps.any fun p => isSub a.prim p

def wrap (r : Except Err Val) : Except Err Out :=
  match r with
  | .ok v => .ok (.one v)
  | .error e => .error e

/-- ADD / MUL share their body; `op` is `+` / `*` -/
def arith (body : Bool) (table : Option (List (List Prim × List Prim))) (op : Int → Int → Int) (a b : Val) : Except Err Out :=
  if !known body then .error .unrecognised else
  match dispatch table [a.prim, b.prim] with
  | .error e => .error e
  | .ok [rt] =>
    if isSub rt .int then
      match a, b with
      | .num _ x, .num _ y => wrap (fromValue rt (op x y))
      | _, _ => .error .unrecognised
    else .error .unrecognised       -- BLS12-381 branch: outside this model (C21)
  | .ok _ => .error .unrecognised

def add (a b : Val) : Except Err Out := arith addBody addTable (· + ·) a b
def mul (a b : Val) : Except Err Out := arith mulBody mulTable (· * ·) a b

def sub (a b : Val) : Except Err Out :=
  if !known subBody then .error .unrecognised else
  match dispatch subTable [a.prim, b.prim] with
  | .error e => .error e
  | .ok [rt] =>
    match a, b with
    | .num _ x, .num _ y => wrap (fromValue rt (x - y))
    | _, _ => .error .unrecognised
  | .ok _ => .error .unrecognised

def subMutez (a b : Val) : Except Err Out :=
  if !helpersRecognised then .error .unrecognised else
  if !typeEqual a .mutez then .error .assertion else
  if !typeEqual b .mutez then .error .assertion else
  match subMutezShape, a, b with
  | some .tryExceptOverflow, .num _ x, .num _ y =>
    -- `except OverflowError` never fires: `MutezType.from_value` is wrapped by the ErrorTrace metaclass, which
    -- re-raises every exception as MichelsonRuntimeError
    match fromValue .mutez (x - y) with
    | .ok v => .ok (.some1 v)
    | .error e => .error e
  | some .compareFirst, .num _ x, .num _ y =>
    if x < y then .ok (.none1 .mutez)
    else
      match fromValue .mutez (x - y) with
      | .ok v => .ok (.some1 v)
      | .error e => .error e
  | _, _, _ => .error .unrecognised

/-- the body of EDIV after the dispatch: `qt`/`rt` are the classes of quotient and remainder -/
def edivNum (qt rt : Prim) (x y : Int) : Except Err Out :=
  if y = 0 then .ok (.none2 qt rt)
  else
    let d := PyNum.divmod x y
    let d := if d.2 < 0 then (d.1 + 1, d.2 + PyNum.abs y) else d
    match fromValue qt d.1, fromValue rt d.2 with
    | .ok qv, .ok rv => .ok (.some2 qv rv)
    | .error e, _ => .error e
    | _, .error e => .error e

def ediv (a b : Val) : Except Err Out :=
  if !known edivBody then .error .unrecognised else
  match dispatch edivTable [a.prim, b.prim] with
  | .error e => .error e
  | .ok [qt, rt] =>
    match a, b with
    | .num _ x, .num _ y => edivNum qt rt x y
    | _, _ => .error .unrecognised
  | .ok _ => .error .unrecognised

def abs (a : Val) : Except Err Out :=
  if !known absBody then .error .unrecognised else
  if !typeEqual a .int then .error .assertion else
  match a with
  | .num _ x => wrap (fromValue .nat (PyNum.abs x))
  | _ => .error .unrecognised

def neg (a : Val) : Except Err Out :=
  if !helpersRecognised then .error .unrecognised else
  match dispatch negTable [a.prim] with
  | .error e => .error e
  | .ok [rt] =>
    if isSub rt .int then
      match negShape, a with
      | some .intFromValue, .num _ x => wrap (fromValue .int (-x))        -- `IntType.from_value(-int(a))`
      | some .resTypeFromValue, .num _ x => wrap (fromValue rt (-x))      -- `res_type.from_value(-int(a))`
      | _, _ => .error .unrecognised
    else .error .unrecognised
  | .ok _ => .error .unrecognised

def isnat (a : Val) : Except Err Out :=
  if !known isnatBody then .error .unrecognised else
  if !typeEqual a .int then .error .assertion else
  match a with
  | .num _ x =>
    if x ≥ 0 then
      match fromValue .nat x with
      | .ok v => .ok (.some1 v)
      | .error e => .error e
    else .ok (.none1 .nat)
  | _ => .error .unrecognised

/-- INT: `isinstance(a, BytesType)` first, otherwise `assert_type_in(NatType, BLS12_381_FrType)` -/
def int (a : Val) : Except Err Out :=
  if !known intBody then .error .unrecognised else
  if isSub a.prim .bytes then
    match a with
    | .bytes bs => wrap (fromValue .int (PyNum.fromBytes bs true))
    | _ => .error .unrecognised
  else if !typeIn a [.nat, .bls12_381_fr] then .error .assertion else
    match a with
    | .num _ x => wrap (fromValue .int x)
    | _ => .error .unrecognised

def nat (a : Val) : Except Err Out :=
  if !known natBody then .error .unrecognised else
  if !typeIn a [.bytes] then .error .assertion else
  match a with
  | .bytes bs => wrap (fromValue .nat (PyNum.fromBytes bs false))
  | _ => .error .unrecognised

/-- `(8 + (v + (v < 0)).bit_length()) // 8` -/
def signedLen (x : Int) : Nat := (8 + PyNum.bitLength (x + (if x < 0 then 1 else 0))) / 8

/-- `(7 + v.bit_length()) // 8` -/
def unsignedLen (x : Int) : Nat := (7 + PyNum.bitLength x) / 8

/-- the byte string BYTES produces for an instance of a class with prim `p` holding `x` -/
def bytesOf (shape : BytesShape) (p : Prim) (x : Int) : Except Err (List Nat) :=
  match shape with
  | .signedIfIntThenLstrip =>
    let signed := isSub p .int
    let len := if signed then signedLen x else unsignedLen x
    match PyNum.toBytes x len signed with
    | some bs => .ok (PyNum.lstrip0 bs)
    | none => .error .overflow
  | .signedUnlessNatExactLength =>
    let signed := !isSub p .nat
    let len := if signed then (if x ≠ 0 then signedLen x else 0) else unsignedLen x
    match PyNum.toBytes x len signed with
    | some bs => .ok bs
    | none => .error .overflow

def bytes (a : Val) : Except Err Out :=
  if !helpersRecognised then .error .unrecognised else
  if !typeIn a [.nat, .int] then .error .assertion else
  match bytesShape, a with
  | some shape, .num t x =>
    match bytesOf shape t.prim x with
    | .ok bs => .ok (.one (.bytes bs))
    | .error e => .error e
  | _, _ => .error .unrecognised

/-- `execute_shift` -/
def executeShift (body : Bool) (shift : Int → Nat → Int) (a b : Val) : Except Err Out :=
  if !known body then .error .unrecognised else
  if !typeEqual a .nat then .error .assertion else
  if !typeEqual b .nat then .error .assertion else
  match shiftLimit, a, b with
  | some lim, .num _ x, .num _ y =>
    if ¬ (y < lim) then .error .assertion
    else wrap (fromValue .nat (shift x y.toNat))
  | _, _, _ => .error .unrecognised

def lsl (a b : Val) : Except Err Out := executeShift lslBody PyNum.shl a b
def lsr (a b : Val) : Except Err Out := executeShift lsrBody PyNum.shr a b

/-- a Python value after `convert(...)` -/
inductive PyV | int (z : Int) | bool (b : Bool)
  deriving DecidableEq, Repr

/-- the second component of a boolean.py mapping row applied to a runtime value -/
def convert (c : Conv) (v : Val) : Option PyV :=
  match c, v with
  | .int, .num _ x => some (.int x)                     -- `int(a)`
  | .bool, .bool b => some (.bool b)                     -- `bool(a)`
  | .invert, .num _ x => some (.int (PyNum.invert x))    -- `~int(a)`
  | .not, .bool b => some (.bool (!b))                   -- `not bool(a)`
  | _, _ => none

/-- `x & y`, `x | y`, `x ^ y` on converted values -/
def pyBin (fi : Int → Int → Int) (fb : Bool → Bool → Bool) : PyV → PyV → Option PyV
  | .int x, .int y => some (.int (fi x y))
  | .bool x, .bool y => some (.bool (fb x y))
  | _, _ => none

/-- `res_type.from_value(val)` where `res_type` is `BoolType` or a subclass of `IntType` -/
def fromPy (p : Prim) (v : PyV) : Except Err Val :=
  match p, v with
  | .bool, .bool b => .ok (.bool b)
  | .bool, .int _ => .error .unrecognised
  | p, .int z => fromValue p z
  | _, .bool _ => .error .unrecognised

def boolBin (body : Bool) (table : Option (List (List Prim × (Prim × Conv))))
    (fi : Int → Int → Int) (fb : Bool → Bool → Bool) (a b : Val) : Except Err Out :=
  if !known body then .error .unrecognised else
  match dispatch table [a.prim, b.prim] with
  | .error e => .error e
  | .ok (rt, conv) =>
    match convert conv a, convert conv b with
    | some x, some y =>
      match pyBin fi fb x y with
      | some v => wrap (fromPy rt v)
      | none => .error .unrecognised
    | _, _ => .error .unrecognised

def or (a b : Val) : Except Err Out := boolBin orBody boolAddTable PyNum.or (· || ·) a b
def xor (a b : Val) : Except Err Out := boolBin xorBody boolAddTable PyNum.xor (· != ·) a b
def and (a b : Val) : Except Err Out := boolBin andBody andTable PyNum.and (· && ·) a b

def not (a : Val) : Except Err Out :=
  if !known notBody then .error .unrecognised else
  match dispatch notTable [a.prim] with
  | .error e => .error e
  | .ok (rt, conv) =>
    match convert conv a with
    | some v => wrap (fromPy rt v)
    | none => .error .unrecognised

/-- the next instruction runs on the one value the first left (an option result is not an operand) -/
def andThen (r : Except Err Out) (f : Val → Except Err Out) : Except Err Out :=
  match r with
  | .ok (.one v) => f v
  | .ok _ => .error .unrecognised
  | .error e => .error e

/-- `PUSH int z; BYTES; INT` -/
def bytesInt (a : Val) : Except Err Out := andThen (bytes a) int
/-- `PUSH nat n; BYTES; NAT` -/
def bytesNat (a : Val) : Except Err Out := andThen (bytes a) nat

end Impl.Arith

namespace Spec.Arith
open Impl.Arith (Val Out NTy)
open Generated.C16 (Prim)

/-- a value of a numeric type exists iff it is in the type's range: nat ≥ 0, 0 ≤ mutez < 2^63 -/
def mk (t : NTy) (x : Int) : Option Val :=
  match t with
  | .nat => if 0 ≤ x then some (.num .nat x) else none
  | .mutez => if 0 ≤ x ∧ x < 2 ^ 63 then some (.num .mutez x) else none
  | t => some (.num t x)

/-! Michelson typing tables (operand on top of the stack first); BLS rows are outside the model -/
def addTy : NTy → NTy → Option NTy
  | .nat, .nat => some .nat | .nat, .int => some .int | .int, .nat => some .int | .int, .int => some .int
  | .timestamp, .int => some .timestamp | .int, .timestamp => some .timestamp
  | .mutez, .mutez => some .mutez
  | _, _ => none

def subTy : NTy → NTy → Option NTy
  | .nat, .nat => some .int | .nat, .int => some .int | .int, .nat => some .int | .int, .int => some .int
  | .timestamp, .int => some .timestamp | .timestamp, .timestamp => some .int
  | .mutez, .mutez => some .mutez
  | _, _ => none

def mulTy : NTy → NTy → Option NTy
  | .nat, .nat => some .nat | .nat, .int => some .int | .int, .nat => some .int | .int, .int => some .int
  | .mutez, .nat => some .mutez | .nat, .mutez => some .mutez
  | _, _ => none

def edivTy : NTy → NTy → Option (NTy × NTy)
  | .nat, .nat => some (.nat, .nat) | .nat, .int => some (.int, .nat) | .int, .nat => some (.int, .nat)
  | .int, .int => some (.int, .nat)
  | .mutez, .nat => some (.mutez, .mutez) | .mutez, .mutez => some (.nat, .mutez)
  | _, _ => none

/-- result of a typed binary arithmetic instruction: the exact mathematical value, if the result type has it -/
def binNum (ty : NTy → NTy → Option NTy) (op : Int → Int → Int) : Val → Val → Option Out
  | .num ta a, .num tb b =>
    match ty ta tb with
    | some t => (mk t (op a b)).map .one
    | none => none
  | _, _ => none

def add : Val → Val → Option Out := binNum addTy (· + ·)
def sub : Val → Val → Option Out := binNum subTy (· - ·)
def mul : Val → Val → Option Out := binNum mulTy (· * ·)

def subMutez : Val → Val → Option Out
  | .num .mutez a, .num .mutez b => if a - b < 0 then some (.none1 .mutez) else (mk .mutez (a - b)).map .some1
  | _, _ => none

/-- Euclidean division (`Int./` and `Int.%` are the Euclidean pair: `0 ≤ a % b < |b|`) -/
def edivAt (tq tr : NTy) (a b : Int) : Option Out :=
  if b = 0 then some (.none2 tq.prim tr.prim)
  else
    match mk tq (a / b), mk tr (a % b) with
    | some q, some r => some (.some2 q r)
    | _, _ => none

def ediv : Val → Val → Option Out
  | .num ta a, .num tb b =>
    match edivTy ta tb with
    | some (tq, tr) => edivAt tq tr a b
    | none => none
  | _, _ => none

def abs : Val → Option Out
  | .num .int a => some (.one (.num .nat a.natAbs))
  | _ => none

def neg : Val → Option Out
  | .num .int a => some (.one (.num .int (-a)))
  | .num .nat a => some (.one (.num .int (-a)))
  | _ => none

def isnat : Val → Option Out
  | .num .int a => if 0 ≤ a then some (.some1 (.num .nat a)) else some (.none1 .nat)
  | _ => none

def lsl : Val → Val → Option Out
  | .num .nat a, .num .nat s => if s ≤ 256 then (mk .nat (a * 2 ^ s.toNat)).map .one else none
  | _, _ => none

def lsr : Val → Val → Option Out
  | .num .nat a, .num .nat s => if s ≤ 256 then (mk .nat (a / 2 ^ s.toNat)).map .one else none
  | _, _ => none

/-- bit `i` of an integer in two's complement with infinite sign extension -/
def bit (z : Int) (i : Nat) : Bool :=
  match z with
  | .ofNat n => n.testBit i
  | .negSucc n => !n.testBit i

/-- value of a big-endian byte string, positionally: the first byte is the most significant -/
def beUnsigned : List Nat → Nat
  | [] => 0
  | b :: bs => b * 256 ^ bs.length + beUnsigned bs

/-- big-endian two's complement: negative iff the top bit of the first byte is set -/
def beSigned : List Nat → Int
  | [] => 0
  | b :: bs => if 128 ≤ b then (beUnsigned (b :: bs) : Int) - 256 ^ (bs.length + 1) else beUnsigned (b :: bs)

end Spec.Arith
