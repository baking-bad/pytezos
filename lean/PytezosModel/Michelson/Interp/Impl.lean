import PytezosModel.Michelson.Interp.Syntax
import PytezosModel.Michelson.Collections
import PytezosModel.Michelson.Arith
import PytezosModel.Micheline.Lower
import PytezosModel.Generated.C01
/-! `Impl.exec` — mirror of the `execute` methods of src/pytezos/michelson/instructions/*.py over the
`MichelsonStack` of src/pytezos/michelson/stack.py (`items` + `protected` prefix).

The dynamic `assert_type_equal` checks that compare *runtime type objects* (EXEC, APPLY, CONS, COMPARE,
`from_items`) are mirrored (`typeOf`); class checks (`assert_type_in`, `dispatch_types`) are the pattern
matches.  Not mirrored: `stdout` traces, the returned instruction objects.

What is *read from the source* instead of being written here (`Generated.C01`, regenerated on every run by
translator/c01.py): the `dispatch_types` tables of ADD / SUB / MUL / EDIV / NEG / AND / OR / XOR / NOT / CONCAT and the
operand classes of SIZE / SLICE (`Impl.dispatch` is the lookup `dispatch_types` performs), the shift bound, the
`from_value` guards of the integer classes, `count >= 2` of PAIR n / UNPAIR n, the `count - 2` handed to `unpairn_comb`
and the index `MichelsonStack.push / pop / peek` use.  That these agree with the reference (`Spec` / `Typing`) is
`Proofs/InterpTables.lean`; editing the source changes the model and re-opens the corresponding obligation there. -/
namespace Interp

structure Stack where
  items : List Val
  protected_ : Nat
  deriving Inhabited

namespace Stack

/-- the index expression read from stack.py (`self.protected` or `0`); anything else was not recognised: no such item -/
def idx (o : Option Generated.C01.StackIdx) (s : Stack) : Nat :=
  match o with
  | some .atProtected => s.protected_
  | some .atZero => 0
  | none => s.items.length + 1

/-- `protect(count)` -/
def protect (s : Stack) (count : Nat) : Res Stack :=
  if s.items.length < count then .stuck else .ok { s with protected_ := s.protected_ + count }

/-- `restore(count)` -/
def restore (s : Stack) (count : Nat) : Res Stack :=
  if s.protected_ < count then .stuck else .ok { s with protected_ := s.protected_ - count }

/-- `push(item)`: `items.insert(protected, item)` (Python's insert clamps the index; the index is read from the source) -/
def push (s : Stack) (v : Val) : Stack :=
  { s with items := s.items.take (s.idx Generated.C01.pushIndex) ++ v :: s.items.drop (s.idx Generated.C01.pushIndex) }

/-- `peek()` -/
def peek (s : Stack) : Res Val :=
  if s.items.isEmpty then .stuck
  else match s.items[s.idx Generated.C01.peekIndex]? with
    | some v => .ok v
    | none => .stuck

/-- `pop(count)`: `[items.pop(protected) for _ in range(count)]` (the index is read from the source; popping past the
end of the list raises) -/
def pop (s : Stack) (count : Nat) : Res (List Val × Stack) :=
  if s.items.length - s.protected_ < count then .stuck
  else if s.items.length - s.idx Generated.C01.popIndex < count then .stuck
  else .ok ((s.items.drop (s.idx Generated.C01.popIndex)).take count,
            { s with items := s.items.take (s.idx Generated.C01.popIndex) ++ (s.items.drop (s.idx Generated.C01.popIndex)).drop count })

def pop1 (s : Stack) : Res (Val × Stack) :=
  (s.pop 1).bind fun p =>
    match p with
    | ([a], s') => .ok (a, s')
    | _ => .stuck

def pop2 (s : Stack) : Res (Val × Val × Stack) :=
  (s.pop 2).bind fun p =>
    match p with
    | ([a, b], s') => .ok (a, b, s')
    | _ => .stuck

def pop3 (s : Stack) : Res (Val × Val × Val × Stack) :=
  (s.pop 3).bind fun p =>
    match p with
    | ([a, b, c], s') => .ok (a, b, c, s')
    | _ => .stuck

end Stack

namespace Impl

open Generated.C01 (Prim Conv Guard)

/-- `cls.prim` of the runtime class of a value of type `t`, for the classes that occur in the tables -/
def primOf : Ty → Option Prim
  | .int => some .int
  | .nat => some .nat
  | .mutez => some .mutez
  | .timestamp => some .timestamp
  | .bytes => some .bytes
  | .bool => some .bool
  | .string => some .string
  | .list _ => some .list
  | .set _ => some .set
  | .map _ _ => some .map
  | _ => none

/-- the parameter-free classes of the model by prim (a BLS class as a result is outside the model) -/
def tyOfPrim : Prim → Option Ty
  | .int => some .int
  | .nat => some .nat
  | .mutez => some .mutez
  | .timestamp => some .timestamp
  | .bytes => some .bytes
  | .bool => some .bool
  | .string => some .string
  | _ => none

def primsOf : List Ty → Option (List Prim)
  | [] => some []
  | t :: ts =>
    match primOf t, primsOf ts with
    | some p, some ps => some (p :: ps)
    | _, _ => none

def lookupRow {α : Type} (key : List Prim) : List (List Prim × α) → Option α
  | [] => none
  | (k, v) :: rest => if k = key then some v else lookupRow key rest

/-- `dispatch_types(*args, mapping=…)`: `key = tuple(arg.prim for arg in args)`, `assert key in mapping`, `mapping[key]`
(`none`: the assertion fails — or the table could not be read from the source) -/
def dispatch {α : Type} (table : Option (List (List Prim × α))) (args : List Ty) : Option α :=
  match table, primsOf args with
  | some rows, some key => lookupRow key rows
  | _, _ => none

/-- one result class -/
def dispatch1 (table : Option (List (List Prim × List Prim))) (args : List Ty) : Option Ty :=
  match dispatch table args with
  | some [r] => tyOfPrim r
  | _ => none

/-- one guard of a `from_value`: `assert value >= 0`; `if value.bit_length() > n: raise` (`|v| ≥ 2^n`) -/
def guardOk (v : Int) : Guard → Bool
  | .assertNonneg => decide (0 ≤ v)
  | .overflowIfBitsGt n => decide (-(2 ^ n) < v ∧ v < 2 ^ n)

def guardsOf (p : Prim) : Option (List Guard) :=
  match Generated.C01.guards with
  | some rows => (rows.find? (fun r => r.1 = p)).map (·.2)
  | none => none

/-- `XType.from_value(v)` for the integer classes, with the guards read from the source: `nat` asserts `v ≥ 0`; `mutez`
asserts `v ≥ 0` and at most 63 bits (a guard failing is the *runtime failure* outcome: the operation fails, e.g. on mutez
overflow) -/
def numFromValue (t : Ty) (v : Int) : Res Val :=
  match t with
  | .int | .nat | .mutez | .timestamp =>
    match (primOf t).bind guardsOf with
    | some gs => if gs.all (guardOk v) then .ok (.num t v) else .rtfail
    | none => .stuck
  | _ => .stuck

/-- `dispatch_types` table of ADD (integer classes only; BLS is C21) -/
def addTy (a b : Ty) : Option Ty := dispatch1 Generated.C01.addTable [a, b]

def subTy (a b : Ty) : Option Ty := dispatch1 Generated.C01.subTable [a, b]

def mulTy (a b : Ty) : Option Ty := dispatch1 Generated.C01.mulTable [a, b]

def negTy (a : Ty) : Option Ty := dispatch1 Generated.C01.negTable [a]

/-- `dispatch_types` table of EDIV: (quotient class, remainder class) -/
def edivTy (a b : Ty) : Option (Ty × Ty) :=
  match dispatch Generated.C01.edivTable [a, b] with
  | some [q, r] =>
    match tyOfPrim q, tyOfPrim r with
    | some tq, some tr => some (tq, tr)
    | _, _ => none
  | _ => none

/-- a row `(res_type, convert)` of boolean.py / generic.py -/
def convRow (table : Option (List (List Prim × (Prim × Conv)))) (args : List Ty) : Option (Ty × Conv) :=
  match dispatch table args with
  | some (r, c) => (tyOfPrim r).map fun t => (t, c)
  | none => none

/-- the operand classes an `assert_type_in(…)` / `assert_type_equal(…)` accepts, read from the source -/
def classIn (classes : Option (List Prim)) (t : Ty) : Bool :=
  match classes, primOf t with
  | some cs, some p => cs.contains p
  | _, _ => false

/-- EDIV's arithmetic: `q, r = divmod(a, b)` (floors), then `if r < 0: r += abs(b); q += 1` -/
def pyEdiv (a b : Int) : Int × Int :=
  let q := Int.fdiv a b
  let r := Int.fmod a b
  if r < 0 then (q + 1, r + Int.ofNat b.natAbs) else (q, r)

/-- Python's `a & b` on ints: arbitrary precision two's complement (`-[m+1]` is `~m`) -/
def pyAnd : Int → Int → Int
  | .ofNat m, .ofNat n => Int.ofNat (m &&& n)
  | .negSucc m, .ofNat n => Int.ofNat (n - (m &&& n))       -- ~m & n
  | .ofNat m, .negSucc n => Int.ofNat (m - (m &&& n))       -- m & ~n
  | .negSucc m, .negSucc n => Int.negSucc (m ||| n)         -- ~m & ~n = ~(m | n)

/-- Python's `a | b` -/
def pyOr : Int → Int → Int
  | .ofNat m, .ofNat n => Int.ofNat (m ||| n)
  | .negSucc m, .ofNat n => Int.negSucc (m - (m &&& n))     -- ~m | n = ~(m & ~n)
  | .ofNat m, .negSucc n => Int.negSucc (n - (m &&& n))
  | .negSucc m, .negSucc n => Int.negSucc (m &&& n)         -- ~m | ~n = ~(m & n)

/-- Python's `a ^ b` -/
def pyXor : Int → Int → Int
  | .ofNat m, .ofNat n => Int.ofNat (m ^^^ n)
  | .negSucc m, .ofNat n => Int.negSucc (m ^^^ n)           -- ~m ^ n = ~(m ^ n)
  | .ofNat m, .negSucc n => Int.negSucc (m ^^^ n)
  | .negSucc m, .negSucc n => Int.ofNat (m ^^^ n)

/-- `execute_shift`: both operands `nat`, `assert int(b) < 257` (the bound is read from the source); Python rejects a
negative shift count -/
def execShift (shift : Int → Nat → Int) (a b : Val) : Res Val :=
  match a, b with
  | .num .nat x, .num .nat y =>
    match Generated.C01.shiftLimit with
    | some limit => if y < (limit : Int) then (if y < 0 then .stuck else numFromValue .nat (shift x y.toNat)) else .rtfail
    | none => .stuck
  | _, _ => .stuck

/-- Python `<` on two lists of ints (str / bytes comparison) -/
def listLt : List Nat → List Nat → Bool
  | [], [] => false
  | [], _ :: _ => true
  | _ :: _, [] => false
  | a :: as, b :: bs => if a < b then true else if b < a then false else listLt as bs

/-- `compare(a, b)` of instructions/compare.py on the simple classes modelled here
(`==` then `<`; the general order is property C03) -/
def compareVals : Val → Val → Option Int
  | .num _ a, .num _ b => some (if a = b then 0 else if a < b then -1 else 1)
  | .str a, .str b => some (if a = b then 0 else if listLt a b then -1 else 1)
  | .bytes a, .bytes b => some (if a = b then 0 else if listLt a b then -1 else 1)
  | .bool a, .bool b => some (if a = b then 0 else if (!a && b) then -1 else 1)
  | .unit, .unit => some 0
  | _, _ => none

/-- `ListType.from_items(items)` as used by MAP: element class = class of the first item -/
def listFromItems (items : List Val) : Res Val :=
  match items with
  | [] => .stuck
  | x :: rest => if rest.all (fun y => typeOf y = typeOf x) then .ok (.list (typeOf x) items) else .stuck

/-- `MapType.from_items` as used by MAP over a map (items are `(key, value)` in the source order) -/
def mapFromItems (items : List Val) : Res Val :=
  match items with
  | .pair k v :: rest =>
    if rest.all (fun y => typeOf y = .pair (typeOf k) (typeOf v)) then .ok (.map (typeOf k) (typeOf v) items) else .stuck
  | _ => .stuck

/-- `PairType.from_comb(items)`: `create_type` asserts at least two items, `init` nests to the right -/
def fromComb : List Val → Res Val
  | [a, b] => .ok (.pair a b)
  | a :: b :: c :: rest => (fromComb (b :: c :: rest)).bind fun r => .ok (.pair a r)
  | _ => .stuck

/-- `PairType.iter_comb(include_nodes)`: `yield self` (with nodes), then the first item, then — `i == 1` — the
second item's own `iter_comb` if it is a pair, else the item itself (the last equation) -/
def iterComb (nodes : Bool) : Val → List Val
  | .pair a b => (if nodes then [Val.pair a b] else []) ++ a :: iterComb nodes b
  | v => [v]

/-- `PairType.unpairn_comb(count)`: like `iter_comb`, but descends into the second item only while `count > 0` -/
def unpairnComb : Nat → Val → List Val
  | count + 1, .pair a (.pair c d) => a :: unpairnComb count (.pair c d)
  | _, .pair a b => [a, b]
  | _, v => [v]

/-- `[element if 2 * i + 1 == idx else item for i, item in enumerate(leaves)]` (enumeration continuing at `i`) -/
def replaceLeaf (idx : Nat) (element : Val) : Nat → List Val → List Val
  | _, [] => []
  | i, x :: xs => (if 2 * i + 1 = idx then element else x) :: replaceLeaf idx element (i + 1) xs

/-- `[item for i, item in enumerate(leaves) if 2 * i + 1 < idx]` -/
def leavesBelow (idx : Nat) : Nat → List Val → List Val
  | _, [] => []
  | i, x :: xs => if 2 * i + 1 < idx then x :: leavesBelow idx (i + 1) xs else leavesBelow idx (i + 1) xs

/-- `if isinstance(element, PairType): leaves.extend(element.iter_comb()) else: leaves.append(element)` -/
def elementLeaves (element : Val) : List Val :=
  match element with
  | .pair _ _ => iterComb false element
  | _ => [element]

/-- `PairType.update_comb(idx, element)` -/
def updateComb (idx : Nat) (element : Val) (p : Val) : Res Val :=
  if idx % 2 = 1 then fromComb (replaceLeaf idx element 0 (iterComb false p))
  else fromComb (leavesBelow idx 0 (iterComb false p) ++ elementLeaves element)

/-- EDIV after `pop2`: dispatch, `None` on a zero divisor, else `Some (Pair q r)` built by `from_value` / `from_comb` -/
def execEdiv (a b : Val) : Res Val :=
  match a, b with
  | .num ta x, .num tb y =>
    match edivTy ta tb with
    | some (qt, rt) =>
      if y = 0 then .ok (.none (.pair qt rt))
      else do
        let q ← numFromValue qt (pyEdiv x y).1
        let r ← numFromValue rt (pyEdiv x y).2
        let p ← fromComb [q, r]
        pure (.some p)
    | none => .stuck
  | _, _ => .stuck

/-- SUB_MUTEZ after `pop2` -/
def execSubMutez (a b : Val) : Res Val :=
  match a, b with
  | .num .mutez x, .num .mutez y =>
    if x < y then .ok (.none .mutez)
    else do let r ← numFromValue .mutez (x - y); pure (.some r)
  | _, _ => .stuck

/-- `res_type.from_value(op(convert(a), convert(b)))` for a row `(res_type, convert)`: `bool` on two booleans, `int` on two
numbers; any other combination is not part of the model -/
def execBitwise (table : Option (List (List Prim × (Prim × Conv)))) (opB : Bool → Bool → Bool) (opI : Int → Int → Int)
    (a b : Val) : Res Val :=
  match convRow table [typeOf a, typeOf b] with
  | some (.bool, .bool) =>
    match a, b with
    | .bool x, .bool y => .ok (.bool (opB x y))
    | _, _ => .stuck
  | some (rt, .int) =>
    match a, b with
    | .num _ x, .num _ y => numFromValue rt (opI x y)
    | _, _ => .stuck
  | _ => .stuck

/-- AND after `pop2`: `dispatch_types` {(bool,bool), (nat,nat), (nat,int), (int,nat)} then `from_value(convert(a) & convert(b))` -/
def execAnd (a b : Val) : Res Val := execBitwise Generated.C01.andTable (· && ·) pyAnd a b

/-- OR / XOR (`execute_boolean_add`): {(bool,bool), (nat,nat)} -/
def execOr (a b : Val) : Res Val := execBitwise Generated.C01.boolAddTable (· || ·) pyOr a b

def execXor (a b : Val) : Res Val := execBitwise Generated.C01.boolAddTable (· != ·) pyXor a b

/-- NOT after `pop1`: `res_type.from_value(convert(a))` with `convert` = `lambda x: ~int(x)` / `lambda x: not bool(x)` -/
def execNot (a : Val) : Res Val :=
  match convRow Generated.C01.notTable [typeOf a] with
  | some (.bool, .not) =>
    match a with
    | .bool x => .ok (.bool (!x))
    | _ => .stuck
  | some (rt, .invert) =>
    match a with
    | .num _ x => numFromValue rt (-x - 1)
    | _ => .stuck
  | _ => .stuck

/-- NEG after `pop1`: `res_type.from_value(-int(a))` for the integer classes -/
def execNeg (a : Val) : Res Val :=
  match a with
  | .num ta x =>
    match negTy ta with
    | some t => numFromValue t (-x)
    | none => .stuck
  | _ => .stuck

/-- `a == b` (`__eq__`) on the key classes of the model: `IntType` and its subclasses compare their values
(`isinstance(other, IntType)`), strings / bytes / booleans their contents, `UnitType` is equal to itself -/
def valEq : Val → Val → Bool
  | .num _ a, .num _ b => a == b
  | .str a, .str b => a == b
  | .bytes a, .bytes b => a == b
  | .bool a, .bool b => a == b
  | .unit, .unit => true
  | _, _ => false

/-- `a < b` (`__lt__`) on the same classes (`UnitType.__lt__` is `False`) -/
def valLt : Val → Val → Bool
  | .num _ a, .num _ b => decide (a < b)
  | .str a, .str b => listLt a b
  | .bytes a, .bytes b => listLt a b
  | .bool a, .bool b => !a && b
  | _, _ => false

/-- key classes inside the model (the others are property C03 / C14) -/
def keyModelled : Ty → Bool
  | .int | .nat | .mutez | .timestamp | .string | .bytes | .bool | .unit => true
  | _ => false

/-- the model keeps the `(key, value)` tuples of a `MapType` as `pair key value` values -/
def toKV : Val → Val × Val
  | .pair k v => (k, v)
  | v => (v, v)

def ofKV (e : Val × Val) : Val := .pair e.1 e.2

def isPairVal : Val → Bool
  | .pair _ _ => true
  | _ => false

/-- MEM after `pop2`: `SetType.contains` (`assert_type_equal`, `item in self.items`) / `MapType.contains` (`get(…) is not None`) -/
def execMem (key src : Val) : Res Val :=
  match src with
  | .set t xs =>
    if keyModelled t && typeOf key == t then .ok (.bool (_root_.Impl.Coll.Set.contains valEq xs key)) else .stuck
  | .map k _ items =>
    if keyModelled k && items.all isPairVal && typeOf key == k then
      .ok (.bool (_root_.Impl.Coll.Map.contains valEq (items.map toKV) key))
    else .stuck
  -- `BigMapType.contains` is `MapType.contains`: `self.get(key, dup=False) is not None`; `BigMapType.get` searches `self` (the
  -- items, then the removed keys with value `None`) and, for a key found in neither, asks the context — which holds nothing for
  -- the temporary id of a map created in the run: `None`
  | .bigMap k _ items =>
    if keyModelled k && items.all isPairVal && typeOf key == k then
      .ok (.bool (_root_.Impl.Coll.Map.contains valEq (items.map toKV) key))
    else .stuck
  | _ => .stuck

/-- GET after `pop2`: `MapType.get` then `OptionType.none(src.args[1])` / `from_some` -/
def execGet (key src : Val) : Res Val :=
  match src with
  | .map k v items =>
    if keyModelled k && items.all isPairVal && typeOf key == k then
      match _root_.Impl.Coll.Map.get valEq (items.map toKV) key with
      | some y => .ok (.some y)
      | none => .ok (.none v)
    else .stuck
  | .bigMap k v items =>
    if keyModelled k && items.all isPairVal && typeOf key == k then
      match _root_.Impl.Coll.Map.get valEq (items.map toKV) key with
      | some y => .ok (.some y)
      | none => .ok (.none v)
    else .stuck
  | _ => .stuck

/-- `src.update(key, None if val.is_none() else val.get_some())` → `(prev_val, dst)` -/
def mapUpdate (k v : Ty) (items : List Val) (key : Val) (val : Option Val) : Res (Option Val × Val) :=
  if keyModelled k && items.all isPairVal && typeOf key == k then
    let r := _root_.Impl.Coll.Map.update valEq valLt (items.map toKV) key val
    .ok (r.1, .map k v (r.2.map ofKV))
  else .stuck

/-- `BigMapType.update` on a map created in the run: `prev_val = self.get(key, dup=False)` is found among the items or is
`None`, so the branches are those of `MapType.update` (replace / filter out / `sorted(items + [(key, val)])` / unchanged); the
bookkeeping of `removed_keys` does not show in any later answer.  Result: `type(self)(items=…, ptr=self.ptr, …)` -/
def bigMapUpdate (k v : Ty) (items : List Val) (key : Val) (val : Option Val) : Res (Option Val × Val) :=
  if keyModelled k && items.all isPairVal && typeOf key == k then
    let r := _root_.Impl.Coll.Map.update valEq valLt (items.map toKV) key val
    .ok (r.1, .bigMap k v (r.2.map ofKV))
  else .stuck

/-- UPDATE after `pop3`: a `bool` selects `SetType.add` / `remove`, an `option` goes to `MapType.update` -/
def execUpdate (key val src : Val) : Res Val :=
  match val, src with
  | .bool b, .set t xs =>
    if keyModelled t && typeOf key == t then
      .ok (.set t (if b then _root_.Impl.Coll.Set.add valEq valLt xs key else _root_.Impl.Coll.Set.remove valEq xs key))
    else .stuck
  | .none _, .map k v items => (mapUpdate k v items key none).bind fun r => .ok r.2
  | .some y, .map k v items => (mapUpdate k v items key (some y)).bind fun r => .ok r.2
  | .none _, .bigMap k v items => (bigMapUpdate k v items key none).bind fun r => .ok r.2
  | .some y, .bigMap k v items => (bigMapUpdate k v items key (some y)).bind fun r => .ok r.2
  | _, _ => .stuck

/-- GET_AND_UPDATE after `pop3`: `(res, dst)`; `res` is pushed last -/
def execGetAndUpdate (key val src : Val) : Res (Val × Val) :=
  match val, src with
  | .none _, .map k v items =>
    (mapUpdate k v items key none).bind fun r => .ok ((match r.1 with | some p => Val.some p | none => Val.none v), r.2)
  | .some y, .map k v items =>
    (mapUpdate k v items key (some y)).bind fun r => .ok ((match r.1 with | some p => Val.some p | none => Val.none v), r.2)
  | .none _, .bigMap k v items =>
    (bigMapUpdate k v items key none).bind fun r => .ok ((match r.1 with | some p => Val.some p | none => Val.none v), r.2)
  | .some y, .bigMap k v items =>
    (bigMapUpdate k v items key (some y)).bind fun r => .ok ((match r.1 with | some p => Val.some p | none => Val.none v), r.2)
  | _, _ => .stuck

/-- `execute_hash` after `pop1`: `assert_type_equal(BytesType)`, `BytesType.from_value(hash_digest(bytes(a)))` -/
def execHash (h : List Nat → List Nat) (a : Val) : Res Val :=
  match a with
  | .bytes b => .ok (.bytes (h b))
  | _ => .stuck

def strVals : List Val → Option (List (List Nat))
  | [] => some []
  | .str s :: rest => (strVals rest).map (s :: ·)
  | _ => none

def bytesVals : List Val → Option (List (List Nat))
  | [] => some []
  | .bytes s :: rest => (bytesVals rest).map (s :: ·)
  | _ => none

/-- `len(src)` of the classes with a `__len__` -/
def valLen : Val → Option Nat
  | .str x => some x.length
  | .bytes x => some x.length
  | .list _ xs => some xs.length
  | .map _ _ xs => some xs.length
  | .set _ xs => some xs.length
  | _ => none

/-- SIZE after `pop1`: `src.assert_type_in(…)` (classes read from the source), `NatType.from_value(len(src))` -/
def execSize (a : Val) : Res Val :=
  if classIn Generated.C01.sizeClasses (typeOf a) then
    match valLen a with
    | some n => numFromValue .nat n
    | none => .stuck
  else .stuck

/-- CONCAT on a list: `dispatch_types(a.args[0], …)` on the element class, `res_type.from_value(delim.join(map(convert, a)))` -/
def execConcatList (t : Ty) (xs : List Val) : Res Val :=
  match convRow Generated.C01.concatListTable [t] with
  | some (.string, .str) =>
    match strVals xs with
    | some ss => .ok (.str ss.flatten)
    | none => .stuck
  | some (.bytes, .bytes) =>
    match bytesVals xs with
    | some ss => .ok (.bytes ss.flatten)
    | none => .stuck
  | _ => .stuck

/-- CONCAT on two operands: `res_type.from_value(convert(a) + convert(b))` -/
def execConcatPair (a b : Val) : Res Val :=
  match convRow Generated.C01.concatPairTable [typeOf a, typeOf b] with
  | some (.string, .str) =>
    match a, b with
    | .str x, .str y => .ok (.str (x ++ y))
    | _, _ => .stuck
  | some (.bytes, .bytes) =>
    match a, b with
    | .bytes x, .bytes y => .ok (.bytes (x ++ y))
    | _, _ => .stuck
  | _ => .stuck

/-- SLICE after `pop3`: `offset.assert_type_equal(…)`, `length.assert_type_equal(…)`, `s.assert_type_in(…)` (classes read
from the source), then `s[start:stop]` when `0 <= start < len(s) and stop <= len(s)` -/
def execSlice (o l v : Val) : Res Val :=
  if classIn Generated.C01.sliceOffsetClass (typeOf o) && classIn Generated.C01.sliceLengthClass (typeOf l)
      && classIn Generated.C01.sliceClasses (typeOf v) then
    match o, l with
    | .num _ off, .num _ len =>
      let start := off.toNat
      let stop := off.toNat + len.toNat
      match v with
      | .str x =>
        if start < x.length ∧ stop ≤ x.length then .ok (.some (.str ((x.drop start).take len.toNat)))
        else .ok (.none .string)
      | .bytes x =>
        if start < x.length ∧ stop ≤ x.length then .ok (.some (.bytes ((x.drop start).take len.toNat)))
        else .ok (.none .bytes)
      | _ => .stuck
    | _, _ => .stuck
  else .stuck

/-- BYTES after `pop1`: `a.assert_type_in(NatType, IntType)` (`issubclass`: every integer class passes),
`signed = not isinstance(a, NatType)` (`mutez` derives from `nat`), `length = (8 + (v + (v < 0)).bit_length()) // 8 if v
else 0` / `(7 + v.bit_length()) // 8`, `v.to_bytes(length, 'big', signed=signed)` (CPython's `bit_length` / `to_bytes` are
`PyNum`, Michelson/Arith.lean; an OverflowError — a negative `nat` — is an error) -/
def execBytes (a : Val) : Res Val :=
  match a with
  | .num t x =>
    let signed := !(t == .nat || t == .mutez)
    let length := if signed then (if x ≠ 0 then _root_.Impl.Arith.signedLen x else 0) else _root_.Impl.Arith.unsignedLen x
    match PyNum.toBytes x length signed with
    | some bs => .ok (.bytes bs)
    | none => .stuck
  | _ => .stuck

/-- NAT after `pop1`: `a.assert_type_in(BytesType)`, `NatType.from_value(int.from_bytes(bytes(a), 'big'))` -/
def execNat (a : Val) : Res Val :=
  match a with
  | .bytes b => numFromValue .nat (PyNum.fromBytes b false)
  | _ => .stuck

/-- VOTING_POWER after `pop1`: `address.assert_type_equal(KeyHashType)`,
`NatType.from_value(context.get_voting_power(str(address)))` -/
def execVotingPower (env : Env) (a : Val) : Res Val :=
  match a with
  | .atom .keyHash s => numFromValue .nat (env.votingPower s)
  | _ => .stuck

/-- HASH_KEY after `pop1`: `a.assert_type_equal(KeyType)`,
`KeyHashType.from_value(Key.from_encoded_key(str(a)).public_key_hash())` -/
def execHashKey (env : Env) (a : Val) : Res Val :=
  match a with
  | .atom .key s => .ok (.atom .keyHash (env.hashes.hashKey s))
  | _ => .stuck

/-! Phase C: address texts as Python handles them -/
/-- `value.partition('%')`: the text before the first `%` and the text after it -/
def pyPartition (s : List Nat) : List Nat × List Nat := (s.takeWhile (· != 37), (s.dropWhile (· != 37)).drop 1)

/-- `AddressType.from_value(value)` (also `ContractType.from_value`): `address, _, entrypoint = value.partition('%')`,
`if entrypoint == 'default': value = address` (`assert is_address(value)` concerns the opaque base58 part) -/
def addrFromValue (s : List Nat) : List Nat := if (pyPartition s).2 = defaultEp then (pyPartition s).1 else s

/-- `AddressType._split()`: `address, _, entrypoint = self.value.partition('%')`; `return address, entrypoint or 'default'` -/
def pySplit (s : List Nat) : List Nat × List Nat :=
  ((pyPartition s).1, if (pyPartition s).2 = [] then defaultEp else (pyPartition s).2)

/-- `is_pkh(address)`: a `tz…` text (the base58 check itself concerns the opaque part) -/
def isPkh (a : List Nat) : Bool := a.take 2 == [116, 122]

/-- ADDRESS after `pop1`: `contract.assert_type_in(ContractType)`, `AddressType.from_value(str(contract))` -/
def execAddress (a : Val) : Res Val :=
  match a with
  | .contract _ s => .ok (.atom .address (addrFromValue s))
  | _ => .stuck

/-- IMPLICIT_ACCOUNT after `pop1`: `key_hash.assert_type_equal(KeyHashType)`,
`ContractType.create_type(args=[UnitType]).from_value(str(key_hash))` -/
def execImplicitAccount (a : Val) : Res Val :=
  match a with
  | .atom .keyHash s => .ok (.contract .unit (addrFromValue s))
  | _ => .stuck

/-- `CONTRACT %entrypoint t` after `pop1` (no node: `get_entrypoint_type` answers `None` for an originated address —
"skip type checking"): `contract_address, address_entrypoint = address._split()`; inside the `try`: `assert 'default' in
(address_entrypoint, entrypoint)`, `if entrypoint == 'default': entrypoint = address_entrypoint`, `if
is_pkh(contract_address): assert entrypoint == 'default'; assert t.prim in ('unit', 'ticket')` (`Ty` has no ticket type,
so: `t = unit`),
`OptionType.from_some(contract_type.from_value(f'{contract_address}%{entrypoint}'))`; a failed assertion gives
`OptionType.none(contract_type)` -/
def execContract (t : Ty) (entrypoint : List Nat) (a : Val) : Res Val :=
  match a with
  | .atom .address s =>
    let contractAddress := (pySplit s).1
    let addressEntrypoint := (pySplit s).2
    if addressEntrypoint ≠ defaultEp ∧ entrypoint ≠ defaultEp then .ok (.none (.contract t))
    else
      let ep := if entrypoint = defaultEp then addressEntrypoint else entrypoint
      if isPkh contractAddress ∧ ¬ (ep = defaultEp ∧ t = .unit) then .ok (.none (.contract t))
      else .ok (.some (.contract t (addrFromValue (contractAddress ++ 37 :: ep))))
  | _ => .stuck

/-- SET_DELEGATE after `pop1`: `delegate.assert_type_equal(option key_hash)`,
`OperationType.delegation(source=context.get_self_address(), delegate=None if delegate.is_none() else str(delegate.get_some()))` -/
def execSetDelegate (env : Env) (a : Val) : Res Val :=
  match a with
  | .none .keyHash => .ok (.opDelegate env.self none)
  | .some (.atom .keyHash s) => .ok (.opDelegate env.self (some s))
  | _ => .stuck

/-- `EMIT %tag t` after `pop1`: `payload.assert_type_equal(event_type)`, `OperationType.event(source=…, event_type, payload, tag)` -/
def execEmit (env : Env) (tag : List Nat) (t : Ty) (a : Val) : Res Val :=
  if typeOf a = t then .ok (.opEmit env.self tag t a) else .stuck

/-- TRANSFER_TOKENS after `pop3`: `amount.assert_type_equal(MutezType)`, `isinstance(destination, ContractType)`,
`parameter.assert_type_equal(destination.args[0])` (no node: no second check), `OperationType.transaction(source=self,
destination=destination.get_address(), amount=int(amount), entrypoint=destination.get_entrypoint(), value=…, param_type)` -/
def execTransferTokens (env : Env) (parameter amount destination : Val) : Res Val :=
  match amount, destination with
  | .num .mutez m, .contract t s =>
    if typeOf parameter = t then .ok (.opTransfer env.self (pySplit s).1 (pySplit s).2 m parameter t) else .stuck
  | _, _ => .stuck

/-! Phase B (first half): `a.pack()` = `b'\x05' + forge_micheline(a.to_micheline_value(mode='optimized'))` -/
/-- `prim_tags[name]` (the table `forge_micheline` uses, read from the source by property C05's translator) -/
def primTagOf (name : String) : Option Nat := _root_.Impl.Lower.primTag name

def primNode (name : String) (args : List BMich) : Option BMich := (primTagOf name).map fun t => .prim t args none

/-- the tail of `PairType.to_micheline_value` in mode `optimized`, given `args`: `len(args) == 2` → `Pair`, `== 3` →
`Pair a (Pair b c)`, `>= 4` → the list itself, else `raise AssertionError` -/
def pairNode (args : List BMich) : Option BMich :=
  if args.length = 2 then primNode "Pair" args
  else if args.length = 3 then
    match args with
    | [x, y, z] => (primNode "Pair" [y, z]).bind fun inner => primNode "Pair" [x, inner]
    | _ => none
  else if args.length ≥ 4 then some (.seq args)
  else none

mutual
  /-- first component: `v.to_micheline_value(mode='optimized')` with the primitives looked up in `prim_tags`; second:
  `[x.to_micheline_value(…) for x in v.iter_comb()]` if `v` is a pair (what the enclosing pair's `iter_comb` yields for its
  second item), else the one-element list.  `none`: a class outside the model (or a primitive missing from the table) -/
  def toMichBoth : Val → Option (BMich × List BMich)
    | .pair a b =>
      match toMichBoth a, toMichBoth b with
      | some x, some y => (pairNode (x.1 :: y.2)).map fun m => (m, x.1 :: y.2)
      | _, _ => none
    | .unit => (primNode "Unit" []).map fun m => (m, [m])
    | .bool b => (primNode (if b then "True" else "False") []).map fun m => (m, [m])
    | .num _ v => some (.int v, [.int v])
    | .str s => some (.str s, [.str s])
    | .bytes b => some (.bytes b, [.bytes b])
    | .some v => (toMichBoth v).bind fun x => (primNode "Some" [x.1]).map fun m => (m, [m])
    | .none _ => (primNode "None" []).map fun m => (m, [m])
    | .left v _ => (toMichBoth v).bind fun x => (primNode "Left" [x.1]).map fun m => (m, [m])
    | .right _ v => (toMichBoth v).bind fun x => (primNode "Right" [x.1]).map fun m => (m, [m])
    | .list _ xs => (toMichL xs).map fun ys => (.seq ys, [.seq ys])
    | .set _ xs => (toMichL xs).map fun ys => (.seq ys, [.seq ys])
    | .map _ _ xs => (toMichE xs).map fun ys => (.seq ys, [.seq ys])
    | _ => none
  def toMichL : List Val → Option (List BMich)
    | [] => some []
    | x :: xs =>
      match toMichBoth x, toMichL xs with
      | some y, some ys => some (y.1 :: ys)
      | _, _ => none
  /-- `[{'prim': 'Elt', 'args': [x.to_micheline_value(…) for x in elt]} for elt in self]` -/
  def toMichE : List Val → Option (List BMich)
    | [] => some []
    | .pair k v :: xs =>
      match toMichBoth k, toMichBoth v, toMichE xs with
      | some a, some b, some ys => (primNode "Elt" [a.1, b.1]).map fun e => e :: ys
      | _, _, _ => none
    | _ :: _ => none
end

/-- PACK after `pop1`: `BytesType.from_value(a.pack())`; `forge_micheline` is property C05's mirror `Impl.Forge.forge`
(an `OverflowError` of `len(data).to_bytes(4, 'big')` is the runtime failure) -/
def execPack (a : Val) : Res Val :=
  match toMichBoth a with
  | none => .stuck
  | some m =>
    match _root_.Impl.Forge.forge m.1 with
    | some bs => .ok (.bytes (5 :: bs))
    | none => .rtfail

/-! Extension 3, phase 1: `UNPACK t` — `cls.args[0].unpack(bytes(a))` inside `try … except Exception` (EVERY exception gives
`None`): `assert data.startswith(b'\x05')`, `unforge_micheline(data[1:])` (property C05's mirror `Impl.Forge.unforge` with the
`prim_int` table and the strictness flag read from the source), then `cls.from_micheline_value(val_expr)` class by class.
Expressions are `BMich` (primitives as tags, texts as their UTF-8 bytes): `expr['prim'] = prim_int[tag]` is
`Impl.Lower.primOfTag`; `value.decode()` raises on invalid UTF-8. -/
/-- `parse_micheline_value(val_expr, handlers)`: `assert isinstance(val_expr, dict)`; `prim, args = val_expr.get('prim'),
val_expr.get('args', [])` (a literal is a dict without `prim`); `assert not val_expr.get('annots')` (the repair C01-5: an
annotation list read from bytes is never empty); `assert (prim, len(args)) in handlers`.  Result: the position of the
handler and `args` -/
def parseValue (handlers : List (String × Nat)) (m : BMich) : Option (Nat × List BMich) :=
  match m with
  | .prim t args annot =>
    if annot.isSome then none
    else
      match _root_.Impl.Lower.primOfTag t with
      | none => none
      | some name => (handlers.findIdx? fun h => h.1 == name && h.2 == args.length).map fun i => (i, args)
  | _ => none

/-- `parse_micheline_literal(val_expr, {core_type: handler})`: the literal of the wanted kind (`assert isinstance(val_expr,
dict)`: not a sequence; a primitive application has the first key `prim`, which is no handler) -/
def litInt : BMich → Option Int
  | .int v => some v
  | _ => none

/-- `{'string': value.decode()}` followed by `StringType.from_value`: `assert len(value) == len(value.encode())` — the text
decodes and is ASCII, i.e. every byte is below 128 — and (the repair C01-7) `assert all(c == '\n' or ' ' <= c <= '~' …)` -/
def strFromValue (s : List Nat) : Option Val :=
  if s.all (fun c => decide (c < 128)) && s.all (fun c => c == 10 || (decide (32 ≤ c) && decide (c ≤ 126))) then some (.str s) else none

/-- `check_constraints(items)` of `SetType` / `MapType`: C14's mirror with the `__eq__` / `__lt__` of the key classes -/
def constraintsOk (ks : List Val) : Bool :=
  match _root_.Impl.Coll.checkConstraints valEq valLt ks with
  | .ok _ => true
  | .error _ => false

def mapAll (f : BMich → Option Val) : List BMich → Option (List Val)
  | [] => some []
  | x :: xs =>
    match f x, mapAll f xs with
    | some v, some vs => some (v :: vs)
    | _, _ => none

def tuple2 : Option Val → Option Val → Option Val
  | some a, some b => some (.pair a b)
  | _, _ => none

/-- `parse_elt` of `MapType.parse_micheline_value`: `parse_micheline_value(elt_expr, {('Elt', 2): …})` on every item -/
def parseElts (fk fv : BMich → Option Val) : List BMich → Option (List Val)
  | [] => some []
  | e :: xs =>
    match parseValue [("Elt", 2)] e with
    | some (_, [a, b]) =>
      match tuple2 (fk a) (fv b), parseElts fk fv xs with
      | some p, some ps => some (p :: ps)
      | _, _ => none
    | _ => none

/-- the head of `PairType.from_micheline_value`: a dict with `prim == 'Pair'` (and, repair C01-5, no annotations) gives its
`args`, a list is `args` itself -/
def pairArgs : BMich → Option (List BMich)
  | .prim t args annot =>
    if _root_.Impl.Lower.primOfTag t = some "Pair" ∧ annot.isSome = false then some args else none
  | .seq xs => some xs
  | _ => none

def isPairClass : Ty → Bool
  | .pair _ _ => true
  | _ => false

/-- `cls.from_micheline_value(val_expr)` for the classes of `Typing.unpackable` (`none`: an exception) -/
def fromMich (rt : List Nat → Option Int) : Ty → BMich → Option Val
  | .unit, m => (parseValue [("Unit", 0)] m).map fun _ => .unit
  | .bool, m =>
    match parseValue [("False", 0), ("True", 0)] m with
    | some (0, _) => some (.bool false)
    | some (1, _) => some (.bool true)
    | _ => none
  | .int, m => (litInt m).map fun v => .num .int v
  -- `NatType.from_value` / `MutezType.from_value`: the guards read from the source (`numFromValue`)
  | .nat, m =>
    match litInt m with
    | some v => (match numFromValue .nat v with | .ok r => some r | _ => none)
    | none => none
  | .mutez, m =>
    match litInt m with
    | some v => (match numFromValue .mutez v with | .ok r => some r | _ => none)
    | none => none
  -- `{'int': int, 'string': optimize_timestamp}`
  | .timestamp, m =>
    match m with
    | .int v => some (.num .timestamp v)
    | .str s => (rt s).map fun v => .num .timestamp v
    | _ => none
  | .string, m =>
    match m with
    | .str s => strFromValue s
    | _ => none
  | .bytes, m =>
    match m with
    | .bytes b => some (.bytes b)
    | _ => none
  | .option t, m =>
    match parseValue [("Some", 1), ("None", 0)] m with
    | some (0, [x]) => (fromMich rt t x).map .some
    | some (1, _) => some (.none t)
    | _ => none
  | .or l r, m =>
    match parseValue [("Left", 1), ("Right", 1)] m with
    | some (0, [x]) => (fromMich rt l x).map fun v => .left v r
    | some (1, [x]) => (fromMich rt r x).map fun v => .right l v
    | _ => none
  | .pair l r, m =>
    match pairArgs m with
    | none => none
    | some args =>
      if args.length = 2 then
        match args with
        | [x, y] => tuple2 (fromMich rt l x) (fromMich rt r y)
        | _ => none
      else if args.length > 2 then
        -- repair C01-6: `assert issubclass(cls.args[1], PairType)`; then `cls.args[1].from_micheline_value(args[1:])`
        if isPairClass r then
          match args with
          | x :: rest => tuple2 (fromMich rt l x) (fromMich rt r (.seq rest))
          | [] => none
        else none
      else none
  | .list t, m =>
    match m with
    | .seq xs => (mapAll (fromMich rt t) xs).map fun vs => .list t vs
    | _ => none
  | .set t, m =>
    match m with
    | .seq xs => (mapAll (fromMich rt t) xs).bind fun vs => if constraintsOk vs then some (.set t vs) else none
    | _ => none
  | .map k v, m =>
    match m with
    | .seq xs =>
      (parseElts (fromMich rt k) (fromMich rt v) xs).bind fun items =>
        if constraintsOk (items.map fun e => (toKV e).1) then some (.map k v items) else none
    | _ => none
  | _, _ => none

/-- UNPACK after `pop1`: `a.assert_type_equal(BytesType)`; `try: some = cls.args[0].unpack(bytes(a)); res =
OptionType.from_some(some)`; `except Exception: res = OptionType.none(cls.args[0])`.  `unpack`: `assert cls.is_packable()`
(true for the classes of the model's `unpackable`), `assert data.startswith(b'\x05')`, `unforge_micheline(data[1:])`,
`from_micheline_value` -/
def execUnpack (env : Env) (t : Ty) (a : Val) : Res Val :=
  match a with
  | .bytes b =>
    match b with
    | 5 :: rest =>
      match (_root_.Impl.Forge.unforge _root_.Impl.Lower.known _root_.Impl.Lower.strict rest).bind (fromMich env.readTimestamp t) with
      | some v => .ok (.some v)
      | none => .ok (.none t)
    | _ => .ok (.none t)
  | _ => .stuck

/-- CHECK_SIGNATURE after `pop3`: `pk.assert_type_equal(KeyType)`, `sig.assert_type_equal(SignatureType)`,
`msg.assert_type_equal(BytesType)`, `key = Key.from_encoded_key(str(pk))`, `try: key.verify(signature=str(sig),
message=bytes(msg)) except ValueError: res = BoolType(False) else: res = BoolType(True)` — whether `verify` raises is the
parameter `env.hashes.checkSig` -/
def execCheckSignature (env : Env) (pk sig msg : Val) : Res Val :=
  match pk, sig, msg with
  | .atom .key k, .atom .signature s, .bytes m => .ok (.bool (env.hashes.checkSig k s m))
  | _, _, _ => .stuck

/-- the instructions of extension 2 of the shape `a = stack.pop1(); a.assert_type_…(…); res = …; stack.push(res)`:
`res` for the popped `a` -/
def execUn (env : Env) (i : Instr) (a : Val) : Res Val :=
  match i with
  | .NAT => execNat a
  | .BYTES => execBytes a
  | .VOTING_POWER => execVotingPower env a
  | .HASH_KEY => execHashKey env a
  | .ADDRESS => execAddress a
  | .IMPLICIT_ACCOUNT => execImplicitAccount a
  | .CONTRACT t ep => execContract t ep a
  | .SET_DELEGATE => execSetDelegate env a
  | .EMIT tag t => execEmit env tag t a
  | .PACK => execPack a
  | .UNPACK t => execUnpack env t a
  | _ => .stuck

/-- the instructions of extensions 2 and 3 -/
def stepExt (env : Env) (i : Instr) (s : Stack) : Res Stack :=
  match i with
  -- NEVER: `never = stack.pop1(); never.assert_type_equal(NeverType)`; nothing is pushed
  | .NEVER => do let (a, s) ← s.pop1; if typeOf a = .never then pure s else .stuck
  -- `SELF %entrypoint`: `res_type.from_value(f'{self_address}%{entrypoint}')`, `res_type = contract self_type` where
  -- `self_type = get_entrypoint_type(context, entrypoint)` is the type the instruction form carries (looked up in the
  -- parameter section at the driver boundary)
  | .SELF ep t => pure (s.push (.contract t (addrFromValue (env.self ++ 37 :: ep))))
  | .TRANSFER_TOKENS => do let (a, b, c, s) ← s.pop3; let r ← execTransferTokens env a b c; pure (s.push r)
  | .CHECK_SIGNATURE => do let (a, b, c, s) ← s.pop3; let r ← execCheckSignature env a b c; pure (s.push r)
  -- `res = BigMapType.empty(key_type, val_type)`; `res.attach_context(context)` gives it a temporary id
  | .EMPTY_BIG_MAP k v => pure (s.push (.bigMap k v []))
  | i => do let (a, s) ← s.pop1; let r ← execUn env i a; pure (s.push r)

/-- further instructions without sub-programs (kept apart from `step` so that either pattern match stays small) -/
def stepMore (env : Env) (i : Instr) (s : Stack) : Res Stack :=
  match i with
  | .TOTAL_VOTING_POWER => do let r ← numFromValue .nat env.totalVotingPower; pure (s.push r)
  | .MIN_BLOCK_TIME => do let r ← numFromValue .nat env.minBlockTime; pure (s.push r)
  | .BLAKE2B => do let (a, s) ← s.pop1; let r ← execHash env.hashes.blake2b a; pure (s.push r)
  | .SHA256 => do let (a, s) ← s.pop1; let r ← execHash env.hashes.sha256 a; pure (s.push r)
  | .SHA512 => do let (a, s) ← s.pop1; let r ← execHash env.hashes.sha512 a; pure (s.push r)
  | .KECCAK => do let (a, s) ← s.pop1; let r ← execHash env.hashes.keccak a; pure (s.push r)
  | .SHA3 => do let (a, s) ← s.pop1; let r ← execHash env.hashes.sha3 a; pure (s.push r)
  | .CAST _ => do let (a, s) ← s.pop1; pure (s.push a)      -- the cast itself is commented out in the source
  | .RENAME => pure s
  | i => stepExt env i s

/-- instructions that touch only the top of the stack -/
def step (env : Env) (i : Instr) (s : Stack) : Res Stack :=
  match i with
  | .DROP => do let (_, s) ← s.pop1; pure s
  | .DROPN n => do let (_, s) ← s.pop n; pure s
  | .DUP => do let a ← s.peek; pure (s.push a)
  | .DUPN n =>
    if n = 0 then .stuck   -- `DUP 0` is rejected by Tezos; outside the modelled domain
    else do
      let s ← s.protect (n - 1)
      let a ← s.peek
      let s ← s.restore (n - 1)
      pure (s.push a)
  | .SWAP => do let (a, b, s) ← s.pop2; pure ((s.push a).push b)
  | .DIG n => do
      let s ← s.protect n
      let (a, s) ← s.pop1
      let s ← s.restore n
      pure (s.push a)
  | .DUG n => do
      let (a, s) ← s.pop1
      let s ← s.protect n
      let s := s.push a
      s.restore n
  | .PUSH _ v => pure (s.push v)
  | .LAMBDA a b body => pure (s.push (.lam a b body))
  | .APPLY => do
      let (left, lam, s) ← s.pop2
      match lam with
      | .lam (.pair lt rt) b body =>
        if typeOf left = lt then pure (s.push (.lam rt b (.seq [.PUSH lt left, .PAIR, body]))) else .stuck
      | _ => .stuck
  | .FAILWITH => do let (a, _) ← s.pop1; .failed a
  | .UNIT => pure (s.push .unit)
  | .PAIR => do let (a, b, s) ← s.pop2; pure (s.push (.pair a b))
  | .UNPAIR => do
      let (p, s) ← s.pop1
      match p with
      | .pair a b => pure ((s.push b).push a)
      | _ => .stuck
  | .PAIRN n =>
      match Generated.C01.pairnMin with
      | some m =>
        if n < m then .stuck      -- `assert count >= 2` (the bound is read from the source)
        else do
          let (leaves, s) ← s.pop n
          let r ← fromComb leaves
          pure (s.push r)
      | none => .stuck
  | .UNPAIRN n =>
      match Generated.C01.unpairnMin, Generated.C01.unpairnCombOffset with
      | some m, some off =>
        if n < m then .stuck
        else do
          let (p, s) ← s.pop1
          match p with
          | .pair _ _ => pure ((unpairnComb (n - off) p).reverse.foldl Stack.push s)
          | _ => .stuck
      | _, _ => .stuck
  | .GETN n => do
      let (p, s) ← s.pop1
      if n = 0 then pure (s.push p)      -- `GET 0` is the identity on any value
      else match p with
        | .pair _ _ =>
          match (iterComb true p)[n]? with      -- `access_comb`: `next(…)` raises when the index is past the end
          | some r => pure (s.push r)
          | none => .stuck
        | _ => .stuck
  | .UPDATEN n => do
      let (element, p, s) ← s.pop2
      if n = 0 then pure (s.push element)      -- `UPDATE 0` replaces the whole value
      else match p with
        | .pair _ _ => do let r ← updateComb n element p; pure (s.push r)
        | _ => .stuck
  | .CAR => do
      let (p, s) ← s.pop1
      match p with
      | .pair a _ => pure (s.push a)
      | _ => .stuck
  | .CDR => do
      let (p, s) ← s.pop1
      match p with
      | .pair _ b => pure (s.push b)
      | _ => .stuck
  | .SOME => do let (a, s) ← s.pop1; pure (s.push (.some a))
  | .NONE t => pure (s.push (.none t))
  | .LEFT t => do let (a, s) ← s.pop1; pure (s.push (.left a t))
  | .RIGHT t => do let (a, s) ← s.pop1; pure (s.push (.right t a))
  | .NIL t => pure (s.push (.list t []))
  | .CONS => do
      let (a, l, s) ← s.pop2
      match l with
      | .list t xs => if typeOf a = t then pure (s.push (.list t (a :: xs))) else .stuck
      | _ => .stuck
  | .EMPTY_MAP k v => pure (s.push (.map k v []))
  | .EMPTY_SET t => pure (s.push (.set t []))
  | .MEM => do let (a, b, s) ← s.pop2; let r ← execMem a b; pure (s.push r)
  | .GET => do let (a, b, s) ← s.pop2; let r ← execGet a b; pure (s.push r)
  | .UPDATE => do let (a, b, c, s) ← s.pop3; let r ← execUpdate a b c; pure (s.push r)
  | .GET_AND_UPDATE => do
      let (a, b, c, s) ← s.pop3
      let r ← execGetAndUpdate a b c
      pure ((s.push r.2).push r.1)
  | .SIZE => do let (a, s) ← s.pop1; let r ← execSize a; pure (s.push r)
  | .ADD => do
      let (a, b, s) ← s.pop2
      match a, b with
      | .num ta x, .num tb y =>
        match addTy ta tb with
        | some t => do let r ← numFromValue t (x + y); pure (s.push r)
        | none => .stuck
      | _, _ => .stuck
  | .SUB => do
      let (a, b, s) ← s.pop2
      match a, b with
      | .num ta x, .num tb y =>
        match subTy ta tb with
        | some t => do let r ← numFromValue t (x - y); pure (s.push r)
        | none => .stuck
      | _, _ => .stuck
  | .MUL => do
      let (a, b, s) ← s.pop2
      match a, b with
      | .num ta x, .num tb y =>
        match mulTy ta tb with
        | some t => do let r ← numFromValue t (x * y); pure (s.push r)
        | none => .stuck
      | _, _ => .stuck
  | .EDIV => do let (a, b, s) ← s.pop2; let r ← execEdiv a b; pure (s.push r)
  | .LSL => do let (a, b, s) ← s.pop2; let r ← execShift (fun x n => x <<< n) a b; pure (s.push r)
  | .LSR => do let (a, b, s) ← s.pop2; let r ← execShift (fun x n => x >>> n) a b; pure (s.push r)
  | .SUB_MUTEZ => do let (a, b, s) ← s.pop2; let r ← execSubMutez a b; pure (s.push r)
  | .NEG => do let (a, s) ← s.pop1; let r ← execNeg a; pure (s.push r)
  | .ABS => do
      let (a, s) ← s.pop1
      match a with
      | .num .int x => pure (s.push (.num .nat (Int.ofNat x.natAbs)))
      | _ => .stuck
  | .ISNAT => do
      let (a, s) ← s.pop1
      match a with
      | .num .int x => pure (s.push (if x ≥ 0 then .some (.num .nat x) else .none .nat))
      | _ => .stuck
  | .INT => do
      let (a, s) ← s.pop1
      match a with
      | .bytes b => do      -- `isinstance(a, BytesType)`: `IntType.from_value(int.from_bytes(bytes(a), 'big', signed=True))`
          let r ← numFromValue .int (PyNum.fromBytes b true)
          pure (s.push r)
      | .num .nat x => pure (s.push (.num .int x))
      | _ => .stuck
  | .COMPARE => do
      let (a, b, s) ← s.pop2
      if typeOf a = typeOf b then
        match compareVals a b with
        | some c => pure (s.push (.num .int c))
        | none => .stuck
      else .stuck
  | .EQ => do
      let (a, s) ← s.pop1
      match a with | .num .int x => pure (s.push (.bool (decide (x = 0)))) | _ => .stuck
  | .NEQ => do
      let (a, s) ← s.pop1
      match a with | .num .int x => pure (s.push (.bool (decide (x ≠ 0)))) | _ => .stuck
  | .LT => do
      let (a, s) ← s.pop1
      match a with | .num .int x => pure (s.push (.bool (x < 0))) | _ => .stuck
  | .GT => do
      let (a, s) ← s.pop1
      match a with | .num .int x => pure (s.push (.bool (x > 0))) | _ => .stuck
  | .LE => do
      let (a, s) ← s.pop1
      match a with | .num .int x => pure (s.push (.bool (x ≤ 0))) | _ => .stuck
  | .GE => do
      let (a, s) ← s.pop1
      match a with | .num .int x => pure (s.push (.bool (x ≥ 0))) | _ => .stuck
  | .NOT => do let (a, s) ← s.pop1; let r ← execNot a; pure (s.push r)
  | .AND => do let (a, b, s) ← s.pop2; let r ← execAnd a b; pure (s.push r)
  | .OR => do let (a, b, s) ← s.pop2; let r ← execOr a b; pure (s.push r)
  | .XOR => do let (a, b, s) ← s.pop2; let r ← execXor a b; pure (s.push r)
  | .CONCAT => do
      let (a, s) ← s.pop1
      match a with
      | .list t xs => do let r ← execConcatList t xs; pure (s.push r)
      | _ => do
        let (b, s) ← s.pop1
        let r ← execConcatPair a b
        pure (s.push r)
  | .SLICE => do let (o, l, v, s) ← s.pop3; let r ← execSlice o l v; pure (s.push r)
  | .AMOUNT => do let r ← numFromValue .mutez env.amount; pure (s.push r)
  | .BALANCE => do let r ← numFromValue .mutez env.balance; pure (s.push r)
  | .SENDER => pure (s.push (.atom .address env.sender))
  | .SOURCE => pure (s.push (.atom .address env.source))
  | .SELF_ADDRESS => pure (s.push (.atom .address env.self))
  | .NOW => pure (s.push (.num .timestamp env.now))
  | .LEVEL => do let r ← numFromValue .nat env.level; pure (s.push r)
  | .CHAIN_ID => pure (s.push (.atom .chainId env.chainId))
  | i => stepMore env i s

mutual
  /-- `cls.execute(stack, stdout, context)`; `fuel` bounds loop iterations and nesting -/
  def exec (env : Env) : (fuel : Nat) → Instr → Stack → Res Stack
    | 0, _, _ => .oof
    | fuel + 1, i, s =>
      match i with
      | .seq is => execSeq env fuel is s
      | .DIP body => do
          let s ← s.protect 1
          let s ← exec env fuel body s
          s.restore 1
      | .DIPN n body => do
          let s ← s.protect n
          let s ← exec env fuel body s
          s.restore n
      | .IF bt bf => do
          let (c, s) ← s.pop1
          match c with
          | .bool b => exec env fuel (if b then bt else bf) s
          | _ => .stuck
      | .IF_NONE bn bs => do
          let (o, s) ← s.pop1
          match o with
          | .none _ => exec env fuel bn s
          | .some v => exec env fuel bs (s.push v)
          | _ => .stuck
      | .IF_LEFT bl br => do
          let (o, s) ← s.pop1
          match o with
          | .left v _ => exec env fuel bl (s.push v)
          | .right _ v => exec env fuel br (s.push v)
          | _ => .stuck
      | .IF_CONS bc bn => do
          let (l, s) ← s.pop1
          match l with
          | .list t (x :: xs) => exec env fuel bc ((s.push (.list t xs)).push x)
          | .list _ [] => exec env fuel bn s
          | _ => .stuck
      | .LOOP body => do
          let (c, s) ← s.pop1
          match c with
          | .bool true => do
              let s ← exec env fuel body s
              exec env fuel (.LOOP body) s
          | .bool false => pure s
          | _ => .stuck
      | .LOOP_LEFT body => do
          let (o, s) ← s.pop1
          match o with
          | .left v _ => do
              let s ← exec env fuel body (s.push v)
              exec env fuel (.LOOP_LEFT body) s
          | .right _ v => pure (s.push v)
          | _ => .stuck
      | .ITER body => do
          let (c, s) ← s.pop1
          match c with
          | .list _ xs => iterLoop env fuel body xs s
          | .map _ _ xs => iterLoop env fuel body xs s
          | .set _ xs => iterLoop env fuel body xs s
          | _ => .stuck
      | .MAP body => do
          let (c, s) ← s.pop1
          match c with
          | .list t xs => do
              let (items, s) ← mapLoop env fuel body false xs s
              if items.isEmpty then pure (s.push (.list t xs))
              else do let r ← listFromItems items; pure (s.push r)
          | .map k v xs => do
              let (items, s) ← mapLoop env fuel body true xs s
              if items.isEmpty then pure (s.push (.map k v xs))
              else do let r ← mapFromItems items; pure (s.push r)
          | _ => .stuck
      | .EXEC => do
          let (param, lam, s) ← s.pop2
          match lam with
          | .lam a b body =>
            if typeOf param = a then do
              let ls ← exec env fuel body ⟨[param], 0⟩
              let (r, ls) ← ls.pop1
              if typeOf r = b ∧ ls.items.isEmpty then pure (s.push r) else .stuck
            else .stuck
          | _ => .stuck
      | i => step env i s
  def execSeq (env : Env) : (fuel : Nat) → List Instr → Stack → Res Stack
    | _, [], s => .ok s
    | 0, _ :: _, _ => .oof
    | fuel + 1, i :: is, s => do
        let s ← exec env fuel i s
        execSeq env fuel is s
  /-- `for elt in src: stack.push(elt); body.execute(...)` -/
  def iterLoop (env : Env) : (fuel : Nat) → Instr → List Val → Stack → Res Stack
    | _, _, [], s => .ok s
    | 0, _, _ :: _, _ => .oof
    | fuel + 1, body, x :: xs, s => do
        let s ← exec env fuel body (s.push x)
        iterLoop env fuel body xs s
  /-- MAP's loop: push the element, run the body, pop the new element; for maps the key is kept -/
  def mapLoop (env : Env) : (fuel : Nat) → Instr → (isMap : Bool) → List Val → Stack → Res (List Val × Stack)
    | _, _, _, [], s => .ok ([], s)
    | 0, _, _, _ :: _, _ => .oof
    | fuel + 1, body, isMap, x :: xs, s => do
        let s ← exec env fuel body (s.push x)
        let (y, s) ← s.pop1
        let item ← (if isMap then
            match x with
            | .pair k _ => Res.ok (Val.pair k y)
            | _ => Res.stuck
          else Res.ok y)
        let (rest, s) ← mapLoop env fuel body isMap xs s
        pure (item :: rest, s)
end

/-- run a program on a fresh REPL stack holding `st` -/
def run (env : Env) (fuel : Nat) (i : Instr) (st : List Val) : Res (List Val) :=
  (exec env fuel i ⟨st, 0⟩).bind fun s => .ok s.items

end Impl
end Interp
