import PytezosModel.Generated.C12
import PytezosModel.Michelson.CivilDate
/-! C12 — Python-object conversion of contract data.

Mirror of `get_type_layout`, `wrap_pair`, `wrap_or` (types/adt.py), `PairType.iter_type_args / iter_values /
to_python_object / from_python_object` (types/pair.py), the same four of `OrType` (types/sum.py) and of
`to_python_object` / `from_python_object` of unit, bool, nat, int, mutez, timestamp, string, bytes, option, list, set,
map, big_map (core.py, domain.py, option.py, list.py, set.py, map.py, big_map.py).

Representation choices (observationally equal to the source, validated by the correspondence run):
* binary paths are relative to the node that computes its layout (`false` = '0'); the source threads an absolute
  prefix `path + str(i)` through the recursion and strips it again with `startswith` / dict lookups;
* `Nested` / `Undefined` are not materialised: `wrap_pair` / `wrap_or` followed by the `Nested` branch of
  `from_python_object` is the type-directed descent `nestedPair` / `orNested`;
* `to_python_object` is the `lazy_diff=None` call (what `ContractData.decode` uses): a big_map literal renders as a
  dict, a big_map id as an int; the `try_unpack` argument is the field `Cfg.tryUnpack` (`blind_unpack` = `blindUnpack`);
* Python's `set(py_list)` iterates in an unspecified order; the mirror takes list order (the sorted result does not
  depend on it when `__lt__` is a strict total order — C03).
Extension (domain leaves and input forms): `address`, `key_hash`, `key`, `signature`, `chain_id`, `contract t`,
`bls12_381_fr / g1 / g2`, `never`; RFC 3339 / decimal text for `timestamp`, `Decimal` / text for `mutez`, hex text for
`bytes` and the `bls12_381` types.  What belongs to other properties or to libraries is a field of `Cfg` (`valid` =
`is_address` / `is_pkh` / `is_public_key` / `is_sig` / `is_chain_id`, `raw` = `base58_decode`, C09; `originated0` =
`get_originated_address(0)`); the RFC 3339 reader is the concrete `Civil.parseTimestamp` of C11.
Unmodelled input shapes (`Undefined`, `bool` where an `int` is expected, `bytes` for key_hash / key / signature /
chain_id — the code stores the `bytes` object —, text with `_` or non-ASCII characters for numbers) are answered
`Err.unmodelled`; the harness never sends them. -/
namespace Impl.PyConv

abbrev Path := List Bool

structure Ann where
  field : Option String := none
  type : Option String := none
  deriving DecidableEq, Repr, Inhabited

inductive Scalar where
  | unit | bool | nat | int | mutez | timestamp | string | bytes
  | address | keyHash | key | signature | chainId
  | blsFr | blsG1 | blsG2 | never
  deriving DecidableEq, Repr, Inhabited

inductive Ty where
  | scalar (a : Ann) (s : Scalar)
  | pair (a : Ann) (l r : Ty)
  | or (a : Ann) (l r : Ty)
  | option (a : Ann) (t : Ty)
  | list (a : Ann) (t : Ty)
  | set (a : Ann) (t : Ty)
  | map (a : Ann) (k v : Ty)
  | bigMap (a : Ann) (k v : Ty)
  /-- `contract p`: the parameter type plays no role in the conversion -/
  | contract (a : Ann) (p : Ty)
  | ticket (a : Ann) (t : Ty)
  /-- `lambda p r`: the two types play no role in the conversion -/
  | lambda (a : Ann) (p r : Ty)
  deriving DecidableEq, Repr, Inhabited

inductive Val where
  | unit
  | bool (b : Bool)
  | int (n : Int)
  | str (s : String)
  | bytes (b : List Nat)
  | pair (a b : Val)
  | left (v : Val)
  | right (v : Val)
  | none
  | some (v : Val)
  | list (xs : List Val)
  | set (xs : List Val)
  | map (kvs : List (Val × Val))
  | bigMap (kvs : List (Val × Val))
  | bigMapId (id : Int)
  /-- `TicketType(ticketer, item, amount)` -/
  | ticket (ticketer : String) (item : Val) (amount : Int)
  /-- `LambdaType(value)`: the Micheline of the body as the class renders it (`value.as_micheline_expr()`), kept as an
  opaque text (canonical JSON on the protocol) — its structure is C18's / C05's business -/
  | lambda (code : String)
  deriving Repr, Inhabited

/-- the documented Python shapes -/
inductive PyObj where
  | none
  | unit                                    -- the `Unit` sentinel (`pytezos.michelson.types.core.unit`)
  | bool (b : Bool)
  | int (n : Int)
  | str (s : String)
  | bytes (b : List Nat)
  /-- a finite `decimal.Decimal`: (-1)^neg · coef · 10^exp -/
  | decimal (neg : Bool) (coef : Nat) (exp : Int)
  /-- `Decimal('NaN')` / `Decimal('sNaN')` (`inf = false`), `Decimal('±Infinity')` (`inf = true`) -/
  | decimalSpecial (inf : Bool)
  | tuple (xs : List PyObj)
  | list (xs : List PyObj)
  | record (fields : List (String × PyObj))   -- dict with string keys (pairs, unions)
  | dict (items : List (PyObj × PyObj))       -- dict with arbitrary hashable keys (map, big_map)
  deriving Repr, Inhabited

inductive Err where
  | key          -- KeyError
  | type         -- TypeError (unhashable)
  | assertion    -- AssertionError / any other exception
  | overflow     -- OverflowError (mutez; `int(Decimal('Infinity'))`)
  | unmodelled
  | unrecognised
  deriving DecidableEq, Repr

/-- what the translator reads from the source -/
structure Flags where
  /-- `class unit` defines `__hash__` (pinned tree: no — a dict key / set element containing `Unit` raises TypeError) -/
  unitHashable : Bool
  /-- `PairType.__lt__` is lexicographic (pinned tree: no) — only used by `sorted` on non-canonical input -/
  pairLtLex : Bool
  /-- `BLS12_381_FrType.modulus` -/
  frModulus : Nat
  deriving DecidableEq, Repr

/-- the kinds of base58 text a domain leaf validates -/
inductive Dom where
  | address | keyHash | key | signature | chainId
  deriving DecidableEq, Repr, Inhabited

/-- the source flags plus what this property does not own, as parameters (no law is needed about them: the round trip
is stated for the values `from_value` accepts, whatever `valid` is) -/
structure Cfg extends Flags where
  /-- `is_address` (the text may carry `%entrypoint`) / `is_pkh` / `is_public_key` / `is_sig` / `is_chain_id` -/
  valid : Dom → String → Bool := fun _ _ => false
  /-- `base58_decode(text.encode())` (`KeyType.raw`, `SignatureType.raw`): only read by `__lt__` / `__eq__` -/
  raw : String → List Nat := fun _ => []
  /-- `get_originated_address(0)`: what `ContractType.from_python_object(None)` stands for -/
  originated0 : String := ""
  /-- the `try_unpack` argument of `to_python_object` (the round trip is about the default, `False`) -/
  tryUnpack : Bool := false
  /-- `base58_encode(payload, prefix).decode()`; `blind_unpack` only calls it with a payload of the prefix's length -/
  b58 : String → List Nat → String := fun _ _ => ""
  /-- `micheline_value_to_python_object(unforge_micheline(data))` of `blind_unpack` (`none`: it raises one of the
  suppressed exceptions) — C05's reader, C18's formatter and `blind_unpack` again on the bytes inside -/
  unpackMich : List Nat → Option PyObj := fun _ => none
  /-- `micheline_to_michelson(code)`: the source text of a lambda body (C18's formatter) -/
  codeText : String → String := fun _ => ""
  /-- `michelson_to_micheline(text)`, `assert isinstance(·, list)`, `Micheline.match(·).as_micheline_expr()` (C18's
  parser, the class registry); `none`: one of them raises -/
  codeOfText : String → Option String := fun _ => none
  /-- the bodies a `LambdaType` can hold: Micheline sequences that `Micheline.match` re-renders unchanged -/
  codeOk : String → Bool := fun _ => false

/-- the mirror below follows the repaired name generator of `get_type_layout` (generated names made different from
every declared one): with the old shape (`generatedNamesFresh = some false`) or an unknown one there is no
configuration, the model refuses to run and `C12.source_shape` does not close -/
def cfg? : Option Flags :=
  match Generated.C12.sourceRecognised, Generated.C12.generatedNamesFresh, Generated.C12.unitHashable,
    Generated.C12.pairLtLexicographic with
  | some (), some true, some u, some p =>
    match Generated.C12.frModulus with
    | some m => some ⟨u, p, m⟩
    | none => none
  | _, _, _, _ => none

/-! ### Python equality / hashability of objects (dict keys, `set(...)`) -/

mutual
  def PyObj.beq : PyObj → PyObj → Bool
    | .none, .none => true
    | .unit, .unit => true
    | .bool a, .bool b => a == b
    | .int a, .int b => a == b
    | .str a, .str b => a == b
    | .bytes a, .bytes b => a == b
    | .decimal n c e, .decimal n' c' e' => n == n' && c == c' && e == e'    -- structural (numeric `==` is not modelled)
    | .decimalSpecial a, .decimalSpecial b => a == b
    | .tuple a, .tuple b => beqList a b
    | .list a, .list b => beqList a b
    | .record a, .record b => beqFields a b
    | .dict a, .dict b => beqItems a b
    | _, _ => false
  def PyObj.beqList : List PyObj → List PyObj → Bool
    | [], [] => true
    | a :: as, b :: bs => PyObj.beq a b && beqList as bs
    | _, _ => false
  def PyObj.beqFields : List (String × PyObj) → List (String × PyObj) → Bool
    | [], [] => true
    | (k, a) :: as, (k', b) :: bs => k == k' && PyObj.beq a b && beqFields as bs
    | _, _ => false
  def PyObj.beqItems : List (PyObj × PyObj) → List (PyObj × PyObj) → Bool
    | [], [] => true
    | (k, a) :: as, (k', b) :: bs => PyObj.beq k k' && PyObj.beq a b && beqItems as bs
    | _, _ => false
end

mutual
  /-- structural equality of values (what `__eq__` computes on values of one type) -/
  def Val.beq : Val → Val → Bool
    | .unit, .unit => true
    | .bool a, .bool b => a == b
    | .int a, .int b => a == b
    | .str a, .str b => a == b
    | .bytes a, .bytes b => a == b
    | .pair a b, .pair a' b' => Val.beq a a' && Val.beq b b'
    | .left a, .left b => Val.beq a b
    | .right a, .right b => Val.beq a b
    | .none, .none => true
    | .some a, .some b => Val.beq a b
    | .list a, .list b => Val.beqList a b
    | .set a, .set b => Val.beqList a b
    | .map a, .map b => Val.beqItems a b
    | .bigMap a, .bigMap b => Val.beqItems a b
    | .bigMapId a, .bigMapId b => a == b
    | .ticket t a n, .ticket t' b n' => t == t' && Val.beq a b && n == n'
    | .lambda a, .lambda b => a == b
    | _, _ => false
  def Val.beqList : List Val → List Val → Bool
    | [], [] => true
    | a :: as, b :: bs => Val.beq a b && Val.beqList as bs
    | _, _ => false
  def Val.beqItems : List (Val × Val) → List (Val × Val) → Bool
    | [], [] => true
    | (k, a) :: as, (k', b) :: bs => Val.beq k k' && Val.beq a b && Val.beqItems as bs
    | _, _ => false
end

/-- `r` is `ok x` -/
def okPy (r : Except Err PyObj) (x : PyObj) : Bool :=
  match r with
  | .ok y => PyObj.beq y x
  | .error _ => false

def okVal (r : Except Err Val) (x : Val) : Bool :=
  match r with
  | .ok y => Val.beq y x
  | .error _ => false

def isErr {α : Type} (r : Except Err α) (e : Err) : Bool :=
  match r with
  | .ok _ => false
  | .error e' => e' == e

mutual
  def PyObj.hashable (c : Cfg) : PyObj → Bool
    | .unit => c.unitHashable
    | .tuple xs => hashableList c xs
    | .list _ => false
    | .record _ => false
    | .dict _ => false
    | _ => true
  def PyObj.hashableList (c : Cfg) : List PyObj → Bool
    | [] => true
    | x :: xs => PyObj.hashable c x && hashableList c xs
end

def pyMem (x : PyObj) : List PyObj → Bool
  | [] => false
  | y :: ys => PyObj.beq y x || pyMem x ys

/-- `len(set(xs)) == len(xs)` -/
def pyDistinct : List PyObj → Bool
  | [] => true
  | x :: xs => !pyMem x xs && pyDistinct xs

/-- `d[k] = v` on a dict with object keys -/
def pySet : List (PyObj × PyObj) → PyObj → PyObj → List (PyObj × PyObj)
  | [], k, v => [(k, v)]
  | (k', v') :: rest, k, v => if PyObj.beq k' k then (k', v) :: rest else (k', v') :: pySet rest k v

/-! ### string-keyed / path-keyed dicts -/

def dget {κ α} [DecidableEq κ] : List (κ × α) → κ → Option α
  | [], _ => none
  | (k, v) :: rest, x => if k = x then some v else dget rest x

def dset {κ α} [DecidableEq κ] : List (κ × α) → κ → α → List (κ × α)
  | [], k, v => [(k, v)]
  | (k', v') :: rest, k, v => if k' = k then (k', v) :: rest else (k', v') :: dset rest k v

/-! ### types -/

def Ty.ann : Ty → Ann
  | .scalar a _ | .pair a _ _ | .or a _ _ | .option a _ | .list a _ | .set a _ | .map a _ _ | .bigMap a _ _
  | .contract a _ | .ticket a _ | .lambda a _ _ => a

def Scalar.prim : Scalar → String
  | .unit => "unit" | .bool => "bool" | .nat => "nat" | .int => "int" | .mutez => "mutez"
  | .timestamp => "timestamp" | .string => "string" | .bytes => "bytes"
  | .address => "address" | .keyHash => "key_hash" | .key => "key" | .signature => "signature"
  | .chainId => "chain_id" | .blsFr => "bls12_381_fr" | .blsG1 => "bls12_381_g1" | .blsG2 => "bls12_381_g2"
  | .never => "never"

def Ty.prim : Ty → String
  | .scalar _ s => s.prim
  | .pair .. => "pair" | .or .. => "or" | .option .. => "option" | .list .. => "list"
  | .set .. => "set" | .map .. => "map" | .bigMap .. => "big_map" | .contract .. => "contract"
  | .ticket .. => "ticket" | .lambda .. => "lambda"

/-- Python truthiness of an optional name -/
def truthy : Option String → Bool
  | some s => s ≠ ""
  | none => false

/-- `arg.field_name or arg.type_name` -/
def Ty.isNamed (t : Ty) : Bool := truthy t.ann.field || truthy t.ann.type

/-- an argument `iter_type_args` / `iter_values` of a pair descends into: a pair without names -/
def Ty.isFlatPair : Ty → Bool
  | .pair a _ _ => !(truthy a.field || truthy a.type)
  | _ => false

def Ty.isOr : Ty → Bool
  | .or .. => true
  | _ => false

def Ty.isOption : Ty → Bool
  | .option .. => true
  | _ => false

def pre (b : Bool) (e : Path × α) : Path × α := (b :: e.1, e.2)

/-- `PairType.iter_type_args` of a pair node (relative paths) -/
def pairArgs : Ty → List (Path × Ty)
  | .pair _ l r =>
    ((if l.isFlatPair then pairArgs l else [([], l)]).map (pre false))
      ++ ((if r.isFlatPair then pairArgs r else [([], r)]).map (pre true))
  | _ => []

/-- `OrType.iter_type_args(entrypoints=False)` of a union node: unions are always descended into -/
def orArgs : Ty → List (Path × Ty)
  | .or _ l r =>
    ((if l.isOr then orArgs l else [([], l)]).map (pre false))
      ++ ((if r.isOr then orArgs r else [([], r)]).map (pre true))
  | _ => []

/-- `OrType.create_type`: `is_enum` -/
def allUnits : Ty → Bool
  | .or _ l r => allUnits l && allUnits r
  | .scalar _ .unit => true
  | _ => false

def Ty.isEnum : Ty → Bool
  | .or _ l r => allUnits l && allUnits r
  | _ => false

/-! ### `get_type_layout(flat_args, infer_names, entrypoints=False)` (types/adt.py, repaired shape)

Two loops.  The first keeps every declared name (`%field`, else `:type`) at its first occurrence and gives the other
arguments the candidate `f'{arg.prim}_{i}'`, remembering which ones (`generated`).  The second makes every candidate
differ from all declared names — wherever they are declared, before or after it — and from the generated names chosen
before it: `while name in taken: name += '_'`.  (The pinned tree had only the first loop: `pair (nat %nat_1) nat` got
the names `nat_1`, `nat_1`.) -/

/-- `f'{arg.prim}_{i}'` -/
def genName (arg : Ty) (i : Nat) : String := arg.prim ++ "_" ++ toString i

/-- first loop: one entry `(path, name, generated?)` per argument, in order; `reserved` = declared names kept so far -/
def layoutGo : List (Path × Ty) → Nat → List String → List (Path × String × Bool)
  | [], _, _ => []
  | (path, arg) :: rest, i, reserved =>
    let key := match arg.ann.field with
      | some k => some k
      | none => arg.ann.type
    match key with
    | some k =>
      if k ∈ reserved then (path, genName arg i, true) :: layoutGo rest (i + 1) reserved
      else (path, k, false) :: layoutGo rest (i + 1) (k :: reserved)
    | none => (path, genName arg i, true) :: layoutGo rest (i + 1) reserved

/-- `reserved` when the first loop ends: the declared names that were kept -/
def declared : List (Path × String × Bool) → List String
  | [] => []
  | (_, k, false) :: rest => k :: declared rest
  | (_, _, true) :: rest => declared rest

/-- `while name in taken: name += '_'`, at most `fuel` iterations -/
def freshGo : Nat → List String → String → String
  | 0, _, name => name
  | fuel + 1, taken, name => if name ∈ taken then freshGo fuel taken (name ++ "_") else name

/-- the loop leaves after at most `len(taken)` iterations (every iteration uses up one element of `taken`: the
candidates get longer) — `fresh_not_mem` below shows that the fuel is never exhausted -/
def fresh (taken : List String) (name : String) : String := freshGo (taken.length + 1) taken name

/-- second loop: `taken` = declared names and the generated names fixed so far -/
def renameGo : List (Path × String × Bool) → List String → List (Path × String)
  | [], _ => []
  | (path, k, false) :: rest, taken => (path, k) :: renameGo rest taken
  | (path, k, true) :: rest, taken => (path, fresh taken k) :: renameGo rest (fresh taken k :: taken)

structure Layout where
  pathToKey : Option (List (Path × String))
  keyToPath : Option (List (String × Path))
  idxToPath : List Path
  deriving Repr

def getTypeLayout (flat : List (Path × Ty)) (inferNames : Bool) : Layout :=
  let first := layoutGo flat 0 []
  let reserved := declared first
  let p2k := renameGo first reserved
  let idx := p2k.map (·.1)
  if reserved.isEmpty && !inferNames then ⟨none, none, idx⟩
  else ⟨some p2k, some (p2k.foldl (fun d e => dset d e.2 e.1) []), idx⟩

def pairLayout (t : Ty) : Layout := getTypeLayout (pairArgs t) false
def orLayout (t : Ty) : Layout := getTypeLayout (orArgs t) true

/-! ### ordering used by `sorted` (only matters for non-canonical Python input) -/

def bytesLt : List Nat → List Nat → Bool
  | [], [] => false
  | [], _ :: _ => true
  | _ :: _, [] => false
  | a :: as, b :: bs => if a < b then true else if b < a then false else bytesLt as bs

/-! #### domain leaves: text, `%entrypoint`, the orders of `AddressType` / `KeyType` / `SignatureType` -/

/-- `value.partition('%')`: the text before the first `%` and the text after it (`none`: there is no `%`) -/
def partitionPct (s : String) : String × Option String :=
  let cs := s.toList
  match cs.dropWhile (· ≠ '%') with
  | [] => (s, none)
  | _ :: ep => (String.ofList (cs.takeWhile (· ≠ '%')), some (String.ofList ep))

/-- `AddressType.from_value`: `address, _, entrypoint = value.partition('%')`; `if entrypoint == 'default': value =
address`; `assert is_address(value)` -/
def addressFromValue (c : Cfg) (s : String) : Except Err String :=
  let s' := match partitionPct s with
    | (a, some "default") => a
    | _ => s
  if c.valid .address s' then .ok s' else .error .assertion

/-- `KeyHashType / KeyType / SignatureType / ChainIdType.from_value`: `assert is_…(value)` -/
def plainFromValue (c : Cfg) (d : Dom) (s : String) : Except Err String :=
  if c.valid d s then .ok s else .error .assertion

/-- `AddressType._split`: `(address, entrypoint or 'default')` -/
def addressSplit (s : String) : String × String :=
  match partitionPct s with
  | (a, some ep) => (a, if ep = "" then "default" else ep)
  | (a, none) => (a, "default")

/-- `kinds[self.value[:3]]` of `AddressType.__lt__` (implicit 0, originated 1, smart rollup 2).  Any other prefix is a
KeyError in the source; it cannot occur in a value (`is_address`), the mirror files it under 0 -/
def addressKind (s : String) : Nat :=
  match s.toList.take 3 with
  | ['K', 'T', '1'] => 1
  | ['s', 'r', '1'] => 2
  | _ => 0

/-- `AddressType.__lt__` -/
def addressLt (a b : String) : Bool :=
  if addressKind a < addressKind b then true
  else if addressKind b < addressKind a then false
  else
    let (a1, e1) := addressSplit a
    let (a2, e2) := addressSplit b
    a1 < a2 || (a1 == a2 && e1 < e2)

/-- `curves[self.prefix][0]` of `KeyType.__lt__` (edpk < sppk < p2pk < BLpk; another prefix — a secret key passes
`is_public_key` — is a KeyError in the source, here rank 4; the harness sends public keys only) -/
def keyRank (s : String) : Nat :=
  match s.toList.take 4 with
  | ['e', 'd', 'p', 'k'] => 0
  | ['s', 'p', 'p', 'k'] => 1
  | ['p', '2', 'p', 'k'] => 2
  | ['B', 'L', 'p', 'k'] => 3
  | _ => 4

/-- `KeyType.__lt__`: by curve, then by the whole byte representation -/
def keyLt (c : Cfg) (a b : String) : Bool :=
  if keyRank a < keyRank b then true
  else if keyRank b < keyRank a then false
  else bytesLt (c.raw a) (c.raw b)

mutual
  /-- `__eq__` of two values of one type (`SignatureType.__eq__` compares the decoded bytes) -/
  def eqV (c : Cfg) : Ty → Val → Val → Bool
    | .scalar _ .signature, .str a, .str b => c.raw a == c.raw b
    | .scalar _ _, .unit, .unit => true
    | .scalar _ _, .bool a, .bool b => a == b
    | .scalar _ _, .int a, .int b => a == b
    | .scalar _ _, .str a, .str b => a == b
    | .scalar _ _, .bytes a, .bytes b => a == b
    | .pair _ l r, .pair a b, .pair a' b' => eqV c l a a' && eqV c r b b'
    | .or _ l _, .left a, .left b => eqV c l a b
    | .or _ _ r, .right a, .right b => eqV c r a b
    | .option _ _, .none, .none => true
    | .option _ t, .some a, .some b => eqV c t a b
    | _, _, _ => false
end

def ltV (c : Cfg) : Ty → Val → Val → Bool
  | .scalar _ .address, .str a, .str b => addressLt a b
  | .scalar _ .key, .str a, .str b => keyLt c a b
  | .scalar _ .signature, .str a, .str b => bytesLt (c.raw a) (c.raw b)
  | .scalar _ _, .bool a, .bool b => !a && b
  | .scalar _ _, .int a, .int b => a < b
  | .scalar _ _, .str a, .str b => a < b                     -- string, key_hash, chain_id: `StringType.__lt__`
  | .scalar _ _, .bytes a, .bytes b => bytesLt a b
  | .pair _ l r, .pair a b, .pair a' b' =>
    if c.pairLtLex then (if !eqV c l a a' then ltV c l a a' else if !eqV c r b b' then ltV c r b b' else false)
    else !(ltV c l a' a) && !(ltV c r b' b)
  | .or _ l _, .left a, .left b => ltV c l a b
  | .or _ _ _, .left _, .right _ => true
  | .or _ _ r, .right a, .right b => ltV c r a b
  | .option _ _, .none, .some _ => true
  | .option _ t, .some a, .some b => ltV c t a b
  | _, _, _ => false

/-- insertion step of `sorted`: after every element that is not greater -/
def insertBy (lt : α → α → Bool) (x : α) : List α → List α
  | [] => [x]
  | y :: ys => if lt x y then x :: y :: ys else y :: insertBy lt x ys

def sortBy (lt : α → α → Bool) (xs : List α) : List α := xs.foldl (fun acc x => insertBy lt x acc) []

/-- `[f(x) for x in xs]` where `f` may raise -/
def mapE {α β : Type} (f : α → Except Err β) : List α → Except Err (List β)
  | [] => .ok []
  | x :: xs => do
    let y ← f x
    let ys ← mapE f xs
    .ok (y :: ys)

/-! ### `blind_unpack` (michelson/micheline.py): what `BytesType.to_python_object(try_unpack=True)` shows

The decision is mirrored in full: which of the seven readings applies depends on the length and the first / last bytes
only (`base58_encode` raises ValueError exactly when the payload does not have the length of the prefix; the dict
lookups of `unforge_address` / `unforge_public_key` raise KeyError on an unknown tag).  The texts themselves
(`c.b58`), and the content of PACKed data (`c.unpackMich`) are parameters. -/

/-- `bytes.decode()` (strict UTF-8: no overlong forms, no surrogates, nothing above U+10FFFF) -/
def utf8Decode : List Nat → Option (List Char)
  | [] => some []
  | b0 :: rest =>
    if b0 < 0x80 then (utf8Decode rest).map fun cs => Char.ofNat b0 :: cs
    else if 0xC2 ≤ b0 && b0 < 0xE0 then
      match rest with
      | b1 :: rest' =>
        if 0x80 ≤ b1 && b1 < 0xC0 then (utf8Decode rest').map fun cs => Char.ofNat ((b0 - 0xC0) * 64 + (b1 - 0x80)) :: cs
        else none
      | _ => none
    else if 0xE0 ≤ b0 && b0 < 0xF0 then
      match rest with
      | b1 :: b2 :: rest' =>
        let cp := (b0 - 0xE0) * 4096 + (b1 - 0x80) * 64 + (b2 - 0x80)
        if 0x80 ≤ b1 && b1 < 0xC0 && 0x80 ≤ b2 && b2 < 0xC0 && 0x800 ≤ cp && !(0xD800 ≤ cp && cp < 0xE000) then
          (utf8Decode rest').map fun cs => Char.ofNat cp :: cs
        else none
      | _ => none
    else if 0xF0 ≤ b0 && b0 < 0xF5 then
      match rest with
      | b1 :: b2 :: b3 :: rest' =>
        let cp := (b0 - 0xF0) * 262144 + (b1 - 0x80) * 4096 + (b2 - 0x80) * 64 + (b3 - 0x80)
        if 0x80 ≤ b1 && b1 < 0xC0 && 0x80 ≤ b2 && b2 < 0xC0 && 0x80 ≤ b3 && b3 < 0xC0 && 0x10000 ≤ cp && cp < 0x110000 then
          (utf8Decode rest').map fun cs => Char.ofNat cp :: cs
        else none
      | _ => none
    else none

/-- `unforge_address(data)` as `blind_unpack` sees it: `some (prefix, payload)` when it returns
`base58_encode(payload, prefix)`, `none` when it raises ValueError (length) or KeyError (unknown tag) -/
def unforgeAddressPlan (d : List Nat) : Option (String × List Nat) :=
  let tz (t : Nat) : Option String :=
    match t with | 0 => some "tz1" | 1 => some "tz2" | 2 => some "tz3" | 3 => some "tz4" | _ => none
  let fits (pl : List Nat) (r : String) : Option (String × List Nat) := if pl.length = 20 then some (r, pl) else none
  if d.length = 21 then
    match d with
    | t :: pl => (tz t).bind (fits pl)
    | [] => none
  else
    match d with
    | 0 :: t :: pl =>
      match tz t with
      | some r => fits pl r                               -- the first matching two-byte prefix decides
      | none => none                                      -- `tz_prefixes[b'\x00\x00']` then a 20-byte check on `data[1:]`: not 21 long
    | 1 :: pl => if pl.getLast? = some 0 then fits pl.dropLast "KT1" else none
    | 2 :: pl => if pl.getLast? = some 0 then fits pl.dropLast "txr1" else none
    | 3 :: pl => if pl.getLast? = some 0 then fits pl.dropLast "sr1" else none
    | _ => none

/-- `unforge_public_key(data)`: tag byte, then a payload of the curve's length -/
def unforgeKeyPlan (d : List Nat) : Option (String × List Nat) :=
  match d with
  | 0 :: pl => if pl.length = 32 then some ("edpk", pl) else none
  | 1 :: pl => if pl.length = 33 then some ("sppk", pl) else none
  | 2 :: pl => if pl.length = 33 then some ("p2pk", pl) else none
  | 3 :: pl => if pl.length = 48 then some ("BLpk", pl) else none
  | _ => none

/-- `blind_unpack(data)` -/
def blindUnpack (c : Cfg) (d : List Nat) : PyObj :=
  if d.length = 4 then .str (c.b58 "Net" d)                                   -- unforge_chain_id
  else match unforgeAddressPlan d with
  | some (r, pl) => .str (c.b58 r pl)
  | none => match unforgeKeyPlan d with
  | some (r, pl) => .str (c.b58 r pl)
  | none =>
    if d.length = 96 then .str (c.b58 "BLsig" d)                              -- unforge_signature
    else if d.length = 64 then .str (c.b58 "sig" d)
    else
      let packed : Option PyObj := match d with
        | 5 :: body => c.unpackMich body
        | _ => none
      match packed with
      | some o => o
      | none => match utf8Decode d with
        | some cs => .str (String.ofList cs)
        | none => .bytes d

/-! ### `to_python_object` -/

/-- the classes whose `to_python_object` starts with `assert not comparable` -/
def Scalar.assertsNotComparable : Scalar → Bool
  | .blsFr | .blsG1 | .blsG2 => true
  | _ => false

/-- `to_python_object(try_unpack=c.tryUnpack, comparable=cmp)` of a leaf: the stored `value` (`Unit` for unit); only
`BytesType` itself looks at `try_unpack` (the bls12_381 points call `super().to_python_object()` without it) -/
def scalarToPy (c : Cfg) (cmp : Bool) : Scalar → Val → Except Err PyObj
  | .unit, .unit => .ok .unit
  | .bool, .bool b => .ok (.bool b)
  | .nat, .int n | .int, .int n | .mutez, .int n | .timestamp, .int n => .ok (.int n)
  | .string, .str s | .address, .str s | .keyHash, .str s | .key, .str s | .signature, .str s | .chainId, .str s =>
    .ok (.str s)
  | .bytes, .bytes b => .ok (if c.tryUnpack then blindUnpack c b else .bytes b)
  | .blsFr, .int n => if cmp then .error .assertion else .ok (.int n)
  | .blsG1, .bytes b | .blsG2, .bytes b => if cmp then .error .assertion else .ok (.bytes b)
  | _, _ => .error .assertion

def single (e : Except Err PyObj) : Except Err (List (Path × PyObj)) := e.map fun py => [([], py)]

/-- `{path_to_key[path]: py for path, py in flat_values}` -/
def recordOf (p2k : List (Path × String)) : List (Path × PyObj) → List (String × PyObj) → Except Err (List (String × PyObj))
  | [], acc => .ok acc
  | (path, py) :: rest, acc =>
    match dget p2k path with
    | some name => recordOf p2k rest (dset acc name py)
    | none => .error .key

/-- `{k.to_python_object(comparable=True): v.to_python_object() for k, v in items}` -/
def dictOf (c : Cfg) : List (PyObj × PyObj) → List (PyObj × PyObj) → Except Err (List (PyObj × PyObj))
  | [], acc => .ok acc
  | (k, v) :: rest, acc => if k.hashable c then dictOf c rest (pySet acc k v) else .error .type

mutual
  /-- `to_python_object(comparable=cmp, lazy_diff=None)` -/
  def toPy (c : Cfg) (cmp : Bool) : Ty → Val → Except Err PyObj
    | .scalar _ s, v => scalarToPy c cmp s v
    | .contract _ _, .str s => if cmp then .error .assertion else .ok (.str s)
    | .contract .., _ => .error .assertion
    -- `assert not comparable`; `(self.ticketer, self.item.to_python_object(try_unpack=…, comparable=True), self.amount)`
    | .ticket _ t, .ticket tk x n =>
      if cmp then .error .assertion
      else do
        let px ← toPy c true t x
        .ok (.tuple [.str tk, px, .int n])
    | .ticket .., _ => .error .assertion
    -- `assert not comparable`; `micheline_to_michelson(self.to_micheline_value())`
    | .lambda _ _ _, .lambda code => if cmp then .error .assertion else .ok (.str (c.codeText code))
    | .lambda .., _ => .error .assertion
    | .pair a l r, .pair x y => do
      let ls ← if l.isFlatPair then flatVals c cmp l x else single (toPy c cmp l x)
      let rs ← if r.isFlatPair then flatVals c cmp r y else single (toPy c cmp r y)
      let flat := ls.map (pre false) ++ rs.map (pre true)
      match (if cmp then none else (pairLayout (.pair a l r)).pathToKey) with    -- `force_tuple=comparable`
      | some p2k => (recordOf p2k flat []).map .record
      | none => .ok (.tuple (flat.map (·.2)))
    | .pair .., _ => .error .assertion
    | .or a l r, v => do
      let (path, py) ← match v with
        | .left x => (if l.isOr then orVal c cmp l x else (toPy c cmp l x).map fun py => ([], py)).map (pre false)
        | .right y => (if r.isOr then orVal c cmp r y else (toPy c cmp r y).map fun py => ([], py)).map (pre true)
        | _ => .error .assertion
      match (orLayout (.or a l r)).pathToKey with
      | none => .error .assertion
      | some p2k =>
        match dget p2k path with
        | none => .error .key
        | some entrypoint =>
          if (Ty.or a l r).isEnum then .ok (.str entrypoint)
          else if cmp then .ok (.tuple [.str entrypoint, py]) else .ok (.record [(entrypoint, py)])
    | .option _ _, .none => .ok .none
    | .option _ t, .some x => toPy c cmp t x
    | .option .., _ => .error .assertion
    | .list _ t, .list xs => if cmp then .error .assertion else (mapE (toPy c false t) xs).map .list
    | .list .., _ => .error .assertion
    | .set _ t, .set xs => if cmp then .error .assertion else (mapE (toPy c true t) xs).map .list
    | .set .., _ => .error .assertion
    | .map _ k v, .map kvs =>
      if cmp then .error .assertion
      else do
        let items ← mapE (fun (e : Val × Val) => do
          let pk ← toPy c true k e.1
          let pv ← toPy c false v e.2
          pure (pk, pv)) kvs
        (dictOf c items []).map .dict
    | .map .., _ => .error .assertion
    | .bigMap _ k v, .bigMap kvs =>
      if cmp then .error .assertion
      else do
        let items ← mapE (fun (e : Val × Val) => do
          let pk ← toPy c true k e.1
          let pv ← toPy c false v e.2
          pure (pk, pv)) kvs
        (dictOf c items []).map .dict
    | .bigMap _ _ _, .bigMapId n => .ok (.int n)
    | .bigMap .., _ => .error .assertion
  /-- `PairType.iter_values` of an unnamed inner pair, already converted -/
  def flatVals (c : Cfg) (cmp : Bool) : Ty → Val → Except Err (List (Path × PyObj))
    | .pair _ l r, .pair x y => do
      let ls ← if l.isFlatPair then flatVals c cmp l x else single (toPy c cmp l x)
      let rs ← if r.isFlatPair then flatVals c cmp r y else single (toPy c cmp r y)
      .ok (ls.map (pre false) ++ rs.map (pre true))
    | _, _ => .error .assertion
  /-- `OrType.iter_values` of an inner union: the path of the leaf the value lands on, converted -/
  def orVal (c : Cfg) (cmp : Bool) : Ty → Val → Except Err (Path × PyObj)
    | .or _ l _, .left x => (if l.isOr then orVal c cmp l x else (toPy c cmp l x).map fun py => ([], py)).map (pre false)
    | .or _ _ r, .right y => (if r.isOr then orVal c cmp r y else (toPy c cmp r y).map fun py => ([], py)).map (pre true)
    | _, _ => .error .assertion
end

/-! ### `from_python_object` -/

/-- the two assertions of `StringType.from_value`: `len(value) == len(value.encode())` (every character is ASCII) and
`all(c == '\n' or ' ' <= c <= '~' for c in value)` (a newline or a printable character; the second one came with
45078c3, before it a tab or 0x01 passed) -/
def isAscii (s : String) : Bool :=
  (s.toList.all fun ch => ch.toNat < 128) && (s.toList.all fun ch => ch == '\n' || (' ' ≤ ch && ch ≤ '~'))

/-! #### text / `Decimal` forms of numbers and bytes

Strings with `_` (Python accepts digit grouping) or non-ASCII characters (other decimal digits, other white space) are
`unmodelled`. -/

/-- ASCII white space in the sense of `str.isspace` (what `int(·)` and `Decimal(·)` strip) -/
def isWs (ch : Char) : Bool :=
  ch == ' ' || ch == '\t' || ch == '\n' || ch == '\r' || ch.toNat == 11 || ch.toNat == 12 || (28 ≤ ch.toNat && ch.toNat ≤ 31)

def stripWs (cs : List Char) : List Char := ((cs.dropWhile isWs).reverse.dropWhile isWs).reverse

def isDigit (ch : Char) : Bool := '0' ≤ ch && ch ≤ '9'

/-- value of a string of decimal digits -/
def digitsNat (ds : List Char) : Nat := ds.foldl (fun acc ch => acc * 10 + (ch.toNat - 48)) 0

def outsideModel (cs : List Char) : Bool := cs.any fun ch => ch == '_' || 128 ≤ ch.toNat

/-- `int(text)`: white space stripped, optional sign, at least one decimal digit (`ValueError` otherwise) -/
def pyIntText (s : String) : Except Err Int :=
  let cs := s.toList
  if outsideModel cs then .error .unmodelled
  else
    let body (neg : Bool) (ds : List Char) : Except Err Int :=
      if !ds.isEmpty && ds.all isDigit then .ok (if neg then -(digitsNat ds : Int) else (digitsNat ds : Int))
      else .error .assertion
    match stripWs cs with
    | '-' :: ds => body true ds
    | '+' :: ds => body false ds
    | ds => body false ds

/-- `optimize_timestamp`: RFC 3339 first (`strict_rfc3339.rfc3339_to_timestamp`, C11's `Civil.parseTimestamp`), then
`int(value)` -/
def optimizeTimestamp (s : String) : Except Err Int :=
  match Civil.parseTimestamp s.toList with
  | some t => .ok t
  | none => pyIntText s

/-- a `decimal.Decimal` -/
inductive Dec where
  | fin (neg : Bool) (coef : Nat) (exp : Int)
  | nan
  | inf
  deriving DecidableEq, Repr

def lowerAscii (ch : Char) : Char := if 'A' ≤ ch && ch ≤ 'Z' then Char.ofNat (ch.toNat + 32) else ch

/-- `Decimal(text)`: white space stripped, optional sign, then digits with an optional point and an optional exponent
(at least one digit before the exponent), or `Inf` / `Infinity`, or `NaN` / `sNaN` with optional digits; letters in
any case.  `error assertion` = `decimal.InvalidOperation`.  The construction is exact (no rounding).  Exponents of
more than 5 digits are `unmodelled` (the limits `Emax` / `Emin` of the context come into play) -/
def parseDecimal (s : String) : Except Err Dec :=
  let cs := s.toList
  if outsideModel cs then .error .unmodelled
  else
    let cs := (stripWs cs).map lowerAscii
    let (neg, cs) := match cs with
      | '-' :: r => (true, r)
      | '+' :: r => (false, r)
      | r => (false, r)
    if cs == "inf".toList || cs == "infinity".toList then .ok .inf
    else
      let diag := if cs.take 4 == "snan".toList then some (cs.drop 4)
        else if cs.take 3 == "nan".toList then some (cs.drop 3) else none
      match diag with
      | some d => if d.all isDigit then .ok .nan else .error .assertion
      | none =>
        let ip := cs.takeWhile isDigit
        let r := cs.dropWhile isDigit
        let (fp, r) := match r with
          | '.' :: r' => (r'.takeWhile isDigit, r'.dropWhile isDigit)
          | _ => ([], r)
        if ip.isEmpty && fp.isEmpty then .error .assertion
        else
          match r with
          | [] => .ok (.fin neg (digitsNat (ip ++ fp)) (-(fp.length : Int)))
          | 'e' :: er =>
            let (eneg, ed) := match er with
              | '-' :: x => (true, x)
              | '+' :: x => (false, x)
              | x => (false, x)
            if ed.isEmpty || !ed.all isDigit then .error .assertion
            else if 5 < ed.length then .error .unmodelled
            else
              let e : Int := digitsNat ed
              .ok (.fin neg (digitsNat (ip ++ fp)) ((if eneg then -e else e) - (fp.length : Int)))
          | _ => .error .assertion

/-- number of decimal digits (`1` for `0`) -/
def numDigits (n : Nat) : Nat := (Nat.toDigits 10 n).length

/-- the default context of `decimal` (`prec=28`, `ROUND_HALF_EVEN`) applied to an exact result -/
def ctxRound (coef : Nat) (exp : Int) : Nat × Int :=
  let nd := numDigits coef
  if nd ≤ 28 then (coef, exp)
  else
    let sh := nd - 28
    let q := coef / 10 ^ sh
    let r := coef % 10 ^ sh
    let half := 5 * 10 ^ (sh - 1)
    let q := if half < r || (r == half && q % 2 == 1) then q + 1 else q
    if q == 10 ^ 28 then (10 ^ 27, exp + sh + 1) else (q, exp + sh)

/-- `int(d)`: truncation toward zero -/
def decToInt (neg : Bool) (coef : Nat) (exp : Int) : Int :=
  let m : Nat := if 0 ≤ exp then coef * 10 ^ exp.toNat else coef / 10 ^ (-exp).toNat
  if neg then -(m : Int) else (m : Int)

/-- `int(d * (10**6))`: the product is rounded to 28 significant digits by the context, then truncated -/
def mutezOfDec : Dec → Except Err Int
  | .nan => .error .assertion         -- ValueError: cannot convert NaN to integer
  | .inf => .error .overflow          -- OverflowError: cannot convert Infinity to integer
  | .fin neg coef exp =>
    let (c', e') := ctxRound (coef * 1000000) exp
    .ok (decToInt neg c' e')

/-- `MutezType.from_value` -/
def mutezFromValue (n : Int) : Except Err Val :=
  if n < 0 then .error .assertion else if 9223372036854775808 ≤ n then .error .overflow else .ok (.int n)

def hexVal (ch : Char) : Option Nat :=
  if '0' ≤ ch && ch ≤ '9' then some (ch.toNat - 48)
  else if 'a' ≤ ch && ch ≤ 'f' then some (ch.toNat - 87)
  else if 'A' ≤ ch && ch ≤ 'F' then some (ch.toNat - 55)
  else none

/-- `bytes.fromhex`: two hexadecimal digits per byte, ASCII white space (`' \t\n\r\v\f'`) skipped between bytes -/
def fromHex : List Char → Option (List Nat)
  | [] => some []
  | ch :: tl =>
    if ch == ' ' || ch == '\t' || ch == '\n' || ch == '\r' || ch.toNat == 11 || ch.toNat == 12 then fromHex tl
    else
      match tl with
      | [] => none
      | d :: rest =>
        match hexVal ch, hexVal d with
        | some x, some y => (fromHex rest).map fun bs => (x * 16 + y) :: bs
        | _, _ => none

/-- `if py_obj.startswith('0x'): py_obj = py_obj[2:]`, then `bytes.fromhex(py_obj)` (`ValueError` = assertion) -/
def hexText (s : String) : Except Err (List Nat) :=
  let cs := match s.toList with
    | '0' :: 'x' :: r => r
    | r => r
  match fromHex cs with
  | some bs => .ok bs
  | none => .error .assertion

/-- `int.from_bytes(b, 'little')` -/
def leToNat : List Nat → Nat
  | [] => 0
  | b :: r => b + 256 * leToNat r

/-- `BLS12_381_FrType.bytes_to_int` -/
def frBytesToInt (b : List Nat) : Except Err Int :=
  if b.length ≤ 32 then .ok (leToNat b : Int) else .error .assertion

/-- `from_python_object` of the leaves -/
def scalarOfPy (c : Cfg) : Scalar → PyObj → Except Err Val
  | .unit, .none | .unit, .unit => .ok .unit
  | .unit, _ => .error .assertion
  | .bool, .bool b => .ok (.bool b)
  | .bool, _ => .error .assertion
  | .nat, .int n => if 0 ≤ n then .ok (.int n) else .error .assertion
  | .nat, .bool _ => .error .unmodelled
  | .nat, _ => .error .assertion
  | .int, .int n => .ok (.int n)
  | .int, .bool _ => .error .unmodelled
  | .int, _ => .error .assertion
  | .mutez, .int n => mutezFromValue n
  | .mutez, .decimal neg coef exp => (mutezOfDec (.fin neg coef exp)).bind mutezFromValue
  | .mutez, .decimalSpecial inf => (mutezOfDec (if inf then .inf else .nan)).bind mutezFromValue
  | .mutez, .str s => ((parseDecimal s).bind mutezOfDec).bind mutezFromValue
  | .mutez, .bool _ => .error .unmodelled
  | .mutez, _ => .error .assertion
  | .timestamp, .int n => .ok (.int n)
  | .timestamp, .str s => (optimizeTimestamp s).map .int
  | .timestamp, .bool _ => .error .unmodelled
  | .timestamp, _ => .error .assertion
  | .string, .str s => if isAscii s then .ok (.str s) else .error .assertion
  | .string, _ => .error .assertion
  | .bytes, .bytes b | .blsG1, .bytes b | .blsG2, .bytes b => .ok (.bytes b)     -- `cls(value)`: no `from_value`, no length check
  | .bytes, .str s | .blsG1, .str s | .blsG2, .str s => (hexText s).map .bytes
  | .bytes, _ | .blsG1, _ | .blsG2, _ => .error .assertion
  | .address, .str s => (addressFromValue c s).map .str
  | .address, .bytes _ => .error .type                       -- `bytes.partition('%')`
  | .address, _ => .error .assertion                        -- AttributeError: no `partition`
  | .keyHash, .str s => (plainFromValue c .keyHash s).map .str
  | .key, .str s => (plainFromValue c .key s).map .str
  | .signature, .str s => (plainFromValue c .signature s).map .str
  | .chainId, .str s => (plainFromValue c .chainId s).map .str
  | .keyHash, .bytes _ | .key, .bytes _ | .signature, .bytes _ | .chainId, .bytes _ => .error .unmodelled
  | .keyHash, _ | .key, _ | .signature, _ | .chainId, _ => .error .assertion
  | .blsFr, .int n => .ok (.int (n % (c.frModulus : Int)))
  | .blsFr, .bytes b => (frBytesToInt b).map fun n => .int (n % (c.frModulus : Int))
  | .blsFr, .str s => ((hexText s).bind frBytesToInt).map fun n => .int (n % (c.frModulus : Int))
  | .blsFr, .bool _ => .error .unmodelled
  | .blsFr, _ => .error .assertion
  | .never, _ => .error .assertion                          -- NotImplementedError

/-- keys of `obj` below branch `b`, made relative to it -/
def strip (b : Bool) : List (Path × PyObj) → List (Path × PyObj)
  | [] => []
  | (b' :: q, v) :: rest => if b' = b then (q, v) :: strip b rest else strip b rest
  | ([], _) :: rest => strip b rest

/-- `obj[subpath] if subpath in obj else wrap_pair(obj, subpath)`, then `args[i].from_python_object(...)` -/
def pick (obj : List (Path × PyObj)) (b : Bool) (leaf : PyObj → Except Err Val)
    (nested : List (Path × PyObj) → Except Err Val) : Except Err Val :=
  match dget obj [b] with
  | some py => leaf py
  | none => nested (strip b obj)

/-- `{idx_to_path[i]: value for i, value in enumerate(py_obj)}` -/
def objOfTuple : List Path → List PyObj → Except Err (List (Path × PyObj))
  | _, [] => .ok []
  | [], _ :: _ => .error .key
  | p :: ps, x :: xs => (objOfTuple ps xs).map fun rest => (p, x) :: rest

/-- `{key_to_path[key]: value for key, value in py_obj.items()}` -/
def objOfRecord (k2p : List (String × Path)) : List (String × PyObj) → List (Path × PyObj) → Except Err (List (Path × PyObj))
  | [], acc => .ok acc
  | (k, v) :: rest, acc =>
    match dget k2p k with
    | some path => objOfRecord k2p rest (dset acc path v)
    | none => .error .key

/-- a Python dict whose keys are all `str` read as a record (what the pair / union decoders index by name);
`none`: some key is not a string (the name lookup then raises KeyError) -/
def asRecord : List (PyObj × PyObj) → Option (List (String × PyObj))
  | [] => some []
  | (.str k, v) :: rest => (asRecord rest).map fun r => (k, v) :: r
  | _ :: _ => none

mutual
  def ofPy (c : Cfg) : Ty → PyObj → Except Err Val
    | .scalar _ s, py => scalarOfPy c s py
    | .contract _ _, py =>
      -- `if py_obj is None or py_obj is Undefined: py_obj = get_originated_address(0)`, then `AddressType`'s
      match py with
      | .none => (addressFromValue c c.originated0).map .str
      | .str s => (addressFromValue c s).map .str
      | .bytes _ => .error .type
      | _ => .error .assertion
    -- `TicketType.from_python_object` (repaired, fixes/C12-3): the three components are converted one by one, the way
    -- `to_python_object` shows them (the pinned body read the object as a value of `pair address (pair t nat)`, whose
    -- layout flattens an unnamed pair `t`: `ticket (pair nat nat)` did not convert back)
    | .ticket _ t, py =>
      match py with
      | .tuple [a, b, n] | .list [a, b, n] => do
        let tk ← match a with
          | .str s => addressFromValue c s
          | .bytes _ => .error .type
          | _ => .error .assertion
        let x ← ofPy c t b
        let amt ← match n with
          | .int k => if 0 ≤ k then .ok k else .error .assertion
          | .bool _ => .error .unmodelled
          | _ => .error .assertion
        .ok (.ticket tk x amt)
      | _ => .error .assertion
    -- `assert isinstance(py_obj, str)`; `michelson_to_micheline`; `from_micheline_value`: `assert isinstance(·, list)`,
    -- `cls(Micheline.match(val_expr))`
    | .lambda _ _ _, py =>
      match py with
      | .str s =>
        match c.codeOfText s with
        | some code => .ok (.lambda code)
        | none => .error .assertion
      | _ => .error .assertion
    | .pair a l r, py => do
      let lay := pairLayout (.pair a l r)
      let obj ← match py with
        | .tuple xs | .list xs => objOfTuple lay.idxToPath xs
        | .record kvs =>
          match lay.keyToPath with
          | some k2p => objOfRecord k2p kvs []
          | none => .error .assertion                       -- `assert key_to_path, 'expected named type'`
        | .dict items =>
          match lay.keyToPath, asRecord items with
          | some k2p, some kvs => objOfRecord k2p kvs []
          | some _, none => .error .key
          | none, _ => .error .assertion
        | _ => .error .assertion
      if obj.isEmpty then .error .key                        -- `wrap_pair`: no key starts with ''
      else do
        let x ← pick obj false (ofPy c l) (nestedPair c l)
        let y ← pick obj true (ofPy c r) (nestedPair c r)
        .ok (.pair x y)
    | .or a l r, py => do
      let lay := orLayout (.or a l r)
      let (entrypoint, value) ← match py with
        | .str s => if (Ty.or a l r).isEnum then .ok (s, PyObj.unit) else .error .assertion
        | .tuple [.str k, v] | .list [.str k, v] => .ok (k, v)
        | .tuple [_, _] | .list [_, _] => .error .key
        | .record [(k, v)] => .ok (k, v)
        | .dict [(.str k, v)] => .ok (k, v)
        | .dict [(_, _)] => .error .key
        | _ => .error .assertion
      match lay.keyToPath with
      | none => .error .assertion
      | some k2p =>
        match dget k2p entrypoint with
        | none => .error .key
        | some [] => .error .assertion
        | some (false :: rest) => (if rest.isEmpty then ofPy c l value else orNested c l rest value).map .left
        | some (true :: rest) => (if rest.isEmpty then ofPy c r value else orNested c r rest value).map .right
    | .option _ t, py =>
      match py with
      | .none => .ok .none
      | py => (ofPy c t py).map .some
    | .list _ t, py =>
      match py with
      | .list xs => (mapE (ofPy c t) xs).map .list
      | _ => .error .assertion
    | .set _ t, py =>
      match py with
      | .list xs =>
        if !(xs.all (PyObj.hashable c)) then .error .type
        else if !pyDistinct xs then .error .assertion
        else (mapE (ofPy c t) xs).map fun items => .set (sortBy (ltV c t) items)
      | _ => .error .assertion
    | .map _ k v, py =>
      match py with
      | .dict items => (mapE (fun (e : PyObj × PyObj) => do
          let kk ← ofPy c k e.1
          let vv ← ofPy c v e.2
          pure (kk, vv)) items).map fun kvs => .map (sortBy (fun a b => ltV c k a.1 b.1) kvs)
      | _ => .error .assertion
    | .bigMap _ k v, py =>
      match py with
      | .int n => .ok (.bigMapId n)
      | .bool _ => .error .unmodelled
      | .dict items => (mapE (fun (e : PyObj × PyObj) => do
          let kk ← ofPy c k e.1
          let vv ← ofPy c v e.2
          pure (kk, vv)) items).map fun kvs => .bigMap (sortBy (fun a b => ltV c k a.1 b.1) kvs)
      | _ => .error .assertion
  /-- `from_python_object(Nested(...))` of an unnamed inner pair over the keys below it -/
  def nestedPair (c : Cfg) : Ty → List (Path × PyObj) → Except Err Val
    | .pair _ l r, obj =>
      if obj.isEmpty then .error .key
      else do
        let x ← pick obj false (ofPy c l) (nestedPair c l)
        let y ← pick obj true (ofPy c r) (nestedPair c r)
        .ok (.pair x y)
    | _, obj => if obj.isEmpty then .error .key else .error .assertion
  /-- `from_python_object(wrap_or(value, path))` of an inner union -/
  def orNested (c : Cfg) : Ty → Path → PyObj → Except Err Val
    | .or _ l _, false :: rest, value => (if rest.isEmpty then ofPy c l value else orNested c l rest value).map .left
    | .or _ _ r, true :: rest, value => (if rest.isEmpty then ofPy c r value else orNested c r rest value).map .right
    | _, _, _ => .error .assertion
end

end Impl.PyConv

/-! ## which types convert back (decidable; as weak as the code allows) -/
namespace Spec.PyConv
open Impl.PyConv

/-- the Python object of a value of this (comparable) type contains the `Unit` sentinel -/
def pyHasUnit : Ty → Bool
  | .scalar _ .unit => true
  | .pair _ l r => pyHasUnit l || pyHasUnit r
  | .or a l r => !(Ty.or a l r).isEnum && (pyHasUnit l || pyHasUnit r)
  | .option _ t => pyHasUnit t
  | _ => false

def hasPair : Ty → Bool
  | .pair .. => true
  | .or _ l r => hasPair l || hasPair r
  | .option _ t => hasPair t
  | _ => false

mutual
  /-- `inv c cmp τ`: `from_python_object(to_python_object(v, comparable=cmp)) = v` holds for every `v : τ`.
  Excluded, and only these (field names play no role: `C12.field_names_unique` holds for every type):
  * `option (option _)` — `Some None` and `None` are both Python `None` (inherent to the documented mapping);
  * a list / set / map / big_map / contract / bls12_381 value in key position (not comparable: `to_python_object`
    asserts);
  * a set element / map key type whose object contains `Unit` while `class unit` has no `__hash__`;
  * a set of pairs while `PairType.__lt__` is not lexicographic (the order `sorted` restores depends on the
    iteration order of a Python `set`). -/
  def inv (c : Cfg) (cmp : Bool) : Ty → Bool
    | .scalar _ s => !(cmp && s.assertsNotComparable)
    | .contract _ _ => !cmp
    | .ticket _ t => !cmp && inv c true t
    | .lambda _ _ _ => !cmp
    | .pair _ l r =>
      (if l.isFlatPair then leavesInv c cmp l else inv c cmp l)
        && (if r.isFlatPair then leavesInv c cmp r else inv c cmp r)
    | .or _ l r =>
      (if l.isOr then orLeavesInv c cmp l else inv c cmp l)
        && (if r.isOr then orLeavesInv c cmp r else inv c cmp r)
    | .option _ t => !t.isOption && inv c cmp t
    | .list _ t => !cmp && inv c false t
    | .set _ t => !cmp && inv c true t && (c.unitHashable || !pyHasUnit t) && (c.pairLtLex || !hasPair t)
    | .map _ k v => !cmp && inv c true k && (c.unitHashable || !pyHasUnit k) && inv c false v
    | .bigMap _ k v => !cmp && inv c true k && (c.unitHashable || !pyHasUnit k) && inv c false v
  def leavesInv (c : Cfg) (cmp : Bool) : Ty → Bool
    | .pair _ l r =>
      (if l.isFlatPair then leavesInv c cmp l else inv c cmp l)
        && (if r.isFlatPair then leavesInv c cmp r else inv c cmp r)
    | _ => false
  def orLeavesInv (c : Cfg) (cmp : Bool) : Ty → Bool
    | .or _ l r =>
      (if l.isOr then orLeavesInv c cmp l else inv c cmp l)
        && (if r.isOr then orLeavesInv c cmp r else inv c cmp r)
    | _ => false
end

/-- typing of values (what `from_micheline_value` of the type produces): sets / maps hold pairwise different
elements / keys in the order `sorted` leaves unchanged (`check_constraints`) -/
def HasTy (c : Cfg) : Ty → Val → Prop
  | .scalar _ .unit, v => v = .unit
  | .scalar _ .bool, v => ∃ b, v = .bool b
  | .scalar _ .nat, v => ∃ n : Int, v = .int n ∧ 0 ≤ n
  | .scalar _ .int, v => ∃ n : Int, v = .int n
  | .scalar _ .mutez, v => ∃ n : Int, v = .int n ∧ 0 ≤ n ∧ n < 9223372036854775808
  | .scalar _ .timestamp, v => ∃ n : Int, v = .int n
  | .scalar _ .string, v => ∃ s, v = .str s ∧ isAscii s = true
  | .scalar _ .bytes, v => ∃ b, v = .bytes b
  -- the base58 leaves: the texts `from_value` keeps as they are (an address has lost a `%default`)
  | .scalar _ .address, v => ∃ s, v = .str s ∧ addressFromValue c s = .ok s
  | .scalar _ .keyHash, v => ∃ s, v = .str s ∧ plainFromValue c .keyHash s = .ok s
  | .scalar _ .key, v => ∃ s, v = .str s ∧ plainFromValue c .key s = .ok s
  | .scalar _ .signature, v => ∃ s, v = .str s ∧ plainFromValue c .signature s = .ok s
  | .scalar _ .chainId, v => ∃ s, v = .str s ∧ plainFromValue c .chainId s = .ok s
  | .scalar _ .blsFr, v => ∃ n : Int, v = .int n ∧ 0 ≤ n ∧ n < (c.frModulus : Int)      -- `value % modulus`
  | .scalar _ .blsG1, v => ∃ b, v = .bytes b       -- `from_micheline_value` is `BytesType`'s: no length check
  | .scalar _ .blsG2, v => ∃ b, v = .bytes b
  | .scalar _ .never, _ => False
  | .contract _ _, v => ∃ s, v = .str s ∧ addressFromValue c s = .ok s
  | .ticket _ t, v => ∃ tk x n, v = .ticket tk x n ∧ addressFromValue c tk = .ok tk ∧ HasTy c t x ∧ (0 : Int) ≤ n
  | .lambda _ _ _, v => ∃ code, v = .lambda code ∧ c.codeOk code = true
  | .pair _ l r, v => ∃ x y, v = .pair x y ∧ HasTy c l x ∧ HasTy c r y
  | .or _ l r, v => (∃ x, v = .left x ∧ HasTy c l x) ∨ (∃ y, v = .right y ∧ HasTy c r y)
  | .option _ t, v => v = .none ∨ ∃ x, v = .some x ∧ HasTy c t x
  | .list _ t, v => ∃ xs, v = .list xs ∧ ∀ x ∈ xs, HasTy c t x
  | .set _ t, v => ∃ xs, v = .set xs ∧ (∀ x ∈ xs, HasTy c t x) ∧ xs.Pairwise (· ≠ ·) ∧ sortBy (ltV c t) xs = xs
  | .map _ k t, v => ∃ kvs, v = .map kvs ∧ (∀ e ∈ kvs, HasTy c k e.1 ∧ HasTy c t e.2)
      ∧ (kvs.map (·.1)).Pairwise (· ≠ ·) ∧ sortBy (fun a b => ltV c k a.1 b.1) kvs = kvs
  | .bigMap _ k t, v => (∃ n, v = .bigMapId n) ∨ ∃ kvs, v = .bigMap kvs ∧ (∀ e ∈ kvs, HasTy c k e.1 ∧ HasTy c t e.2)
      ∧ (kvs.map (·.1)).Pairwise (· ≠ ·) ∧ sortBy (fun a b => ltV c k a.1 b.1) kvs = kvs

/-- the one law the round trip of `lambda` needs, a hypothesis of the theorems (formatting and parsing Michelson source
is C18's property): the text of a body reads back as that body -/
def CodeLaw (c : Cfg) : Prop := ∀ code, c.codeOk code = true → c.codeOfText (c.codeText code) = some code

/-- the decidable guard of the round-trip theorem -/
def PyInvertible (c : Cfg) (τ : Ty) : Prop := inv c false τ = true

instance (c : Cfg) (τ : Ty) : Decidable (PyInvertible c τ) := by unfold PyInvertible; infer_instance

end Spec.PyConv

/-! ## `ContractData.decode` / `encode` (contract/data.py) as compositions -/
namespace Impl.PyConv

/-- the Micheline coding of typed values (`from_micheline_value` / `to_micheline_value(lazy_diff=None)`), a parameter:
its own round trip is C11 -/
structure Codec (M : Type) where
  toMich : Ty → Val → M
  ofMich : Ty → M → Except Err Val

/-- `type(self.data).from_micheline_value(value).to_python_object(lazy_diff=None)` -/
def decode {M : Type} (k : Codec M) (c : Cfg) (τ : Ty) (m : M) : Except Err PyObj :=
  (k.ofMich τ m).bind (toPy c false τ)

/-- `type(self.data).from_python_object(py_obj).to_micheline_value(mode, lazy_diff=None)` -/
def encode {M : Type} (k : Codec M) (c : Cfg) (τ : Ty) (py : PyObj) : Except Err M :=
  (ofPy c τ py).map (k.toMich τ)

end Impl.PyConv
