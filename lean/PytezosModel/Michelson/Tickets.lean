import PytezosModel.Generated.C20
/-! C20 — tickets: a mini-interpreter mirroring how pytezos executes the ticket instructions together with the
pair / or / option / list / set / map / big_map / lambda and stack instructions (src/pytezos/michelson/instructions/{ticket,
adt,struct,stack,control}.py, types/{ticket,base,map,big_map,set,sum,list,option}.py, stack.py).

What is mirrored literally: `MichelsonStack` (`items` + `protected`: `protect`, `restore`, `push` = `insert(protected, …)`,
`peek`, `pop`), every instruction's dynamic checks (`assert_type_in`, `assert_type_equal`, `is_duplicable`, `duplicate`,
`is_pushable`, `is_comparable`, the `dup` argument of `MapType.get` vs `BigMapType.get`), and the *runtime class* of every
value (`typeOf`): duplicability is decided on the class, not on the value.  The shape of the code under test is read by
the translator (`Generated.C20`) into `Cfg`.

Outcomes: `.error .fail` = MichelsonRuntimeError; `.error .unmodelled` = the real code does something this model does
not represent (listed at `Err.unmodelled`); `.error .fuel` = fuel exhausted (the driver gives ample fuel).

Ghost fields of the state (never read by the mirror): `minted` — log of successful TICKET executions; `typedStores` —
stays true as long as every value stored by UPDATE / GET_AND_UPDATE has the map's declared value type (pytezos does not
check it; the Michelson type checker does). -/
namespace Impl.Tickets

inductive Atom where
  | nat (n : Nat)
  | str (s : String)
  | addr (s : String)
  | unit
  | bool (b : Bool)
  deriving DecidableEq, Repr, Inhabited

/-- comparable values: ticket contents -/
inductive Cmp where
  | atom (a : Atom)
  | pair (l r : Cmp)
  deriving DecidableEq, Repr, Inhabited

/-- runtime classes.  `ticketBare` is the class `TicketType` itself (`args = []`), which `split` / `join` instantiate when
they do not use `type(self)` -/
inductive Ty where
  | nat | string | address | unit | bool
  | pair (a b : Ty)
  | or (a b : Ty)
  | set (t : Ty)
  | lambda (a b : Ty)
  | option (t : Ty)
  | list (t : Ty)
  | map (k v : Ty)
  | bigMap (k v : Ty)
  | ticket (t : Ty)
  | ticketBare
  deriving DecidableEq, Repr, Inhabited

def Ty.prim : Ty → String
 | .nat => "nat" | .string => "string" | .address => "address" | .unit => "unit" | .bool => "bool"
  | .pair .. => "pair" | .or .. => "or" | .set _ => "set" | .lambda .. => "lambda" | .option _ => "option" | .list _ => "list" | .map .. => "map" | .bigMap .. => "big_map"
  | .ticket _ => "ticket" | .ticketBare => "ticket"

/-- the shape shared by `is_duplicable` / `is_comparable` / `is_pushable`: false on the listed prims, true on `lambda`
(whatever its arguments), otherwise all arguments -/
def Ty.all (bad : List String) : Ty → Bool
  | .nat => !bad.contains "nat"
  | .string => !bad.contains "string"
  | .address => !bad.contains "address"
  | .unit => !bad.contains "unit"
  | .bool => !bad.contains "bool"
  | .pair a b => !bad.contains "pair" && (a.all bad && b.all bad)
  | .or a b => !bad.contains "or" && (a.all bad && b.all bad)
  | .set t => !bad.contains "set" && t.all bad
  | .lambda _ _ => !bad.contains "lambda"          -- `elif cls.prim == 'lambda': return True`: the arguments are not looked at
  | .option t => !bad.contains "option" && t.all bad
  | .list t => !bad.contains "list" && t.all bad
  | .map k v => !bad.contains "map" && (k.all bad && v.all bad)
  | .bigMap k v => !bad.contains "big_map" && (k.all bad && v.all bad)
  | .ticket t => !bad.contains "ticket" && t.all bad
  | .ticketBare => !bad.contains "ticket"

def Ty.isAtomTy : Ty → Bool
  | .nat | .string | .address | .unit | .bool => true
  | _ => false

structure Cfg where
  nonDup : List String
  nonCmp : List String
  nonPush : List String
  splitRejectsZero : Bool
  splitKeeps : Bool
  joinKeeps : Bool
  bigGetDup : Bool
  dupChecksBig : Bool

/-- the code under test; whatever the translator did not recognise defaults to the pessimistic reading -/
def cfg : Cfg where
  nonDup := Generated.C20.nonDuplicablePrims.getD []
  nonCmp := Generated.C20.nonComparablePrims.getD []
  nonPush := Generated.C20.nonPushablePrims.getD []
  splitRejectsZero := Generated.C20.splitRejectsZero.getD false
  splitKeeps := Generated.C20.splitKeepsClass.getD false
  joinKeeps := Generated.C20.joinKeepsClass.getD false
  bigGetDup := Generated.C20.bigMapGetHonoursDup.getD false
  dupChecksBig := Generated.C20.dupChecksBigMap.getD false && Generated.C20.duplicateAsserts

/- runtime values and instructions (mutual: a lambda value holds code, PUSH holds a value).  A (big_)map keeps its keys
and values in two lists of equal length (`items` of the Python object); `removed` = `BigMapType.removed_keys`.  Map keys
are atoms (pair keys are outside the model). -/
mutual
inductive Val where
  | atom (a : Atom)
  | ticket (cls : Ty) (ticketer : String) (contents : Cmp) (amount : Nat)
  | pair (l r : Val)
  | none (t : Ty)
  | some (v : Val)
  | list (t : Ty) (xs : List Val)
  | map (big : Bool) (k v : Ty) (keys : List Atom) (vals : List Val) (removed : List Atom)
  /-- `OrType((left, Undefined))`; `rt` = the other type argument of the class -/
  | left (v : Val) (rt : Ty)
  | right (lt : Ty) (v : Val)
  /-- a set of atoms (other element types are outside the model) -/
  | set (t : Ty) (xs : List Atom)
  /-- `LambdaType(value=body)` of class `lambda a b` -/
  | lam (a b : Ty) (body : List Instr)
inductive Instr where
  | ticket | readTicket | splitTicket | joinTickets
  | pair | unpair | car | cdr
  | some | none (t : Ty) | ifNone (bt bf : List Instr)
  | cons | nil (t : Ty) | iter (body : List Instr) | map (body : List Instr)
  | dup | dupN (n : Nat) | swap | dig (n : Nat) | dug (n : Nat) | drop
  | dip (body : List Instr) | dipN (n : Nat) (body : List Instr)
  | push (t : Ty) (v : Val)
  | emptyMap (k v : Ty) | emptyBigMap (k v : Ty)
  | get | getAndUpdate | update
  | left (t : Ty) | right (t : Ty) | ifLeft (bt bf : List Instr)
  | emptySet (t : Ty) | mem
  | lambda (a b : Ty) (body : List Instr) | exec | apply
  | failwith
  | seq (body : List Instr)
end

instance : Inhabited Val := ⟨.atom .unit⟩
instance : Inhabited Instr := ⟨.drop⟩

def Atom.ty : Atom → Ty
  | .nat _ => .nat | .str _ => .string | .addr _ => .address | .unit => .unit | .bool _ => .bool

def Cmp.ty : Cmp → Ty
  | .atom a => a.ty
  | .pair l r => .pair l.ty r.ty

/-- `type(v)` up to annotations -/
def Val.typeOf : Val → Ty
  | .atom a => a.ty
  | .ticket cls .. => cls
  | .pair l r => .pair l.typeOf r.typeOf
  | .none t => .option t
  | .some v => .option v.typeOf
  | .list t _ => .list t
  | .map big k v .. => if big then .bigMap k v else .map k v
  | .left v rt => .or v.typeOf rt
  | .right lt v => .or lt v.typeOf
  | .set t _ => .set t
  | .lam a b _ => .lambda a b

def Cmp.toVal : Cmp → Val
  | .atom a => .atom a
  | .pair l r => .pair l.toVal r.toVal

/-- the comparable values this model can hold as ticket contents -/
def Val.toCmp : Val → Option Cmp
  | .atom a => Option.some (.atom a)
  | .pair l r => match l.toCmp, r.toCmp with
    | Option.some a, Option.some b => Option.some (.pair a b)
    | _, _ => Option.none
  | _ => Option.none

inductive Err where
  | fail
  /-- DUP 0; ITER over a big_map with removed keys; comparable contents other than atoms and pairs (nested at will) of atoms; (big_)maps and
  sets whose key / element type is not an atom type; MAP over a non-empty set; ITER / MAP over an `or` value (the real
  loop pushes the `Undefined` marker of the empty side) -/
  | unmodelled
  | fuel
  deriving DecidableEq, Repr

abbrev M := Except Err

structure State where
  items : List Val
  prot : Nat
  self : String
  typedStores : Bool := true
  minted : List (String × Cmp × Nat) := []
  deriving Inhabited

/-! ### MichelsonStack -/

def State.protect (s : State) (count : Nat) : M State :=
  if s.items.length < count then .error .fail else .ok { s with prot := s.prot + count }

def State.restore (s : State) (count : Nat) : M State :=
  if s.prot < count then .error .fail else .ok { s with prot := s.prot - count }

/-- `self.items.insert(self.protected, item)` (Python clamps the index) -/
def State.push (s : State) (v : Val) : State :=
  { s with items := s.items.take s.prot ++ v :: s.items.drop s.prot }

def State.peek (s : State) : M Val :=
  if s.items.isEmpty then .error .fail else
    match s.items[s.prot]? with
    | some v => .ok v
    | none => .error .fail

/-- `[self.items.pop(self.protected) for _ in range(count)]` -/
def State.pop (s : State) (count : Nat) : M (List Val × State) :=
  if s.items.length < s.prot + count then .error .fail
  else .ok ((s.items.drop s.prot).take count,
            { s with items := s.items.take s.prot ++ s.items.drop (s.prot + count) })

def State.pop1 (s : State) : M (Val × State) := do
  match ← s.pop 1 with
  | ([a], s') => pure (a, s')
  | _ => .error .fail

def State.pop2 (s : State) : M (Val × Val × State) := do
  match ← s.pop 2 with
  | ([a, b], s') => pure (a, b, s')
  | _ => .error .fail

def State.pop3 (s : State) : M (Val × Val × Val × State) := do
  match ← s.pop 3 with
  | ([a, b, c], s') => pure (a, b, c, s')
  | _ => .error .fail

/-! ### tickets (types/ticket.py) -/

/-- `TicketType.split`; `none` = the Python `None` -/
def split (c : Cfg) (cls : Ty) (tk : String) (ct : Cmp) (amount a b : Nat) : Option (Val × Val) :=
  if a + b != amount || (c.splitRejectsZero && (a == 0 || b == 0)) then Option.none
  else
    let cls' := if c.splitKeeps then cls else .ticketBare
    Option.some (.ticket cls' tk ct a, .ticket cls' tk ct b)

/-- `TicketType.join` after its `assert_type_equal`; `none` = the Python `None` -/
def join (c : Cfg) (cls : Ty) (tk1 : String) (c1 : Cmp) (a1 : Nat) (tk2 : String) (c2 : Cmp) (a2 : Nat) : Option Val :=
  if tk1 != tk2 || c1 != c2 then Option.none
  else Option.some (.ticket (if c.joinKeeps then cls else .ticketBare) tk1 c1 (a1 + a2))

/-! ### maps (types/map.py, types/big_map.py) -/

def Atom.lt : Atom → Atom → Bool
  | .nat a, .nat b => a < b
  | .str a, .str b => a < b
  | .addr a, .addr b => a < b
  | .bool a, .bool b => !a && b
  | _, _ => false

def lookup (key : Atom) : List Atom → List Val → Option Val
  | k :: ks, v :: vs => if k == key then Option.some v else lookup key ks vs
  | _, _ => Option.none

/-- `[(k, v if k != key else val) for k, v in items]` -/
def replaceVal (key : Atom) (val : Val) : List Atom → List Val → List Val
  | k :: ks, v :: vs => (if k != key then v else val) :: replaceVal key val ks vs
  | _, _ => []

/-- `[(k, v) for k, v in items if k != key]` -/
def removeKey (key : Atom) : List Atom → List Val → List Atom × List Val
  | k :: ks, v :: vs =>
    let (ks', vs') := removeKey key ks vs
    if k != key then (k :: ks', v :: vs') else (ks', vs')
  | _, _ => ([], [])

/-- `sorted(items + [(key, val)], key=lambda x: x[0])` for sorted `items` not containing `key` -/
def insertSorted (key : Atom) (val : Val) : List Atom → List Val → List Atom × List Val
  | k :: ks, v :: vs =>
    if key.lt k then (key :: k :: ks, val :: v :: vs)
    else
      let (ks', vs') := insertSorted key val ks vs
      (k :: ks', v :: vs')
  | _, _ => ([key], [val])

/-- `get(key, dup)`: `.ok none` = Python `None` -/
def mapGet (c : Cfg) (big : Bool) (kt vt : Ty) (keys : List Atom) (vals : List Val) (_removed : List Atom)
    (key : Val) (dup : Bool) : M (Option Val) :=
  if key.typeOf != kt then .error .fail
  else if dup && (!big || c.bigGetDup) && !vt.all c.nonDup then .error .fail
  else match key with
    | .atom k =>
      match lookup k keys vals with
      | Option.some v => .ok (Option.some v)
      | Option.none => .ok Option.none     -- a removed key yields None; an unknown key asks the (empty, offline) context: None
    | _ => .error .unmodelled

/-- `update(key, val)` → (previous value, new map).  `MapType.update`, and `BigMapType.update` as repaired for C15 (its
comprehensions walk `self.items`; `removed_keys` is a set: add on removal, discard on insertion) -/
def mapUpdate (c : Cfg) (big : Bool) (kt vt : Ty) (keys : List Atom) (vals : List Val) (removed : List Atom)
    (key : Val) (val : Option Val) : M (Option Val × Val) := do
  let prev ← mapGet c big kt vt keys vals removed key false
  match key with
  | .atom k =>
    match prev, val with
    | Option.some p, Option.some x =>
      -- offline a previous value always sits in `items` (the `else` branch of the big_map code needs a context value)
      pure (Option.some p, .map big kt vt keys (replaceVal k x keys vals) removed)
    | Option.some p, Option.none =>
      let (ks, vs) := removeKey k keys vals
      pure (Option.some p, .map big kt vt ks vs (if big then (if removed.contains k then removed else k :: removed) else removed))
    | Option.none, Option.some x =>
      let (ks, vs) := insertSorted k x keys vals
      pure (Option.none, .map big kt vt ks vs (if big then removed.filter (· != k) else removed))
    | Option.none, Option.none => pure (Option.none, .map big kt vt keys vals removed)
  | _ => .error .unmodelled

/-- `sorted([item] + items)` for sorted `items` not containing `item` -/
def insertAtom (k : Atom) : List Atom → List Atom
  | x :: xs => if k.lt x then k :: x :: xs else x :: insertAtom k xs
  | [] => [k]

/-- `SetType.add` -/
def setAdd (k : Atom) (xs : List Atom) : List Atom := if xs.contains k then xs else insertAtom k xs

/-- the option on the stack as the Python `None | value` handed to `update` (`none` = not an option: AttributeError /
failed `assert_type_in`) -/
def optOf : Val → Option (Option Val)
  | .none _ => Option.some Option.none
  | .some x => Option.some (Option.some x)
  | _ => Option.none

/-- `OptionType.none(vt)` / `OptionType.from_some(v)` -/
def optVal (vt : Ty) : Option Val → Val
  | Option.none => .none vt
  | Option.some p => .some p

/-- ghost: does the stored value have the map's declared value type? -/
def storeOk (vt : Ty) : Option Val → Bool
  | Option.some x => x.typeOf == vt
  | Option.none => true

/-! ### instructions -/

/-- what `create_type` asserts when the type arguments of an instruction are matched (before anything runs):
keys of map / big_map and ticket contents are comparable; there is no source syntax for the bare ticket class -/
def Ty.wf (c : Cfg) : Ty → Bool
  | .pair a b => a.wf c && b.wf c
  | .option t => t.wf c
  | .list t => t.wf c
  | .map k v => k.all c.nonCmp && k.wf c && v.wf c
  | .bigMap k v => k.all c.nonCmp && k.wf c && v.wf c
  | .ticket t => t.all c.nonCmp && t.wf c
  | .or a b => a.wf c && b.wf c
  | .set t => t.all c.nonCmp && t.wf c
  | .lambda a b => a.wf c && b.wf c
  | .ticketBare => false
  | _ => true

mutual
  def Instr.wf (c : Cfg) : Instr → Bool
    | .none t => t.wf c
    | .nil t => t.wf c
    | .push t _ => t.wf c
    | .emptyMap k v => (Ty.map k v).wf c
    | .emptyBigMap k v => (Ty.bigMap k v).wf c
    | .emptySet t => (Ty.set t).wf c
    | .left t => t.wf c
    | .right t => t.wf c
    | .ifNone a b => Instr.wfList c a && Instr.wfList c b
    | .ifLeft a b => Instr.wfList c a && Instr.wfList c b
    | .lambda a b body => a.wf c && b.wf c && Instr.wfList c body
    | .iter b => Instr.wfList c b
    | .map b => Instr.wfList c b
    | .dip b => Instr.wfList c b
    | .dipN _ b => Instr.wfList c b
    | .seq b => Instr.wfList c b
    | _ => true
  def Instr.wfList (c : Cfg) : List Instr → Bool
    | [] => true
    | i :: is => i.wf c && Instr.wfList c is
end

def nodupB : List Atom → Bool
  | [] => true
  | k :: ks => !ks.contains k && nodupB ks

mutual
  /-- well-formed runtime values: every container element has the class the container declares, tickets have a ticket
  class, map keys are distinct and paired with the values (what the Michelson type system guarantees) -/
  def Val.consistent : Val → Bool
    | .atom _ => true
    | .ticket cls _ ct _ => cls == .ticketBare || cls == .ticket ct.ty
    | .pair l r => l.consistent && r.consistent
    | .none _ => true
    | .some v => v.consistent
    | .list t xs => Val.consistentList t xs
    | .map _ _ v keys vals _ => keys.length == vals.length && nodupB keys && Val.consistentList v vals
    | .left v _ => v.consistent
    | .right _ v => v.consistent
    | .set _ xs => nodupB xs
    | .lam .. => true
  def Val.consistentList (t : Ty) : List Val → Bool
    | [] => true
    | x :: xs => x.typeOf == t && x.consistent && Val.consistentList t xs
end

/-- strictly increasing (what `check_constraints` asserts of the keys of a map literal / the elements of a set literal) -/
def sortedB : List Atom → Bool
  | a :: b :: rest => a.lt b && sortedB (b :: rest)
  | _ => true

mutual
  /-- what parsing a literal against its type guarantees beyond `consistent`: keys / elements of the declared class, in
  strictly increasing order, nothing removed -/
  def Val.litOk : Val → Bool
    | .pair l r => l.litOk && r.litOk
    | .some v => v.litOk
    | .list _ xs => Val.litOkList xs
    | .map _ k _ keys vals removed => keys.all (fun a => a.ty == k) && sortedB keys && removed.isEmpty && Val.litOkList vals
    | .left v _ => v.litOk
    | .right _ v => v.litOk
    | .set t xs => xs.all (fun a => a.ty == t) && sortedB xs
    | _ => true
  def Val.litOkList : List Val → Bool
    | [] => true
    | x :: xs => x.litOk && Val.litOkList xs
end

/-- `ListType.from_items` / `MapType.from_items` check: every item has the class of the first -/
def sameTypes (t : Ty) (xs : List Val) : Bool := xs.all (·.typeOf == t)

/-- the elements `for elt in src` yields (`from_comb([k, v])` for maps) -/
def elements : Val → M (List Val)
  | .list _ xs => .ok xs
  | .pair l r => .ok [l, r]
  | .map big _ _ keys vals removed =>
    if big && !removed.isEmpty then .error .unmodelled
    else .ok ((keys.zip vals).map fun (k, v) => .pair (.atom k) v)
  | .set _ xs => .ok (xs.map .atom)
  | .left .. => .error .unmodelled        -- (not Michelson) `OrType.__iter__` yields the value and the `Undefined` marker
  | .right .. => .error .unmodelled
  | _ => .error .fail

/-- the instructions that pop a fixed number of items and push their results (`none` in the result list = nothing) -/
def simple (c : Cfg) (s : State) : Instr → Option (M State)
  | .ticket => Option.some do
    let (item, amount, s) ← s.pop2
    match amount with
    | .atom (.nat n) =>
      if !item.typeOf.all c.nonCmp then .error .fail
      else match item.toCmp with
        | Option.none => .error .unmodelled
        | Option.some ct =>
          if n > 0 then
            pure { (s.push (.some (.ticket (.ticket item.typeOf) s.self ct n))) with minted := (s.self, ct, n) :: s.minted }
          else pure (s.push (.none (.ticket item.typeOf)))
    | _ => .error .fail
  | .readTicket => Option.some do
    let (t, s) ← s.pop1
    match t with
    | .ticket cls tk ct a =>
      pure ((s.push (.ticket cls tk ct a)).push (.pair (.atom (.addr tk)) (.pair ct.toVal (.atom (.nat a)))))
    | _ => .error .fail
  | .splitTicket => Option.some do
    let (t, amounts, s) ← s.pop2
    match t, amounts with
    | .ticket cls tk ct amount, .pair (.atom (.nat a)) (.atom (.nat b)) =>
      match split c cls tk ct amount a b with
      | Option.none => pure (s.push (.none (.pair cls cls)))
      | Option.some (l, r) => pure (s.push (.some (.pair l r)))
    | _, _ => .error .fail
  | .joinTickets => Option.some do
    let (p, s) ← s.pop1
    match p with
    | .pair (.ticket cls1 tk1 c1 a1) (.ticket cls2 tk2 c2 a2) =>
      if cls1 != cls2 then .error .fail
      else match join c cls1 tk1 c1 a1 tk2 c2 a2 with
        | Option.none => pure (s.push (.none cls1))
        | Option.some r =>
          -- `OptionType.from_some(res)` calls `res.get_anon_type()`: IndexError on the bare class
          if r.typeOf == .ticketBare then .error .fail else pure (s.push (.some r))
    | _ => .error .fail
  | .pair => Option.some do
    let (l, r, s) ← s.pop2
    pure (s.push (.pair l r))
  | .unpair => Option.some do
    let (p, s) ← s.pop1
    match p with
    | .pair l r => pure ((s.push r).push l)
    | _ => .error .fail
  | .car => Option.some do
    let (p, s) ← s.pop1
    match p with
    | .pair l _ => pure (s.push l)
    | _ => .error .fail
  | .cdr => Option.some do
    let (p, s) ← s.pop1
    match p with
    | .pair _ r => pure (s.push r)
    | _ => .error .fail
  | .some => Option.some do
    let (v, s) ← s.pop1
    pure (s.push (.some v))
  | .none t => Option.some (pure (s.push (.none t)))
  | .nil t => Option.some (pure (s.push (.list t [])))
  | .cons => Option.some do
    let (x, l, s) ← s.pop2
    match l with
    | .list t xs => if t != x.typeOf then .error .fail else pure (s.push (.list t (x :: xs)))
    | _ => .error .fail
  | .swap => Option.some do
    let (a, b, s) ← s.pop2
    pure ((s.push a).push b)
  | .drop => Option.some do
    let (_, s) ← s.pop1
    pure s
  | .failwith => Option.some (.error .fail)     -- pops one item and raises (or fails to pop): an error either way
  | .push t v => Option.some (
    if !t.all c.nonPush then .error .fail
    else if v.typeOf == t && v.consistent && v.litOk then pure (s.push v) else .error .fail)
  | .emptyMap k v => Option.some (if k.isAtomTy then pure (s.push (.map false k v [] [] [])) else .error .unmodelled)
  | .emptyBigMap k v => Option.some (if k.isAtomTy then pure (s.push (.map true k v [] [] [])) else .error .unmodelled)
  | .get => Option.some do
    let (key, src, s) ← s.pop2
    match src with
    | .map big kt vt keys vals removed => do
      let r ← mapGet c big kt vt keys vals removed key true
      pure (s.push (optVal vt r))
    | _ => .error .fail
  | .getAndUpdate => Option.some do
    let (key, val, src, s) ← s.pop3
    match src with
    | .map big kt vt keys vals removed =>
      match optOf val with
      | Option.none => .error .fail
      | Option.some ov => do
        let (prev, dst) ← mapUpdate c big kt vt keys vals removed key ov
        pure (({ s with typedStores := s.typedStores && storeOk vt ov }.push dst).push (optVal vt prev))
    | _ => .error .fail
  | .update => Option.some do
    let (key, val, src, s) ← s.pop3
    match src with
    | .map big kt vt keys vals removed =>
      match optOf val with
      | Option.none => .error .fail           -- a bool (or anything else) with a map
      | Option.some ov => do
        let (_, dst) ← mapUpdate c big kt vt keys vals removed key ov
        pure ({ s with typedStores := s.typedStores && storeOk vt ov }.push dst)
    | .set t xs =>
      match val with
      | .atom (.bool b) =>          -- `src.add(key) if bool(val) else src.remove(key)`; both start with `contains`
        if key.typeOf != t then .error .fail
        else match key with
          | .atom k => pure (s.push (.set t (if b then setAdd k xs else xs.filter (· != k))))
          | _ => .error .unmodelled
      | _ => .error .fail                      -- an option with a set
    | _ => .error .fail
  | .left t => Option.some do
    let (v, s) ← s.pop1
    pure (s.push (.left v t))
  | .right t => Option.some do
    let (v, s) ← s.pop1
    pure (s.push (.right t v))
  | .lambda a b body => Option.some (pure (s.push (.lam a b body)))
  | .apply => Option.some do
    let (left, lam, s) ← s.pop2
    match lam with
    | .lam (.pair lt rt) b body =>
      if left.typeOf != lt then .error .fail
      -- `{ PUSH left_type <literal of left> ; PAIR ; <body> }`: the captured value is re-read from its literal when the PUSH runs
      else pure (s.push (.lam rt b [.push lt left, .pair, .seq body]))
    | _ => .error .fail
  | .emptySet t => Option.some (if t.isAtomTy then pure (s.push (.set t [])) else .error .unmodelled)
  | .mem => Option.some do
    let (key, src, s) ← s.pop2
    match src with
    | .set t xs =>
      if key.typeOf != t then .error .fail
      else match key with
        | .atom k => pure (s.push (.atom (.bool (xs.contains k))))
        | _ => .error .unmodelled
    | .map big kt vt keys vals removed => do
      let r ← mapGet c big kt vt keys vals removed key false
      pure (s.push (.atom (.bool r.isSome)))
    | _ => .error .fail
  | _ => Option.none

/-- `value.duplicate()` as DUP / DUP n reach it -/
def duplicate (c : Cfg) (v : Val) : M Val :=
  match v with
  | .map true k vt .. =>
    -- `BigMapType.duplicate` has no assert; the instruction may check itself
    if c.dupChecksBig && !(Ty.bigMap k vt).all c.nonDup then .error .fail else .ok v
  | _ => if !v.typeOf.all c.nonDup then .error .fail else .ok v

mutual
  def exec (c : Cfg) : Nat → Instr → State → M State
    | 0, _, _ => .error .fuel
    | f + 1, i, s =>
      match simple c s i with
      | Option.some r => r
      | Option.none =>
        match i with
        | .dup => do
          let top ← s.peek
          let r ← duplicate c top
          pure (s.push r)
        | .dupN n =>
          if n == 0 then .error .unmodelled else do
            let s ← s.protect (n - 1)
            let top ← s.peek
            let r ← duplicate c top
            let s ← s.restore (n - 1)
            pure (s.push r)
        | .dig n => do
          let s ← s.protect n
          let (r, s) ← s.pop1
          let s ← s.restore n
          pure (s.push r)
        | .dug n => do
          let (r, s) ← s.pop1
          let s ← s.protect n
          let s := s.push r
          s.restore n
        | .dip body => do
          let s ← s.protect 1
          let s ← execSeq c f body s
          s.restore 1
        | .dipN n body => do
          let s ← s.protect n
          let s ← execSeq c f body s
          s.restore n
        | .seq body => execSeq c f body s
        | .ifNone bt bf => do
          let (o, s) ← s.pop1
          match o with
          | .none _ => execSeq c f bt s
          | .some v => execSeq c f bf (s.push v)
          | _ => .error .fail
        | .exec => do
          let (param, lam, s) ← s.pop2
          match lam with
          | .lam a b body =>
            if param.typeOf != a then .error .fail
            else do
              -- `lambda_stack = MichelsonStack.from_items([param])`; the body runs on it with the same context
              let ls ← execSeq c f body { s with items := [param], prot := 0 }
              let (res, ls) ← ls.pop1
              if res.typeOf != b then .error .fail
              else if !ls.items.isEmpty then .error .fail
              else pure ({ s with typedStores := ls.typedStores, minted := ls.minted }.push res)
          | _ => .error .fail
        | .ifLeft bt bf => do
          let (o, s) ← s.pop1
          match o with
          | .left v _ => execSeq c f bt (s.push v)
          | .right _ v => execSeq c f bf (s.push v)
          | _ => .error .fail
        | .iter body => do
          let (src, s) ← s.pop1
          let els ← elements src
          iterLoop c f body els s
        | .map body => do
          let (src, s) ← s.pop1
          match src with
          | .list t xs =>
            let (ys, s) ← mapLoop c f body xs [] s
            match ys with
            | [] => pure (s.push (.list t xs))
            | y :: _ => if sameTypes y.typeOf ys then pure (s.push (.list y.typeOf ys)) else .error .fail
          | .map false kt _ keys _ removed =>
            let els ← elements src
            let (ys, s) ← mapLoop c f body els [] s
            match ys with
            | [] => pure (s.push src)
            | y :: _ =>
              if ys.length == keys.length && sameTypes y.typeOf ys then pure (s.push (.map false kt y.typeOf keys ys removed))
              else .error .fail
          | .map true _ _ keys _ removed =>
            -- `BigMapType.from_items` is forbidden: only the empty big_map survives MAP
            if keys.isEmpty && removed.isEmpty then pure (s.push src) else .error .fail
          | .set _ xs =>
            -- (not Michelson) `SetType.from_items` would rebuild a set from the results: outside the model
            if xs.isEmpty then pure (s.push src) else .error .unmodelled
          | .left .. => .error .unmodelled
          | .right .. => .error .unmodelled
          | _ => .error .fail          -- not iterable, or (pair) no `from_items`
        | _ => .error .fail
  def execSeq (c : Cfg) : Nat → List Instr → State → M State
    | 0, _, _ => .error .fuel
    | _ + 1, [], s => .ok s
    | f + 1, i :: is, s => do
      let s ← exec c f i s
      execSeq c f is s
  /-- `for elt in src: stack.push(elt); body.execute(...)` -/
  def iterLoop (c : Cfg) : Nat → List Instr → List Val → State → M State
    | 0, _, _, _ => .error .fuel
    | _ + 1, _, [], s => .ok s
    | f + 1, body, x :: xs, s => do
      let s ← execSeq c f body (s.push x)
      iterLoop c f body xs s
  /-- `for elt in src: stack.push(elt); body.execute(...); items.append(stack.pop1())` -/
  def mapLoop (c : Cfg) : Nat → List Instr → List Val → List Val → State → M (List Val × State)
    | 0, _, _, _, _ => .error .fuel
    | _ + 1, _, [], acc, s => .ok (acc.reverse, s)
    | f + 1, body, x :: xs, acc, s => do
      let s ← execSeq c f body (s.push x)
      let (y, s) ← s.pop1
      mapLoop c f body xs (y :: acc) s
end

/-- a whole program as `Interpreter.execute` runs it: the type arguments are matched first -/
def run (c : Cfg) (fuel : Nat) (prog : List Instr) (s : State) : M State :=
  if Instr.wfList c prog then execSeq c fuel prog s else .error .fail

/-! ### what the property talks about -/

abbrev TKey := String × Cmp

mutual
  /-- total amount of the tickets of kind `k` held anywhere inside a value -/
  def ticketSum (k : TKey) : Val → Nat
    | .ticket _ tk ct a => if tk = k.1 ∧ ct = k.2 then a else 0
    | .pair l r => ticketSum k l + ticketSum k r
    | .some v => ticketSum k v
    | .list _ xs => ticketSumList k xs
    | .map _ _ _ _ vals _ => ticketSumList k vals
    | .left v _ => ticketSum k v
    | .right _ v => ticketSum k v
    | _ => 0
  def ticketSumList (k : TKey) : List Val → Nat
    | [] => 0
    | x :: xs => ticketSum k x + ticketSumList k xs
end

def State.sum (s : State) (k : TKey) : Nat := ticketSumList k s.items

def mintedSum (k : TKey) : List (String × Cmp × Nat) → Nat
  | [] => 0
  | (tk, ct, a) :: rest => (if tk = k.1 ∧ ct = k.2 then a else 0) + mintedSum k rest

mutual
  /-- no ticket of amount zero anywhere inside -/
  def noZero : Val → Bool
    | .ticket _ _ _ a => a != 0
    | .pair l r => noZero l && noZero r
    | .some v => noZero v
    | .list _ xs => noZeroList xs
    | .map _ _ _ _ vals _ => noZeroList vals
    | .left v _ => noZero v
    | .right _ v => noZero v
    | _ => true
  def noZeroList : List Val → Bool
    | [] => true
    | x :: xs => noZero x && noZeroList xs
end

mutual
  /-- every ticket inside, as (ticketer, contents, amount) — the observable compared with the real interpreter -/
  def tickets : Val → List (String × Cmp × Nat)
    | .ticket _ tk ct a => [(tk, ct, a)]
    | .pair l r => tickets l ++ tickets r
    | .some v => tickets v
    | .list _ xs => ticketsList xs
    | .map _ _ _ _ vals _ => ticketsList vals
    | .left v _ => tickets v
    | .right _ v => tickets v
    | _ => []
  def ticketsList : List Val → List (String × Cmp × Nat)
    | [] => []
    | x :: xs => tickets x ++ ticketsList xs
end

end Impl.Tickets
