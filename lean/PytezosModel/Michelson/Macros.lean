import PytezosModel.Generated.C19
import PytezosModel.Micheline.Basic
/-! Mirror of `src/pytezos/michelson/macros.py`: `expand_macro` with its regex-dispatched handlers, over `Mich`.

What comes from the source on every run (`Generated.C19`): the ordered `@macro(regex)` table (regex text, handler
name, the regex translated to `Pat`), the keys of `prim_tags`, the instruction constants, whether every function body
has the shape this mirror was written against, and which of the two recognised shapes `build_pxr_tree` has
(`pxrValidated`).  A regex outside the modelled fragment, an unknown handler or an unrecognised body make `expand`
answer `Err.unrecognised` (so every theorem about it stops closing).

Python `list` ↦ `Mich.seq`, `dict` ↦ `Mich.prim`/`Mich.int`; `expr(**kw)` drops empty `args`/`annots`, which `Mich.prim`
represents by empty lists.  Annotations are assumed non-empty strings (the lexer's `ANNOT` token). -/
namespace Impl.Macros
open Generated.C19

inductive Err where
  | assertion      -- AssertionError (turned into MichelsonParserError by the parser)
  | indexError     -- IndexError out of `build_pxr_tree` (pinned shape only)
  | unrecognised   -- the source is not what this mirror models
  | fuel           -- recursion bound of the model exhausted (the bound is the length of the name + 1, and every recursive
                   -- call has taken a letter off it)
  deriving DecidableEq, Repr

abbrev M := Except Err

/-! ### the regex fragment (Python `re`, pattern anchored by `^ … $`, `findall`) -/

/-- Python `$` without MULTILINE: at the end, or just before a final newline -/
def endOk (s : List Char) : Bool := s == [] || s == ['\n']

/-- pieces of `s` matched by the successive atoms.  `many` is greedy and never gives back (sound for patterns
passing `detAtoms`); `alts` tries the alternatives in order against the rest of the pattern. -/
def matchAtoms : List Atom → List Char → Option (List (List Char))
  | [], s => if endOk s then some [] else none
  | .lit l :: as, s =>
    if l.isPrefixOf s then (matchAtoms as (s.drop l.length)).map (l :: ·) else none
  | .alts ls :: as, s =>
    ls.findSome? fun l => if l.isPrefixOf s then (matchAtoms as (s.drop l.length)).map (l :: ·) else none
  | .many cs mn :: as, s =>
    let p := s.takeWhile (cs.contains ·)
    if mn ≤ p.length then (matchAtoms as (s.dropWhile (cs.contains ·))).map (p :: ·) else none

def firstChars : Atom → List Char
  | .lit l => l.take 1
  | .alts ls => ls.flatMap (·.take 1)
  | .many cs _ => cs

def nonEmptyAtom : Atom → Bool
  | .lit l => !l.isEmpty
  | .alts ls => ls.all (!·.isEmpty)
  | .many _ mn => 1 ≤ mn

/-- a greedy repetition is always followed by something that cannot start inside its class -/
def detAtoms : List Atom → Bool
  | [] => true
  | [a] => nonEmptyAtom a
  | a :: b :: rest =>
    nonEmptyAtom a && (match a with
      | .many cs _ => (firstChars b).all (!cs.contains ·)
      | _ => true) && detAtoms (b :: rest)

def wfPat (p : Pat) : Bool :=
  detAtoms p.atoms && (match p.group with
    | some (a, n) => a + n ≤ p.atoms.length
    | none => true)

/-- `regexp.findall(prim)` for an anchored pattern: at most one match; its value is the capture group, or the whole
match when the pattern has no group -/
def findall (p : Pat) (s : List Char) : Option (List Char) :=
  (matchAtoms p.atoms s).map fun ps =>
    match p.group with
    | some (a, n) => ((ps.drop a).take n).flatten
    | none => ps.flatten

/-- `for regexp, handler in macros: groups = regexp.findall(prim); if groups: …` — first matching entry -/
def dispatch : List Handler → List Char → M (Option (Handler × List Char))
  | [], _ => pure none
  | h :: hs, s =>
    match h.pat with
    | none => throw .unrecognised
    | some p =>
      if !wfPat p then throw .unrecognised
      else match findall p s with
        | some g => pure (some (h, g))
        | none => dispatch hs s

/-! ### helpers of macros.py -/

def assertThat (b : Bool) : M Unit := if b then pure () else throw .assertion

/-- `expr(prim=…, annots=…, args=…)` -/
def expr (prim : String) (annots : List String) (args : List Mich) : Mich := .prim prim args annots

/-- `seq(instr)` for an instruction that is not `None` -/
def seqM : Mich → Mich
  | .seq xs => .seq xs
  | m => .seq [m]

/-- the elements of `seq(instr)` (for `*seq(instr)`) -/
def seqList : Mich → List Mich
  | .seq xs => xs
  | m => [m]

/-- `dip_n(instr, depth)` -/
def dipN (instr : Mich) (depth : Nat) : Mich :=
  if depth = 0 then instr
  else if depth = 1 then expr "DIP" [] [seqM instr]
  else expr "DIP" [] [.int depth, seqM instr]

def constPrim (name : String) : M Mich :=
  match constPrims.lookup name with
  | some (p, an) => pure (.prim p [] an)
  | none => throw .unrecognised

/-- `FAIL = [[UNIT, FAILWITH]]` -/
def failC : M Mich :=
  match failConst with
  | some names => do
    let xs ← names.mapM constPrim
    pure (.seq [.seq xs])
  | none => throw .unrecognised

def fieldAnnots (annots : List String) : List String := annots.filter (·.front == '%')
def varAnnots (annots : List String) : List String := annots.filter (·.front == '@')

/-! ### pair trees -/

/-- `PxrNode(depth, annots, args, is_root)`, or a leaf letter -/
inductive Pxr where
  | leaf (c : Char)
  | node (depth : Nat) (la ra : Option String) (l r : Pxr) (isRoot : Bool)
  deriving Repr

/-- the local `parse(prim, annots, depth, is_root, leaf)` of `build_pxr_tree`; result
`(tree, annot, rest of prim, rest of annots, depth)`.  `validated` = the repaired shape: a leaf letter must be the
expected one (`A` on the left, `I` on the right). -/
def pxrParse (validated : Bool) : Nat → List Char → List String → Nat → Bool → Option Char →
    M (Pxr × Option String × List Char × List String × Nat)
  | 0, _, _, _, _, _ => throw .fuel
  | _ + 1, [], _, _, _, _ => throw .indexError
  | fuel + 1, letter :: prim, annots, depth, isRoot, leaf =>
    if letter = 'P' then do
      let (l, la, prim, annots, depth') ← pxrParse validated fuel prim annots depth false (some 'A')
      let (r, ra, prim, annots, depth'') ← pxrParse validated fuel prim annots depth' false (some 'I')
      pure (.node depth la ra l r isRoot, none, prim, annots, depth'')
    else do
      if validated then assertThat (some letter == leaf)
      match annots with
      | a :: rest => pure (.leaf letter, some a, prim, rest, depth + 1)
      | [] => pure (.leaf letter, none, prim, [], depth + 1)

def buildPxrTree (name : List Char) (annots : List String) : M Pxr := do
  match pxrValidated with
  | none => throw .unrecognised
  | some validated =>
    let (root, _, rest, _, _) ← pxrParse validated (name.length + 1) name annots 0 true none
    if validated then assertThat (rest == ['R'])
    pure root

/-- nodes in the order `walk` visits them (pre-order), each already wrapped by `dip_n(produce(node), node.depth)` -/
def pxrWalk (produce : Option String → Option String → Bool → Mich) : Pxr → List Mich
  | .leaf _ => []
  | .node d la ra l r isRoot => dipN (produce la ra isRoot) d :: (pxrWalk produce l ++ pxrWalk produce r)

/-- `traverse_pxr_tree`: every visited node is inserted at the front of `res` -/
def traversePxr (name : List Char) (annots : List String) (produce : Option String → Option String → Bool → Mich) :
    M (List Mich) := do
  let t ← buildPxrTree name annots
  pure (pxrWalk produce t).reverse

def pairProduce (annots : List String) (la ra : Option String) (isRoot : Bool) : Mich :=
  let pa : List (Option String) := if la.isSome || ra.isSome then [some (la.getD "%"), ra] else []
  let pa := pa ++ (if isRoot then (varAnnots annots).map some else [])
  expr "PAIR" (pa.filterMap id) []

def unpairProduce (la ra : Option String) (_isRoot : Bool) : Mich :=
  .seq [expr "UNPAIR" ([la, ra].filterMap id) []]

/-- `get_map_cxr_annots` -/
def mapCxrAnnots (annots : List String) : M (String × List String) :=
  match fieldAnnots annots with
  | [] => pure ("%", [])
  | [f] => pure (f, ["@" ++ (f.drop 1).toString])
  | _ => throw .assertion

/-! ### the handlers -/

def expandIfx (prim : List Char) (annots : List String) (args : List Mich) : M Mich := do
  assertThat (args.length == 2)
  pure (.seq [expr (String.ofList prim) annots [], expr "IF" [] args])

def expandIfcmpx (prim : List Char) (annots : List String) (args : List Mich) : M Mich := do
  assertThat (args.length == 2)
  pure (.seq [.seq [← constPrim "COMPARE", expr (String.ofList prim) annots []], expr "IF" [] args])

/-- `handler(groups[0], annots, args)`; `recur p a r` = `expand_macro(prim=p, annots=a, args=r, internal=True)` -/
def runHandler (recur : List Char → List String → List Mich → M Mich) (func : String)
    (prim : List Char) (annots : List String) (args : List Mich) : M Mich :=
  match func with
  | "expand_cmpx" => do
    assertThat args.isEmpty
    pure (.seq [← constPrim "COMPARE", expr (String.ofList prim) annots []])
  | "expand_ifx" => expandIfx prim annots args
  | "expand_ifcmpx" => expandIfcmpx prim annots args
  | "expand_fail" => do
    assertThat annots.isEmpty
    assertThat args.isEmpty
    pure (.seq [← constPrim "UNIT", ← constPrim "FAILWITH"])
  | "expand_assert" => do
    assertThat annots.isEmpty
    assertThat args.isEmpty
    pure (expr "IF" [] [.seq [], ← failC])
  | "expand_assert_x" => do
    assertThat args.isEmpty
    assertThat annots.isEmpty
    expandIfx prim [] [.seq [], ← failC]
  | "expand_assert_cmpx" => do
    assertThat args.isEmpty
    assertThat annots.isEmpty
    expandIfcmpx prim [] [.seq [], ← failC]
  | "expand_assert_none" => do
    assertThat annots.isEmpty
    assertThat args.isEmpty
    pure (expr "IF_NONE" [] [.seq [], ← failC])
  | "expand_assert_some" => do
    assertThat args.isEmpty
    pure (expr "IF_NONE" [] [← failC, .seq [expr "RENAME" annots []]])
  | "expand_assert_left" => do
    assertThat args.isEmpty
    pure (expr "IF_LEFT" [] [.seq [expr "RENAME" annots []], ← failC])
  | "expand_assert_right" => do
    assertThat args.isEmpty
    pure (expr "IF_LEFT" [] [← failC, .seq [expr "RENAME" annots []]])
  | "expand_dixp" => do
    assertThat annots.isEmpty
    assertThat (args.length == 1)
    pure (dipN (.seq args) prim.length)
  | "expand_duxp" => do
    assertThat args.isEmpty
    pure (expr "DUP" annots [.int prim.length])
  | "expand_pxr" => do
    assertThat args.isEmpty
    let res ← traversePxr prim (fieldAnnots annots) (pairProduce annots)
    pure (.seq res)
  | "expand_unpxr" => do
    assertThat args.isEmpty
    let res ← traversePxr prim annots unpairProduce
    pure (.seq res.reverse)
  | "expand_caxr" => do
    assertThat args.isEmpty
    let r ← recur ('C' :: prim ++ ['R']) annots []
    pure (.seq ((← constPrim "CAR") :: seqList r))
  | "expand_cdxr" => do
    assertThat args.isEmpty
    let r ← recur ('C' :: prim ++ ['R']) annots []
    pure (.seq ((← constPrim "CDR") :: seqList r))
  | "expand_if_some" => do
    assertThat annots.isEmpty
    assertThat (args.length == 2)
    pure (expr "IF_NONE" [] args.reverse)
  | "expand_if_right" => do
    assertThat annots.isEmpty
    assertThat (args.length == 2)
    pure (expr "IF_LEFT" [] args.reverse)
  | "expand_set_car" => do
    assertThat args.isEmpty
    pure (.seq [← constPrim "SWAP", expr "UPDATE" annots [.int 1]])
  | "expand_set_cdr" => do
    assertThat args.isEmpty
    pure (.seq [← constPrim "SWAP", expr "UPDATE" annots [.int 2]])
  | "expand_set_caxr" => do
    assertThat args.isEmpty
    let setCxr ← recur ('S' :: 'E' :: 'T' :: '_' :: 'C' :: prim ++ ['R']) (fieldAnnots annots) []
    let pair := expr "PAIR" (["%@", "%@"] ++ varAnnots annots) []
    pure (.seq [← constPrim "DUP", dipN (.seq [← constPrim "CAR__", setCxr]) 1, ← constPrim "CDR__",
      ← constPrim "SWAP", pair])
  | "expand_set_cdxr" => do
    assertThat args.isEmpty
    let setCxr ← recur ('S' :: 'E' :: 'T' :: '_' :: 'C' :: prim ++ ['R']) (fieldAnnots annots) []
    let pair := expr "PAIR" (["%@", "%@"] ++ varAnnots annots) []
    pure (.seq [← constPrim "DUP", dipN (.seq [← constPrim "CDR__", setCxr]) 1, ← constPrim "CAR__", pair])
  | "expand_map_car" => do
    let (carAnnot, varAn) ← mapCxrAnnots annots
    pure (.seq [← constPrim "DUP", ← constPrim "CDR__", dipN (.seq (expr "CAR" varAn [] :: args)) 1,
      ← constPrim "SWAP", expr "PAIR" [carAnnot, "%@"] []])
  | "expand_map_cdr" => do
    let (cdrAnnot, varAn) ← mapCxrAnnots annots
    pure (.seq ([← constPrim "DUP", expr "CDR" varAn []] ++ args ++
      [← constPrim "SWAP", ← constPrim "CAR__", expr "PAIR" ["%@", cdrAnnot] []]))
  | "expand_map_caxr" => do
    let mapCxr ← recur ('M' :: 'A' :: 'P' :: '_' :: 'C' :: prim ++ ['R']) (fieldAnnots annots) args
    let pair := expr "PAIR" (["%@", "%@"] ++ varAnnots annots) []
    pure (.seq [← constPrim "DUP", dipN (.seq [← constPrim "CAR__", mapCxr]) 1, ← constPrim "CDR__",
      ← constPrim "SWAP", pair])
  | "expand_map_cdxr" => do
    let mapCxr ← recur ('M' :: 'A' :: 'P' :: '_' :: 'C' :: prim ++ ['R']) (fieldAnnots annots) args
    let pair := expr "PAIR" (["%@", "%@"] ++ varAnnots annots) []
    pure (.seq [← constPrim "DUP", dipN (.seq [← constPrim "CDR__", mapCxr]) 1, ← constPrim "CAR__", pair])
  | _ => throw .unrecognised

/-- `expand_macro(prim, annots, args, internal)`; the first argument bounds the depth of the internal recursion
(`C…R`, `SET_C…R`, `MAP_C…R` call `expand_macro` on a shorter name) -/
def expand : Nat → List Char → List String → List Mich → Bool → M Mich
  | 0, _, _, _, _ => throw .fuel
  | fuel + 1, prim, annots, args, internal => do
    if !coreOk then throw .unrecognised
    match primTags with
    | none => throw .unrecognised
    | some tags =>
      if tags.contains prim then pure (expr (String.ofList prim) annots args)
      else match ← dispatch handlers prim with
        | none => throw .assertion          -- unknown primitive
        | some (h, g) =>
          if h.shape != some 0 then throw .unrecognised
          else do
            let res ← runHandler (fun p a r => expand fuel p a r true) h.func g annots args
            pure (if internal then res else seqM res)

/-- what the parser calls for a `PRIM` token that is not in `prim_tags` (and, harmlessly, for one that is) -/
def expandMacro (prim : List Char) (annots : List String) (args : List Mich) : M Mich :=
  expand (prim.length + 1) prim annots args false

/-- the name is not a key of `prim_tags`, and `expand_macro` accepts it without annotations for some number (0, 1 or 2)
of code arguments -/
def acceptsName (prim : List Char) : Bool :=
  match primTags with
  | none => false
  | some tags =>
    !tags.contains prim && [0, 1, 2].any fun k =>
      match expandMacro prim [] (List.replicate k (.seq [])) with
      | .ok _ => true
      | .error _ => false

end Impl.Macros
