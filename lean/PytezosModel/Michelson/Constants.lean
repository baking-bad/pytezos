import PytezosModel.Micheline.Basic
import PytezosModel.Generated.C33
/-! Mirror of `ExecutionContext.resolve_global_constants` (src/pytezos/context/impl.py) over `Mich`, and the
reference meaning of expanding global constants.

The registry (`ExecutionContext.global_constants`, a dict hash → expression) is an association list; `List.lookup`
returns the first entry, so the driver conses every registration in front (a later `dict[k] = v` wins).
The hash itself (`register_global_constant`: base58 `expr` of BLAKE2b-256 of the forged Micheline) is not computed
here but in `ConstantsKey.lean` — the harness recomputes it independently. -/

abbrev Registry := List (String × Mich)

namespace Impl.Constants
open Generated.C33

inductive Err where
  | unknown (h : String)      -- KeyError('Constant … is not defined')
  | badConstant               -- ValueError('Unexpected constant expression') (TypeError when the argument is a sequence)
  | recursion                 -- RecursionError: the references never bottom out
  | unrecognisedSource
  deriving DecidableEq, Repr

/-- `node['args'][i]['string']`; `none` = KeyError / IndexError / TypeError -/
def hashOf (S : ResolveShape) (args : List Mich) : Option String :=
  match args[S.hashArg]? with
  | some (.str h) => if S.hashField == "string" then some h else none
  | _ => none

mutual
  /-- `_resolve(node)`, with the continuation `k` standing for `_resolve_constant` after the hash has been read -/
  def expandWith (S : ResolveShape) (k : String → Except Err Mich) : Mich → Except Err Mich
    | .prim p args an =>
      if p == S.constPrim then                   -- `node.get('prim') == 'constant'`
        match hashOf S args with
        | some h => k h
        | none => .error .badConstant
      else if args.isEmpty then .ok (.prim p args an)   -- `elif node.get('args')` is falsy: node returned as is
      else
        match expandList S k args with           -- `list(map(_resolve, node['args']))`, other keys (annots) kept
        | .ok args' => .ok (.prim p args' an)
        | .error e => .error e
    | .seq xs =>
      match expandList S k xs with
      | .ok xs' => .ok (.seq xs')
      | .error e => .error e
    | m => .ok m
  def expandList (S : ResolveShape) (k : String → Except Err Mich) : List Mich → Except Err (List Mich)
    | [] => .ok []
    | x :: xs =>
      match expandWith S k x with
      | .error e => .error e
      | .ok x' =>
        match expandList S k xs with
        | .error e => .error e
        | .ok xs' => .ok (x' :: xs')
end

/-- `_resolve` with `_resolve_constant` unfolded: an unknown hash raises, a known one is looked up and its value is
expanded in turn; `fuel` bounds the chain of lookups (a cyclic registry ends in RecursionError) -/
def resolveFuel (S : ResolveShape) (reg : Registry) : Nat → Mich → Except Err Mich
  | 0, e => expandWith S (fun h =>
      match reg.lookup h with
      | none => .error (.unknown h)
      | some _ => .error .recursion) e
  | n + 1, e => expandWith S (fun h =>
      match reg.lookup h with
      | none => .error (.unknown h)
      | some v => resolveFuel S reg n v) e

/-- `ExecutionContext.resolve_global_constants(expression)` -/
def resolve (reg : Registry) (e : Mich) : Except Err Mich :=
  match resolveShape with
  | some S => resolveFuel S reg reg.length e
  | none => .error .unrecognisedSource

end Impl.Constants

namespace Spec.Constants

/-- a reference to a global constant: `constant "<hash>"`, one string argument, no annotation -/
def refOf : Mich → Option String
  | .prim p [.str h] [] => if p = "constant" then some h else none
  | _ => none

mutual
  /-- replace every reference `h` for which `g h = some r` by `r`; everything else (annotations included) is kept.
  A node named `constant` that is not a well-formed reference is left untouched. -/
  def substWith (g : String → Option Mich) : Mich → Mich
    | .prim p args an =>
      if p = "constant" then
        match (refOf (.prim p args an)).bind g with
        | some r => r
        | none => .prim p args an
      else .prim p (substWithList g args) an
    | .seq xs => .seq (substWithList g xs)
    | m => m
  def substWithList (g : String → Option Mich) : List Mich → List Mich
    | [] => []
    | x :: xs => substWith g x :: substWithList g xs
end

/-- one round of substitution: each registered reference becomes the registered expression as registered -/
def subst1 (reg : Registry) : Mich → Mich := substWith fun h => reg.lookup h

def iter (f : Mich → Mich) : Nat → Mich → Mich
  | 0, e => e
  | n + 1, e => iter f n (f e)

/-- the fixpoint substitution: for an acyclic registry `reg.length` rounds reach it (`C33.resolve_fixpoint`) -/
def subst (reg : Registry) (e : Mich) : Mich := iter (subst1 reg) reg.length e

mutual
  /-- no node named `constant` -/
  def noConstant : Mich → Bool
    | .prim p args _ => p != "constant" && noConstantList args
    | .seq xs => noConstantList xs
    | _ => true
  def noConstantList : List Mich → Bool
    | [] => true
    | x :: xs => noConstant x && noConstantList xs
end

mutual
  /-- hashes referenced directly by an expression -/
  def refs : Mich → List String
    | .prim p args an =>
      if p = "constant" then
        match refOf (.prim p args an) with
        | some h => [h]
        | none => []
      else refsList args
    | .seq xs => refsList xs
    | _ => []
  def refsList : List Mich → List String
    | [] => []
    | x :: xs => refs x ++ refsList xs
end

mutual
  /-- every node named `constant` is a well-formed reference -/
  def wf : Mich → Bool
    | .prim p args an => if p = "constant" then (refOf (.prim p args an)).isSome else wfList args
    | .seq xs => wfList xs
    | _ => true
  def wfList : List Mich → Bool
    | [] => true
    | x :: xs => wf x && wfList xs
end

/-- `h` is referenced by `e` directly or through registered constants -/
inductive Reach (reg : Registry) (e : Mich) : String → Prop where
  | direct {h : String} : h ∈ refs e → Reach reg e h
  | step {h0 h : String} {v : Mich} : Reach reg e h0 → reg.lookup h0 = some v → h ∈ refs v → Reach reg e h

/-- the reference graph of the registry has no cycle: its hashes can be numbered below the registry size so that every
registered expression only refers to registered hashes of a smaller number (a topological numbering) -/
def Acyclic (reg : Registry) : Prop :=
  ∃ rank : String → Nat, ∀ h v, reg.lookup h = some v →
    rank h < reg.length ∧ ∀ h' ∈ refs v, reg.lookup h' ≠ none → rank h' < rank h

/-- everything `e` reaches is a well-formed script fragment -/
def WellFormed (reg : Registry) (e : Mich) : Prop :=
  wf e = true ∧ ∀ h v, Reach reg e h → reg.lookup h = some v → wf v = true

/-- every hash `e` reaches is registered -/
def AllRegistered (reg : Registry) (e : Mich) : Prop := ∀ h, Reach reg e h → reg.lookup h ≠ none

end Spec.Constants
