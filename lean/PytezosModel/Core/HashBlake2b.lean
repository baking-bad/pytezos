import PytezosModel.Core.HashSha2
/-! BLAKE2b (RFC 7693) with a 32-byte digest and no key — `blake2b(v, digest_size=32)` of `pytezos.crypto.key.blake2b_32`.
Written to be executed, as `HashSha2.lean`; proved about it: the shape of the digest (`Crypto/RealHash.lean`) and the
equality with a version over `Nat` (`Proofs/HashBlake2bNat.lean`), not that it is BLAKE2b. -/
namespace Core.Hash

def blake2bIV : Array UInt64 := #[0x6a09e667f3bcc908, 0xbb67ae8584caa73b, 0x3c6ef372fe94f82b, 0xa54ff53a5f1d36f1,
  0x510e527fade682d1, 0x9b05688c2b3e6c1f, 0x1f83d9abfb41bd6b, 0x5be0cd19137e2179]

def blake2bSigma : Array (Array Nat) := #[
  #[0, 1, 2, 3, 4, 5, 6, 7, 8, 9, 10, 11, 12, 13, 14, 15], #[14, 10, 4, 8, 9, 15, 13, 6, 1, 12, 0, 2, 11, 7, 5, 3],
  #[11, 8, 12, 0, 5, 2, 15, 13, 10, 14, 3, 6, 7, 1, 9, 4], #[7, 9, 3, 1, 13, 12, 11, 14, 2, 6, 5, 10, 4, 0, 15, 8],
  #[9, 0, 5, 7, 2, 4, 10, 15, 14, 1, 11, 12, 6, 8, 3, 13], #[2, 12, 6, 10, 0, 11, 8, 3, 4, 13, 7, 5, 15, 14, 1, 9],
  #[12, 5, 1, 15, 14, 13, 4, 10, 0, 7, 6, 3, 9, 2, 8, 11], #[13, 11, 7, 14, 12, 1, 3, 9, 5, 0, 15, 4, 8, 6, 2, 10],
  #[6, 15, 14, 9, 11, 3, 0, 8, 12, 2, 13, 7, 1, 4, 10, 5], #[10, 2, 8, 4, 7, 6, 1, 5, 15, 11, 9, 14, 3, 12, 13, 0],
  #[0, 1, 2, 3, 4, 5, 6, 7, 8, 9, 10, 11, 12, 13, 14, 15], #[14, 10, 4, 8, 9, 15, 13, 6, 1, 12, 0, 2, 11, 7, 5, 3]]

def le64At (b : ByteArray) (i : Nat) : UInt64 := Id.run do
  let mut x : UInt64 := 0
  for j in [0:8] do
    x := x ||| ((b.get! (i + j)).toUInt64 <<< (8 * j).toUInt64)
  return x

def leBytes (w : Nat) (n : Nat) : List Nat := (List.range w).map fun i => (n >>> (8 * i)) % 256

@[inline] def blakeG (v : Array UInt64) (a b c d : Nat) (x y : UInt64) : Array UInt64 := Id.run do
  let mut v := v
  v := v.set! a (v[a]! + v[b]! + x)
  v := v.set! d (rotr64 (v[d]! ^^^ v[a]!) 32)
  v := v.set! c (v[c]! + v[d]!)
  v := v.set! b (rotr64 (v[b]! ^^^ v[c]!) 24)
  v := v.set! a (v[a]! + v[b]! + y)
  v := v.set! d (rotr64 (v[d]! ^^^ v[a]!) 16)
  v := v.set! c (v[c]! + v[d]!)
  v := v.set! b (rotr64 (v[b]! ^^^ v[c]!) 63)
  return v

/-- compression of one 128-byte block at `off`; `t` = bytes hashed so far (including this block), `last` = final block -/
def blake2bCompress (h : Array UInt64) (blk : ByteArray) (off : Nat) (t : Nat) (last : Bool) : Array UInt64 := Id.run do
  let mut m : Array UInt64 := Array.mkEmpty 16
  for i in [0:16] do
    m := m.push (le64At blk (off + 8 * i))
  let mut v : Array UInt64 := h ++ blake2bIV
  v := v.set! 12 (v[12]! ^^^ (t % 2 ^ 64).toUInt64)
  v := v.set! 13 (v[13]! ^^^ (t / 2 ^ 64).toUInt64)
  if last then v := v.set! 14 (~~~ v[14]!)
  for r in [0:12] do
    let s := blake2bSigma[r]!
    v := blakeG v 0 4 8 12 m[s[0]!]! m[s[1]!]!
    v := blakeG v 1 5 9 13 m[s[2]!]! m[s[3]!]!
    v := blakeG v 2 6 10 14 m[s[4]!]! m[s[5]!]!
    v := blakeG v 3 7 11 15 m[s[6]!]! m[s[7]!]!
    v := blakeG v 0 5 10 15 m[s[8]!]! m[s[9]!]!
    v := blakeG v 1 6 11 12 m[s[10]!]! m[s[11]!]!
    v := blakeG v 2 7 8 13 m[s[12]!]! m[s[13]!]!
    v := blakeG v 3 4 9 14 m[s[14]!]! m[s[15]!]!
  let mut out : Array UInt64 := Array.mkEmpty 8
  for i in [0:8] do
    out := out.push (h[i]! ^^^ v[i]! ^^^ v[i + 8]!)
  return out

/-- BLAKE2b, unkeyed, `outlen`-byte digest (1 ≤ outlen ≤ 64) -/
def blake2b (outlen : Nat) (msg : List Nat) : List Nat := Id.run do
  let l := msg.length
  let nblocks := if l = 0 then 1 else (l + 127) / 128
  let b := toBytes (msg ++ List.replicate (128 * nblocks - l) 0)
  let mut h := blake2bIV
  h := h.set! 0 (h[0]! ^^^ (0x01010000 ^^^ outlen).toUInt64)
  for i in [0:nblocks] do
    let last := i + 1 == nblocks
    h := blake2bCompress h b (128 * i) (if last then l else 128 * (i + 1)) last
  return (h.toList.flatMap fun x => leBytes 8 x.toNat).take outlen

def blake2b32 (msg : List Nat) : List Nat := blake2b 32 msg

end Core.Hash
