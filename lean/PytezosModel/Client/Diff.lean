import PytezosModel.Generated.C30
/-! Mirror of `make_patch` / `apply_patch` (src/pytezos/protocol/diff.py) and of the file-wise
`Protocol.diff` / `Protocol.patch` (src/pytezos/protocol/protocol.py).

A string is a `List Char`; a line is a `List Char` *including* its terminating `'\n'` when it has one (exactly the
elements of Python's `str.splitlines(True)`), so `patch[i][0]`, `line[:-1]`, `line[1:]` are `head?`, `dropLast`, `tail`.
Only `'\n'` is a line boundary (texts containing `\r`, `\v`, `\f`, `\x1c`-`\x1e`, `\x85`, U+2028, U+2029 are outside the
domain).  `difflib.unified_diff` is *not* modelled: `Spec.Diff.unifiedDiff` states what it yields for an edit script. -/
namespace Impl.Diff

abbrev Line := List Char

inductive Err
  | regexMismatch   -- ValueError('Regex mismatch on line …')
  | badLineNum      -- ValueError('Bad line num …')
  | typeError       -- `proto()` on an object that is not callable
  | unrecognised    -- the source no longer has a shape the translator knows
  deriving DecidableEq, Repr

/-- what the translator read from the source: the no-newline marker and the `(midx, sign)` pairs -/
structure Config where
  noEol : List Char
  fwd : Nat × Char
  rev : Nat × Char
  deriving DecidableEq, Repr

def modelledHdrPattern : List Char :=
  ['^', '@', '@', ' ', '-', '(', '\\', 'd', '+', ')', ',', '?', '(', '\\', 'd', '+', ')', '?', ' ', '\\', '+', '(', '\\', 'd', '+', ')',
   ',', '?', '(', '\\', 'd', '+', ')', '?', ' ', '@', '@', '$']

def config : Option Config :=
  match Generated.C30.noEol, Generated.C30.hdrPattern, Generated.C30.fwd, Generated.C30.rev with
  | some m, some p, some f, some r =>
    if p = modelledHdrPattern && Generated.C30.makePatchShape && Generated.C30.applyPatchShape then some ⟨m, f, r⟩ else none
  | _, _, _, _ => none

/-! ### `str.splitlines(True)` / `''.join` -/

/-- `s.splitlines(True)` for a text whose only line boundary is `'\n'` -/
def splitLines : List Char → List Line
  | [] => []
  | c :: cs =>
    if c = '\n' then ['\n'] :: splitLines cs
    else match splitLines cs with
      | [] => [[c]]
      | l :: ls => (c :: l) :: ls

/-- `''.join(lines)` -/
def join (ls : List Line) : List Char := ls.flatten

/-! ### `make_patch` (the part after `difflib.unified_diff`) -/

/-- `lambda x: x if x[-1] == '\n' else x + '\n' + _no_eol + '\n'` -/
def fixEol (cfg : Config) (x : Line) : List Char :=
  if x.getLast? = some '\n' then x else x ++ '\n' :: (cfg.noEol ++ ['\n'])

/-- `''.join(map(fixEol, diffs))` -/
def makePatchWith (cfg : Config) (diffs : List Line) : List Char := (diffs.map (fixEol cfg)).flatten

/-! ### `apply_patch` -/

def spanDigits : List Char → List Char × List Char
  | [] => ([], [])
  | c :: cs =>
    if c.isDigit then
      let r := spanDigits cs
      (c :: r.1, r.2)
    else ([], c :: cs)

/-- `int(s)` for a string of ASCII digits -/
def parseNat (ds : List Char) : Nat := ds.foldl (fun a c => a * 10 + (c.toNat - 48)) 0

def stripPrefix : List Char → List Char → Option (List Char)
  | [], s => some s
  | _ :: _, [] => none
  | p :: ps, c :: cs => if p = c then stripPrefix ps cs else none

/-- the optional `,` between the two groups -/
def dropComma : List Char → List Char
  | ',' :: r => r
  | r => r

/-- `(\d+),?(\d+)?` at the start of `cs`: first number, the optional second group (as text), the rest.
Greedy matching is deterministic here: a shorter first group never lets the pattern succeed where the longest fails. -/
def parseRange (cs : List Char) : Option (Nat × Option (List Char) × List Char) :=
  let d1 := spanDigits cs
  if d1.1.isEmpty then none
  else
    let d2 := spanDigits (dropComma d1.2)
    some (parseNat d1.1, if d2.1.isEmpty then none else some d2.1, d2.2)

/-- `_hdr_pat.match(line)`: groups 1..4 (`$` also matches before a final `'\n'`) -/
def parseHeader (line : Line) : Option (Nat × Option (List Char) × Nat × Option (List Char)) :=
  match stripPrefix ['@', '@', ' ', '-'] line with
  | none => none
  | some r =>
    match parseRange r with
    | none => none
    | some (n1, g2, r) =>
      match stripPrefix [' ', '+'] r with
      | none => none
      | some r =>
        match parseRange r with
        | none => none
        | some (n3, g4, r) =>
          match stripPrefix [' ', '@', '@'] r with
          | none => none
          | some r => if r = [] ∨ r = ['\n'] then some (n1, g2, n3, g4) else none

/-- `int(match.group(midx)) - 1 + (match.group(midx + 1) == '0')` -/
def hunkStart (n : Nat) (g : Option (List Char)) : Int :=
  (n : Int) - 1 + (if g = some ['0'] then 1 else 0)

/-- the effect of one hunk body line on `(target, sl)` -/
def bodyLine (sign : Char) (line : Line) (target : List Char) (sl : Nat) : List Char × Nat :=
  match line with
  | [] => (target, sl)
  | c :: tl => (if c = sign ∨ c = ' ' then target ++ tl else target, if c = sign then sl else sl + 1)

/-- the two nested `while` loops over the patch lines (they share the index `i`, so they are one pass):
`inHunk = false` only before the first hunk header; a line is taken as a hunk header when no hunk has been
opened yet or when it starts with `'@'`, otherwise it is a body line of the current hunk. -/
def go (source : List Line) (midx : Nat) (sign : Char) : Bool → List Line → List Char → Nat → Except Err (List Char)
  | _, [], target, sl => .ok (target ++ join (source.drop sl))
  | inHunk, p :: rest, target, sl =>
    if !inHunk || p.head? == some '@' then
      match parseHeader p with
      | none => .error .regexMismatch
      | some (n1, g2, n3, g4) =>
        if midx ≠ 1 ∧ midx ≠ 3 then .error .unrecognised
        else
          let l : Int := if midx = 1 then hunkStart n1 g2 else hunkStart n3 g4
          if (sl : Int) > l ∨ l > (source.length : Int) then .error .badLineNum
          else go source midx sign true rest (target ++ join ((source.drop sl).take (l.toNat - sl))) l.toNat
    else
      match rest with
      | [] =>
        let st := bodyLine sign p target sl
        go source midx sign true [] st.1 st.2
      | q :: rest' =>
        if q.head? = some '\\' then
          let st := bodyLine sign p.dropLast target sl
          go source midx sign true rest' st.1 st.2
        else
          let st := bodyLine sign p target sl
          go source midx sign true (q :: rest') st.1 st.2

def isFileHeader (l : Line) : Bool :=
  (stripPrefix ['-', '-', '-'] l).isSome || (stripPrefix ['+', '+', '+'] l).isSome

/-- `apply_patch` after the two `splitlines(True)` -/
def applyLinesWith (cfg : Config) (source patch : List Line) (revert : Bool) : Except Err (List Char) :=
  let ms := if revert then cfg.rev else cfg.fwd
  go source ms.1 ms.2 false (patch.dropWhile isFileHeader) [] 0

/-- `apply_patch(source, patch, revert)` -/
def applyPatchWith (cfg : Config) (source patch : List Char) (revert : Bool) : Except Err (List Char) :=
  applyLinesWith cfg (splitLines source) (splitLines patch) revert

/-! ### the functions of the tree under test -/

def withConfig {α : Type} (f : Config → Except Err α) : Except Err α :=
  match config with
  | some c => f c
  | none => .error .unrecognised

def makePatch (diffs : List Line) : Except Err (List Char) := withConfig fun c => .ok (makePatchWith c diffs)

def applyPatch (source patch : List Char) (revert : Bool) : Except Err (List Char) :=
  withConfig fun c => applyPatchWith c source patch revert

end Impl.Diff

/-! What `difflib.unified_diff` yields (modelled, not verified: the contract is checked per case by the
correspondence, which parses the real output into a `Script` and compares it with this rendering). -/
namespace Spec.Diff
open Impl.Diff

/-- one line of a hunk -/
inductive Op
  | ctx (l : Line)   -- in both texts
  | del (l : Line)   -- only in the old text
  | add (l : Line)   -- only in the new text
  deriving DecidableEq, Repr

/-- an edit script: stretches copied unchanged (outside every hunk) and hunks -/
inductive Seg
  | keep (ls : List Line)
  | hunk (ops : List Op)
  deriving Repr

abbrev Script := List Seg

def Op.line : Op → Line
  | .ctx l => l
  | .del l => l
  | .add l => l

def Op.tag : Op → Char
  | .ctx _ => ' '
  | .del _ => '-'
  | .add _ => '+'

def oldLines : List Op → List Line
  | [] => []
  | .add _ :: r => oldLines r
  | o :: r => o.line :: oldLines r

def newLines : List Op → List Line
  | [] => []
  | .del _ :: r => newLines r
  | o :: r => o.line :: newLines r

/-- the old text of a script (as lines) -/
def oldOf : Script → List Line
  | [] => []
  | .keep ls :: r => ls ++ oldOf r
  | .hunk ops :: r => oldLines ops ++ oldOf r

/-- the new text of a script (as lines) -/
def newOf : Script → List Line
  | [] => []
  | .keep ls :: r => ls ++ newOf r
  | .hunk ops :: r => newLines ops ++ newOf r

def digitChar (d : Nat) : Char := Char.ofNat (48 + d)

/-- decimal numeral -/
def digits (n : Nat) : List Char :=
  if n < 10 then [digitChar n] else digits (n / 10) ++ [digitChar (n % 10)]
termination_by n
decreasing_by omega

/-- `difflib._format_range_unified(start, start + count)` -/
def fmtRange (start count : Nat) : List Char :=
  if count = 1 then digits (start + 1)
  else digits (if count = 0 then start else start + 1) ++ ',' :: digits count

def hunkHeader (a ca b cb : Nat) : Line :=
  ['@', '@', ' ', '-'] ++ fmtRange a ca ++ [' ', '+'] ++ fmtRange b cb ++ [' ', '@', '@', '\n']

/-- a hunk line as yielded by difflib: tag + the line itself (which may lack its `'\n'`) -/
def opLine (o : Op) : Line := o.tag :: o.line

/-- hunks of a script; `a`, `b` = number of old / new lines before the current segment -/
def hunkLines : Script → Nat → Nat → List Line
  | [], _, _ => []
  | .keep ls :: r, a, b => hunkLines r (a + ls.length) (b + ls.length)
  | .hunk ops :: r, a, b =>
    hunkHeader a (oldLines ops).length b (newLines ops).length :: (ops.map opLine ++
      hunkLines r (a + (oldLines ops).length) (b + (newLines ops).length))

/-- the lines `difflib.unified_diff(old, new, fromfile=fname, tofile=fname, n=…)` yields when its hunks are those of `s`
(nothing at all when there is no hunk) -/
def unifiedDiff (fname : List Char) (s : Script) : List Line :=
  match hunkLines s 0 0 with
  | [] => []
  | body => (['-', '-', '-', ' '] ++ fname ++ ['\n']) :: (['+', '+', '+', ' '] ++ fname ++ ['\n']) :: body

end Spec.Diff

/-! ### `Protocol.diff` / `Protocol.patch`, file-wise (`files_to_proto` / `proto_to_files` are not modelled) -/
namespace Impl.Diff
open Spec.Diff

abbrev Files := List (List Char × List Char)

/-- `dict(files).get(name, '')` -/
def lookup (files : Files) (name : List Char) : List Char :=
  match files.reverse.find? (fun f => f.1 = name) with
  | some f => f.2
  | none => []

/-- is an argument of type `Protocol` accepted where `diff()` / `patch()` call it? -/
def protocolArg : Except Err Unit :=
  match Generated.C30.protocolCallable with
  | some true => .ok ()
  | some false => .error .typeError
  | none => .error .unrecognised

/-- `Protocol.diff`: one patch per file of `theirs`; each entry of `theirs` carries, with the file name, the edit script
`difflib` finds between `yours.get(filename, '')` and their text -/
def protocolDiff (theirs : List (List Char × Script)) : Except Err Files :=
  if !Generated.C30.protocolDiffShape then .error .unrecognised
  else match protocolArg with
    | .error e => .error e
    | .ok () => theirs.mapM fun (name, s) => (makePatch (unifiedDiff name s)).map fun p => (name, p)

/-- `Protocol.patch` -/
def protocolPatch (yours : Files) (diff : Files) : Except Err Files :=
  if !Generated.C30.protocolPatchShape then .error .unrecognised
  else match protocolArg with
    | .error e => .error e
    | .ok () => diff.mapM fun (name, d) =>
        if d.isEmpty then .ok (name, lookup yours name)
        else (applyPatch (lookup yours name) d false).map fun t => (name, t)

end Impl.Diff
