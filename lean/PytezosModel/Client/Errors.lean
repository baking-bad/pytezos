import PytezosModel.Generated.C27
/-! Mirror of `_gen_error_variants`, the `RpcError.__handlers__` registry and `RpcError.from_errors`
(src/pytezos/rpc/node.py).  Strings are lists of character codes; an error is reduced to its `id` (the only entry
the mapping looks at).  Which shape `_gen_error_variants` has, the separator, the `proto` literal and the registry
come from `Generated.C27`. -/
namespace Impl.Errors

abbrev Str := List Nat

/-- Python `s.split(sep)` for a one-character separator: never empty -/
def split (sep : Nat) : Str → List Str
  | [] => [[]]
  | c :: cs =>
    if c = sep then [] :: split sep cs
    else
      match split sep cs with
      | [] => [[c]]                 -- unreachable (`split` is never empty), kept total
      | h :: t => (c :: h) :: t

/-- Python `sep.join(chunks)` -/
def join (sep : Nat) : List Str → Str
  | [] => []
  | [x] => x
  | x :: y :: rest => x ++ sep :: join sep (y :: rest)

/-- pinned tree:
```
chunks = error_id.split('.'); variants = [error_id]
if len(chunks) > 1:
    variants.append(chunks[-2])
    if len(chunks) > 2: variants.append('.'.join(chunks[2:]))
``` -/
def variantsPinned (sep : Nat) (id : Str) : List Str :=
  let chunks := split sep id
  [id] ++
    (if 1 < chunks.length then
      chunks[chunks.length - 2]?.toList ++ (if 2 < chunks.length then [join sep (chunks.drop 2)] else [])
     else [])

/-- repaired:
```
chunks = error_id.split('.')
if chunks[0] == 'proto' and len(chunks) > 2: chunks = chunks[2:]
return [error_id, '.'.join(chunks), chunks[-1], chunks[0]]
```
(`chunks[-1]` / `chunks[0]` cannot fail: `split` is never empty and the slice keeps at least one chunk) -/
def variantsRepaired (sep : Nat) (proto : Str) (id : Str) : List Str :=
  let chunks := split sep id
  let chunks := if chunks.head? = some proto ∧ 2 < chunks.length then chunks.drop 2 else chunks
  [id, join sep chunks] ++ chunks.getLast?.toList ++ chunks.head?.toList

/-- what the translator recognised of `_gen_error_variants` -/
inductive Variants
  | pinned (sep : Nat)
  | repaired (sep : Nat) (proto : Str)
  deriving DecidableEq, Repr

def Variants.apply : Variants → Str → List Str
  | .pinned sep, id => variantsPinned sep id
  | .repaired sep proto, id => variantsRepaired sep proto id

/-- dict semantics of `cls.__handlers__[eid] = cls`: a later registration of the same key wins -/
def lookup {κ : Type} : List (Str × κ) → Str → Option κ
  | [], _ => none
  | (k', c) :: rest, k =>
    match lookup rest k with
    | some c' => some c'
    | none => if k' = k then some c else none

/-- `for key in variants: if key in handlers: return handlers[key]` -/
def firstRegistered {κ : Type} (reg : List (Str × κ)) : List Str → Option κ
  | [] => none
  | k :: ks =>
    match lookup reg k with
    | some c => some c
    | none => firstRegistered reg ks

/-- the exception `from_errors` builds: its class and the index of the error it is built from -/
inductive Raised (κ : Type)
  | unspecified                       -- RpcError('Unspecified error')
  | handler (cls : κ) (idx : Nat)     -- handler(errors[idx])
  | generic (idx : Nat)               -- RpcError(errors[idx])
  deriving DecidableEq, Repr

/-- `RpcError.from_errors(errors)`, `ids` = the `id` of each error -/
def fromErrors {κ : Type} (v : Variants) (reg : List (Str × κ)) (ids : List Str) : Raised κ :=
  match ids.getLast? with
  | none => .unspecified
  | some id =>
    match firstRegistered reg (v.apply id) with
    | some c => .handler c (ids.length - 1)
    | none => .generic (ids.length - 1)

/-- the recognised shape of `_gen_error_variants` with its literals -/
def variantsFn : Option Variants := do
  let sep ← Generated.C27.separator
  match ← Generated.C27.variantShape with
  | .pinned => some (.pinned sep)
  | .repaired => do
    let proto ← Generated.C27.protoLiteral
    some (.repaired sep proto)

/-- `_gen_error_variants(error_id)` of the tree under test -/
def variants (id : Str) : Option (List Str) := variantsFn.map fun v => v.apply id

/-- `RpcError.from_errors` of the tree under test with the registry of the tree under test -/
def classify (ids : List Str) : Option (Raised Generated.C27.Cls) := do
  let v ← variantsFn
  let reg ← Generated.C27.registry
  if Generated.C27.fromErrorsRecognised then some (fromErrors v reg ids) else none

end Impl.Errors

/-! What property C27 demands.  An identifier is a non-empty list of dot-free components
`proto.<protocol>.<category>.<name>` or a shorter / longer form. -/
namespace Spec.Errors
open Impl.Errors (Str join lookup)

def dot : Nat := 46
/-- "proto" -/
def proto : Str := [112, 114, 111, 116, 111]

/-- the components after the `proto.<protocol>.` prefix (the prefix is present when the first component is `proto`
and something follows the protocol name) -/
def stripProto : List Str → List Str
  | p :: q :: c :: rest => if p = proto then c :: rest else p :: q :: c :: rest
  | cs => cs

/-- the identifier itself -/
def fullId (cs : List Str) : Str := join dot cs
/-- the identifier without its protocol prefix -/
def withoutProto (cs : List Str) : Str := join dot (stripProto cs)
/-- its final component -/
def finalComponent (cs : List Str) : Option Str := (stripProto cs).getLast?
/-- its category: the first component after the protocol prefix -/
def category (cs : List Str) : Option Str := (stripProto cs).head?

/-- the keys an identifier matches, most specific first -/
def variants (cs : List Str) : List Str :=
  [fullId cs, withoutProto cs] ++ (finalComponent cs).toList ++ (category cs).toList

/-- the key of specificity rank `n` (0 = full id … 3 = category) of the identifier, if it has one -/
def keyAt (cs : List Str) (n : Nat) : Option Str := (variants cs)[n]?

/-- the class of the most specific registered key: the registered key of least rank -/
def MostSpecific {κ : Type} (reg : List (Str × κ)) (cs : List Str) (c : κ) : Prop :=
  ∃ n k, keyAt cs n = some k ∧ lookup reg k = some c ∧ ∀ m, m < n → ∀ k', keyAt cs m = some k' → lookup reg k' = none

def NoneRegistered {κ : Type} (reg : List (Str × κ)) (cs : List Str) : Prop :=
  ∀ k ∈ variants cs, lookup reg k = none

end Spec.Errors
